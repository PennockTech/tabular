/-
  Line-protocol interpreter over the L1 model.  One output line per input line.
  The Go harness (harness/) executes the same lines on the real library and prints
  its own observations in the same format; tools/ diffs the two streams.
-/
import Tabmodel
import Std.Data.HashMap
open Tab

structure St where
  w : World := {}
  dwT : Std.HashMap Bytes Nat := {}
  jsT : Std.HashMap Bytes Bytes := {}
  reg : Registry := []
  heavy : Decoration := {}
  wrappers : Array Wrapper := #[]
  ecs : Array (Option (List Nat)) := #[]   -- standalone containers: none = nil pointer
  handles : Array (Nat × Nat) := #[]       -- column handles taken earlier: (table, n)
  dwMiss : Array Bytes := #[]

/-! ### encoding helpers (must match harness/proto.go) -/

def hexDigit (n : Nat) : Char := if n < 10 then Char.ofNat (48 + n) else Char.ofNat (87 + n)

def hexOf (b : Bytes) : String :=
  if b.isEmpty then "-" else
  String.ofList (b.flatMap (fun x => [hexDigit (x.toNat / 16), hexDigit (x.toNat % 16)]))

def hexVal (c : Char) : Option Nat :=
  if '0' ≤ c ∧ c ≤ '9' then some (c.toNat - 48)
  else if 'a' ≤ c ∧ c ≤ 'f' then some (c.toNat - 87)
  else none

partial def unhexL : List Char → Bytes → Option Bytes
  | [], acc => some acc.reverse
  | a :: b :: rest, acc =>
    match hexVal a, hexVal b with
    | some x, some y => unhexL rest ((x * 16 + y).toUInt8 :: acc)
    | _, _ => none
  | _, _ => none

def unhex (s : String) : Bytes :=
  if s == "-" then [] else (unhexL s.toList []).getD []

def optHex (s : String) : Option Bytes := if s == "~" then none else some (unhex s)
def optInt (s : String) : Option Int := if s == "~" then none else s.toInt?
def natOf (s : String) : Nat := s.toNat?.getD 0
def intOf (s : String) : Int := s.toInt?.getD 0
def listOf (s : String) : List String := if s == "[]" then [] else s.splitOn ","
def joinC (l : List String) : String := if l.isEmpty then "[]" else ",".intercalate l
def idOf (s : String) : Nat := natOf (s.drop 1).toString   -- "T3" → 3
def b01 (b : Bool) : String := if b then "1" else "0"

/-- key=value arguments -/
def kv (args : List String) (k : String) : String :=
  match args.find? (fun a => a.startsWith (k ++ "=")) with
  | some a => (a.drop (k.length + 1)).toString
  | none => "~"

def parseKey (s : String) : Key :=
  if s == "align" then .align
  else if s == "skip" then .skipable
  else .user (natOf (s.drop 1).toString)

def parseVal (s : String) : Option Val :=
  if s == "nil" then none
  else if s.startsWith "P" then some (.user (9000000 + natOf (s.drop 1).toString))   -- a pointer value, by identity
  else if s.startsWith "u" then some (.user (natOf (s.drop 1).toString))
  else if s.startsWith "a" then some (.align (natOf (s.drop 1).toString))
  else if s == "b1" then some (.bool true)
  else if s == "b0" then some (.bool false)
  else none

def showVal : Option Val → String
  | none => "nil"
  | some (.user n) => if n ≥ 9000000 then s!"P{n - 9000000}" else s!"u{n}"
  | some (.align a) => s!"a{a}"
  | some (.bool b) => if b then "b1" else "b0"
  | some (.dims w h) => s!"dims{w}x{h}"
  | some (.lws l) => s!"lws{l.length}"
  | some (.mdw w) => s!"mdw{w}"

def parseOwner (hs : Array (Nat × Nat)) (s : String) : Target :=
  match s.splitOn ":" with
  | ["h", k] => let (t, n) := hs.getD (natOf k) (0, 0); .column t n
  | ["t", n] => .table (natOf n)
  | ["c", t, n] => .column (natOf t) (natOf n)
  | ["r", n] => .row (natOf n)
  | ["x", r, c] => .cell (natOf r) (natOf c)
  | ["y", n] => .copy (natOf n)
  | _ => .table 0

def showTarget : Target → String
  | .table t => s!"t:{t}"
  | .column t n => s!"c:{t}:{n}"
  | .row r => s!"r:{r}"
  | .cell r c => s!"x:{r}:{c}"
  | .copy n => s!"y:{n}"

def parseTime (s : String) : Option Time :=
  if s == "add" then some .add else if s == "pre" then some .pre
  else if s == "render" then some .render else if s == "post" then some .post else none

def parseCbTarget (s : String) : World.CbTarget :=
  if s == "cell" then .cell else if s == "row" then .row else .itself

def parseCb (s : String) : Cb :=
  match s.splitOn ":" with
  | ["log", id] => .log (natOf id)
  | ["set", id, k, v] => .setProp (natOf id) (parseKey k) (parseVal v)
  | ["fail", id, e] => .fail (natOf id) (natOf e)
  | _ => .log 0

def showClass : ErrClass → String
  | .noColumns => "no-columns" | .noHeaders => "no-headers" | .tooFewHeaders => "too-few-headers"
  | .emptyHeader => "empty-header" | .dupHeader => "dup-header" | .nonboolSkipable => "nonbool-skipable"
  | .structural => "structural" | .marshal => "marshal" | .noDecoration => "no-decoration"
  | .writer => "writer" | .badAlign => "bad-align"

def showStop : Option Stop → String
  | none => "ok"
  | some (.err e) => "err:" ++ showClass e
  | some (.panic _) => "PANIC"

def parseDecor (s : String) : Decoration :=
  let f := (s.splitOn ",").toArray
  let g (i : Nat) : Bytes := unhex (f.getD i "-")
  { horizontal := g 0, vertical := g 1, crossPiece := g 2, topDown := g 3, vBorder := g 4,
    hOuter := g 5, hRule := g 6, vHeader := g 7, vBodyBorder := g 8, vBodyInner := g 9,
    topLeft := g 10, topRight := g 11, bottomLeft := g 12, bottomRight := g 13,
    leftBodyRule := g 14, rightBodyRule := g 15, hTopDown := g 16, bTopDown := g 17,
    bBottomUp := g 18, hBCross := g 19, hBLeft := g 20, hBRight := g 21,
    isBoxless := f.getD 22 "0" == "1" }

def showDecor (d : Decoration) : String :=
  ",".intercalate ([d.horizontal, d.vertical, d.crossPiece, d.topDown, d.vBorder, d.hOuter, d.hRule,
    d.vHeader, d.vBodyBorder, d.vBodyInner, d.topLeft, d.topRight, d.bottomLeft, d.bottomRight,
    d.leftBodyRule, d.rightBodyRule, d.hTopDown, d.bTopDown, d.bBottomUp, d.hBCross, d.hBLeft,
    d.hBRight].map hexOf ++ [b01 d.isBoxless])

def parseKind (s : String) : WKind :=
  if s == "csv" then .csv else if s == "json" then .json else if s == "html" then .html
  else if s == "markdown" then .markdown else .text

def showKind : WKind → String
  | .csv => "csv" | .json => "json" | .html => "html" | .markdown => "markdown" | .text => "text"

def fmtKind : Format → WKind × Decoration
  | .csv => (.csv, {}) | .html => (.html, {}) | .markdown => (.markdown, {}) | .json => (.json, {})
  | .text d => (.text, d)

def parseErrs (s : String) : List (Option Nat) :=
  (listOf s).map (fun e => if e == "nil" then none else some (natOf e))

def showNats (l : List Nat) : String := joinC (l.map toString)

/-! ### state helpers -/

def St.ext (st : St) : Ext :=
  { dw := fun b =>
      -- printable ASCII measures one cell per byte (the harness does not send those); any other
      -- miss is made visible, never silently 0
      if b.all (fun c => 0x20 ≤ c && c ≤ 0x7e) then b.length
      else (st.dwT.get? b).getD (b.length + 1000000)
    js := fun b => (st.jsT.get? b).getD (bytesOfString "JSMISS") }

def parseItem (args : List String) : Item :=
  let kind : ItemKind :=
    match kv args "kind" with
    | "nil" => .nil
    | "str" => .str (unhex (kv args "s"))
    | "rune" => .rune (intOf (kv args "r"))
    | "cell" => .cell (unhex (kv args "cs")) (intOf (kv args "cw")) (intOf (kv args "ch")) (kv args "ce" == "1")
    | _ => .other
  { kind := kind, mString := optHex (kv args "S"), mGoString := optHex (kv args "G"),
    mError := optHex (kv args "E"), fmtV := unhex (kv args "V"), mHeight := optInt (kv args "H"),
    mWidth := optInt (kv args "W"), json := optHex (kv args "J") }

def setItem (w : World) (i : Nat) (it : Item) : World :=
  if i < w.items.length then { w with items := w.items.set i it }
  else { w with items := w.items ++ List.replicate (i - w.items.length) default ++ [it] }

def showCellLoc (w : World) (ce : Cell) : String :=
  let (r, c) := w.cellLocation ce
  s!"{r}.{c}"

def obsTable (w : World) (t : Nat) : String :=
  let tb := w.table t
  let nrows := tb.rows.length
  let ncols := tb.nColumns
  let cols := (List.range (ncols + 3)).map (fun (i : Nat) =>
    let n : Int := Int.ofNat i - 1
    s!"{n}:{b01 (w.hasColumn t n)}")
  let cellat := (List.range (nrows + 2)).flatMap (fun (r : Nat) => (List.range (ncols + 2)).map (fun (c : Nat) =>
    match w.cellAt t (Int.ofNat r) (Int.ofNat c) with
    | none => s!"{r}.{c}:x"
    | some (rid, ci) =>
      match w.cell? rid ci with
      | some ce => s!"{r}.{c}:R{rid}:{ci}@{showCellLoc w ce}"
      | none => s!"{r}.{c}:?"))
  let hdr := match tb.header with | some h => s!"R{h}" | none => "~"
  s!"nrows={nrows} ncols={ncols} hdr={hdr} rows={joinC (tb.rows.map (fun r => s!"R{r}"))} errs={showNats tb.errs} cols={joinC cols} cellat={joinC cellat}"

def obsRow (w : World) (r : Nat) : String :=
  let rw := w.row r
  let cells := match rw.cells with | none => "~" | some cs => toString cs.length
  let cs := w.rowCells r
  s!"rownum={rw.rowNum} sep={b01 rw.isSep} cells={cells} errs={showNats (w.rowErrors r)} texts={joinC (cs.map (fun c => hexOf c.str))} empty={joinC (cs.map (fun c => b01 c.empty))} locs={joinC (cs.map (showCellLoc w))}"

def obsCell (ce : Cell) : String :=
  s!"text={hexOf ce.str} empty={b01 ce.empty} h={ce.hgt} w={ce.termWidth} lines={joinC (ce.lines.map hexOf)}"

def parseScript (s : String) : Script :=
  match s.splitOn ":" with
  | ["from", k] => fun i => if i ≥ natOf k then some 0 else none
  | ["only", k] => fun i => if i = natOf k then some 0 else none
  | ["partial", k, n] => fun i => if i = natOf k then some (natOf n) else none
  | _ => fun _ => none

def rechunk (b : Bytes) : List Nat → List Bytes
  | [] => []
  | n :: ns => b.take n :: rechunk (b.drop n) ns

def addErrList (w : World) (tk : Taker) (es : List (Option Nat)) : World :=
  es.foldl (fun w e => match e with | some e => w.addErrTo tk e | none => w) w

/-! ### the interpreter -/

def step (st : St) (line : String) : St × String :=
  let toks := (line.splitOn " ").filter (· ≠ "")
  let x := st.ext
  match toks with
  | ["case", n] => ({ st with w := {}, wrappers := #[], ecs := #[], handles := #[] }, s!"case {n}")
  | ["colhandle", t, n] =>
    if st.w.hasColumn (idOf t) (intOf n) then
      ({ st with handles := st.handles.push (idOf t, natOf n) }, s!"H{st.handles.size}")
    else (st, "nil")
  | ["dw", h, n] => ({ st with dwT := st.dwT.insert (unhex h) (natOf n) }, "ok")
  | ["js", h, j] => ({ st with jsT := st.jsT.insert (unhex h) (unhex j) }, "ok")
  | "item" :: i :: args => ({ st with w := setItem st.w (idOf i) (parseItem args) }, "ok")
  | ["newtable"] => let (w, t) := st.w.newTable; ({ st with w := w }, s!"T{t}")
  | ["wrap", k, t] =>
    let kind := parseKind k
    let core := idOf t
    let wr : Wrapper := { kind := kind, core := core, decor := if kind = .text then st.heavy else {} }
    ({ st with w := st.w.wrapEffect kind core, wrappers := st.wrappers.push wr }, s!"W{st.wrappers.size}")
  | ["newvia", k] =>
    let kind := parseKind k
    let (w, t) := st.w.newTable
    let wr : Wrapper := { kind := kind, core := t, decor := if kind = .text then st.heavy else {} }
    ({ st with w := w.wrapEffect kind t, wrappers := st.wrappers.push wr }, s!"T{t} W{st.wrappers.size}")
  | ["autonew", style] =>
    let (w, t) := st.w.newTable
    let (kind, decor) := fmtKind (resolveStyle st.reg st.heavy (unhex style))
    let wr : Wrapper := { kind := kind, core := t, decor := decor }
    ({ st with w := w.wrapEffect kind t, wrappers := st.wrappers.push wr }, s!"T{t} W{st.wrappers.size} kind={showKind kind}")
  | ["prender", k, ref] =>
    let kind := parseKind k
    let core := if ref.startsWith "T" then idOf ref else (st.wrappers.getD (idOf ref) { kind := .csv, core := 0 }).core
    let wr : Wrapper := { kind := kind, core := core, decor := if kind = .text then st.heavy else {} }
    -- X.Render(ref) and X.RenderTo(ref, buf): two fresh wrappers, two passes
    let w1 := st.w.wrapEffect kind core
    let (w2, m1) := w1.renderTo x wr
    let (s1, stop1) := World.renderString m1
    -- a panic in the first call ends the Go-side operation: the second call never runs
    if (match stop1 with | some (.panic _) => true | _ => false) then ({ st with w := w2 }, "PANIC") else
    let w3 := w2.wrapEffect kind core
    let (w4, m2) := w3.renderTo x wr
    let stop2 := match m2.res with | .ok _ => none | .error s => some s
    ({ st with w := w4 }, s!"res={showStop stop1} str={hexOf s1} res2={showStop stop2} out2={hexOf m2.output}")
  | ["autorender", ref, style] =>
    let core := if ref.startsWith "T" then idOf ref else (st.wrappers.getD (idOf ref) { kind := .csv, core := 0 }).core
    let (kind, decor) := fmtKind (resolveStyle st.reg st.heavy (unhex style))
    let wr : Wrapper := { kind := kind, core := core, decor := decor }
    let w1 := st.w.wrapEffect kind core
    let (w2, m1) := w1.renderTo x wr
    let (s1, stop1) := World.renderString m1
    -- a panic in the first call ends the Go-side operation: the second call never runs
    if (match stop1 with | some (.panic _) => true | _ => false) then ({ st with w := w2 }, "PANIC") else
    let w3 := w2.wrapEffect kind core
    let (w4, m2) := w3.renderTo x wr
    let stop2 := match m2.res with | .ok _ => none | .error s => some s
    ({ st with w := w4 }, s!"res={showStop stop1} str={hexOf s1} res2={showStop stop2} out2={hexOf m2.output}")
  | ["populate", d] => (st, showDecor (parseDecor d).populate)
  | ["leftdomain", _] => (st, "leftdomain")
  | ["leftdomain"] => (st, "leftdomain")   -- marker: the case has set an input outside every property's domain
  | ["scribblerows", _] => (st, "ok")   -- the caller overwrites the slice AllRows() returned: the table keeps its own
  | ["lenobs", h] =>
    let s := unhex h
    (st, s!"lines={joinC ((lines s).map hexOf)} lb={longestLine List.length s} lr={longestLine runeCount s} lc={longestLine x.dw s} sb={s.length} sr={runeCount s}")
  | ["rewrap", k, wv] =>   -- X.Wrap(wrapper)
    let kind := parseKind k
    let core := (st.wrappers.getD (idOf wv) { kind := .csv, core := 0 }).core
    let wr : Wrapper := { kind := kind, core := core, decor := if kind = .text then st.heavy else {} }
    ({ st with w := st.w.wrapEffect kind core, wrappers := st.wrappers.push wr }, s!"W{st.wrappers.size}")
  | ["setdecor", wv, d] =>
    ({ st with wrappers := st.wrappers.modify (idOf wv) (fun wr => { wr with decor := parseDecor d }) }, "ok")
  | ["setdecornamed", wv, n] =>
    let err := ((st.wrappers.getD (idOf wv) { kind := .text, core := 0 }).setDecorationNamed st.reg (unhex n)).2
    ({ st with wrappers := st.wrappers.modify (idOf wv) (fun wr => (wr.setDecorationNamed st.reg (unhex n)).1) },
      if err.isSome then "unknown" else "ok")
  | "sethtml" :: wv :: args =>
    let rc : Option (Nat → Bytes) :=
      match kv args "rc" with
      | "~" => none
      | s =>
        let tbl := (listOf s).map (fun e => match e.splitOn ":" with
          | [n, h] => (natOf n, unhex h) | _ => (0, []))
        some (fun n => ((tbl.find? (fun p => p.1 == n)).map (·.2)).getD [])
    let cfg : HtmlCfg := { id := unhex (kv args "id"), cls := unhex (kv args "cls"), caption := unhex (kv args "cap"), rowClass := rc }
    ({ st with wrappers := st.wrappers.modify (idOf wv) (fun wr => { wr with html := cfg }) }, "ok")
  | ["addheaders", t, is] =>
    let hr := st.w.rows.length
    ({ st with w := st.w.addHeaders x.dw (idOf t) ((listOf is).map idOf) }, s!"R{hr}")
  | ["addrowitems", t, is] =>
    let (w, r) := st.w.addRowItems x.dw (idOf t) ((listOf is).map idOf)
    ({ st with w := w }, s!"R{r}")
  | ["newrow"] => let (w, r) := st.w.newRow {}; ({ st with w := w }, s!"R{r}")
  | ["zerorow"] => let (w, r) := st.w.newRow { cells := none }; ({ st with w := w }, s!"R{r}")
  | ["appendnewrow", t] => let (w, r) := st.w.appendNewRow x.dw (idOf t); ({ st with w := w }, s!"R{r}")
  | ["rowadd", r, i] => ({ st with w := st.w.rowAdd x.dw (idOf r) (idOf i) }, "ok")
  | ["rowaddcopy", r, y] =>
    match st.w.copies[idOf y]? with
    | some ce => ({ st with w := st.w.rowAddCell x.dw (idOf r) ce }, "ok")
    | none => (st, "nocopy")
  | ["addrow", t, r] => ({ st with w := st.w.addRow x.dw (idOf t) (idOf r) }, "ok")
  | ["addsep", t] =>
    let r := st.w.rows.length
    ({ st with w := st.w.addSeparator (idOf t) }, s!"R{r}")
  | ["rowadderr", r, e] => ({ st with w := addErrList st.w (.rowLazy (idOf r)) (parseErrs e) }, "ok")
  | ["rowadderrlist", r, es] => ({ st with w := addErrList st.w (.rowLazy (idOf r)) (parseErrs es) }, "ok")
  | ["tadderr", t, e] => ({ st with w := addErrList st.w (.table (idOf t)) (parseErrs e) }, "ok")
  | ["tadderrlist", t, es] => ({ st with w := addErrList st.w (.table (idOf t)) (parseErrs es) }, "ok")
  | ["obs", t] => (st, obsTable st.w (idOf t))
  | ["rowobs", r] => (st, obsRow st.w (idOf r))
  | ["cellobs", r, c] =>
    match st.w.cell? (idOf r) (natOf c) with
    | some ce => (st, obsCell ce)
    | none => (st, "nocell")
  | ["probe", i] =>   -- NewCell(item) observed, world unchanged
    (st, obsCell (newCell x.dw (idOf i) (st.w.item (idOf i))))
  | ["update", r, c] =>
    ({ st with w := st.w.modCell (idOf r) (natOf c) (fun ce => ce.update x.dw (st.w.item ce.item)) }, "ok")
  | ["copycell", r, c] =>
    match st.w.cell? (idOf r) (natOf c) with
    | some ce => ({ st with w := { st.w with copies := st.w.copies ++ [ce] } }, s!"Y{st.w.copies.length}")
    | none => (st, "nocell")
  | ["copyobs", y] =>
    match st.w.copies[idOf y]? with
    | some ce => (st, obsCell ce)
    | none => (st, "nocopy")
  | ["copyupdate", y] =>
    ({ st with w := { st.w with copies := st.w.copies.modify (idOf y) (fun ce => ce.update x.dw (st.w.item ce.item)) } }, "ok")
  | ["setprop", o, k, v] => ({ st with w := st.w.setProp (parseOwner st.handles o) (parseKey k) (parseVal v) }, "ok")
  | ["getprop", o, k] => (st, showVal (st.w.getProp (parseOwner st.handles o) (parseKey k)))
  | ["chainlen", o, bound] =>
    -- "does this owner store at most `bound` links?": the Go side walks the unexported links by reflection
    -- (`chainLenWalk`); a link count is nobody's contract, so only the bound is compared
    let n := st.w.chainLen (parseOwner st.handles o)
    (st, if n ≤ natOf bound then "le" else "gt")
  | ["regcb", _t, o, tm, tg, cb] =>
    match parseTime tm with
    | none => (st, "refused")
    | some tm =>
      match st.w.registerCb (parseOwner st.handles o) tm (parseCbTarget tg) (parseCb cb) with
      | some w => ({ st with w := w }, "ok")
      | none => (st, "refused")
  | ["invoke", t] => ({ st with w := st.w.invokeRenderCallbacks x.dw (idOf t) }, "ok")
  | ["events"] =>
    ({ st with w := { st.w with events := [] } },
      joinC (st.w.events.map (fun e => s!"{e.cb}@{showTarget e.tgt}")))
  | ["render", wv] =>
    match st.wrappers[idOf wv]? with
    | none => (st, "nowrapper")
    | some wr =>
      let (w, m) := st.w.renderTo x wr
      let stop := match m.res with | .ok _ => none | .error s => some s
      let extra := if wr.kind = .html then
          " rc=" ++ (match wr.html.rowClass with
            | none => "[]"
            | some _ => joinC ((rowClassCalls (w.view wr.core)).map toString))
        else ""
      ({ st with w := w }, s!"res={showStop stop} out={hexOf m.output}{extra}")
  | ["renderstr", wv] =>
    match st.wrappers[idOf wv]? with
    | none => (st, "nowrapper")
    | some wr =>
      let (w, m) := st.w.renderTo x wr
      let (s, stop) := World.renderString m
      ({ st with w := w }, s!"res={showStop stop} str={hexOf s}")
  | ["frender", wv, script, cs] =>
    match st.wrappers[idOf wv]? with
    | none => (st, "nowrapper")
    | some wr =>
      let (w, m) := st.w.renderTo x wr
      let lens := (listOf ((cs.drop 3).toString)).map natOf
      -- the chunk boundaries are the library's (trusted input); what they cover must be exactly the model's bytes
      if lens.sum ≠ m.output.length then ({ st with w := w }, s!"short-cs model={m.output.length} cs={lens.sum}") else
      let m' : Emit Unit := ⟨rechunk m.output lens, m.res⟩
      let (r, stop) := runEmit (parseScript script) m'
      ({ st with w := w }, s!"res={showStop stop} calls={r.calls} acc={hexOf r.accepted}")
  | ["register", n, d] => ({ st with reg := st.reg.register (unhex n) (parseDecor d) }, "ok")
  | ["reginit", n, d] => ({ st with reg := st.reg.register (unhex n) (parseDecor d) }, "ok")
  | ["heavy", d] => ({ st with heavy := parseDecor d }, "ok")
  | ["named", n] => (st, showDecor (st.reg.named (unhex n)))
  | ["names"] => (st, joinC (st.reg.names.map hexOf))
  | ["liststyles"] => (st, joinC ((listStyles st.reg).map hexOf))
  | ["autowrap", t, style] =>
    let core := idOf t
    -- the model's `Format.wrapper` of the model's `resolveStyle`: the very object of c19_unknown / C19e
    let wr : Wrapper := (resolveStyle st.reg st.heavy (unhex style)).wrapper core
    let kind := wr.kind
    let decor := wr.decor
    ({ st with w := st.w.wrapEffect kind core, wrappers := st.wrappers.push wr },
      s!"W{st.wrappers.size} kind={showKind kind} nodecor={b01 (kind = .text && decor = emptyDecoration)}")
  | ["ecnew", k] =>
    ({ st with ecs := st.ecs.push (if k == "nil" then none else some []) }, s!"E{st.ecs.size}")
  | ["ecadd", e, v] =>
    ({ st with ecs := st.ecs.modify (idOf e) (fun c => (parseErrs v).foldl EC.addError c) }, "ok")
  | ["ecaddlist", e, vs] =>
    ({ st with ecs := st.ecs.modify (idOf e) (fun c => EC.addErrorList c (parseErrs vs)) }, "ok")
  | ["ecerrors", e] =>
    (st, match EC.errors (st.ecs.getD (idOf e) none) with
      | none => "nil"
      | some es => showNats es)
  | [] => (st, "")
  | _ => (st, "bad-op")

/-- the harness sends `renderbuf W kind` unrewritten only when the Go call panicked; it is a `render` -/
def normLine (l : String) : String :=
  match l.splitOn " " with
  | ["renderbuf", wv, _] => "render " ++ wv
  | _ => l

partial def loop (hin : IO.FS.Stream) (hout : IO.FS.Stream) (st : St) : IO Unit := do
  let line ← hin.getLine
  if line.isEmpty then return ()
  let l := (line.dropEndWhile (fun c => c == '\n' || c == '\r')).toString
  let (st', out) := step st (normLine l)
  -- a Go panic unwinds the whole call: the harness reports the bare word
  let out := if (out.splitOn "res=PANIC").length > 1 || (out.splitOn "res2=PANIC").length > 1 then "PANIC" else out
  hout.putStrLn out
  loop hin hout st'

def main : IO Unit := do
  let hin ← IO.getStdin
  let hout ← IO.getStdout
  loop hin hout {}
