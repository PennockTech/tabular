/- `html/html.go`: the template's output, with `html/template`'s escaper as a per-byte map
   (trusted: that the engine applies exactly this escaper in text and quoted-attribute context). -/
import Tabmodel.Model.Markdown
namespace Tab
open Emit

def htmlEscByte (b : UInt8) : Bytes :=
  if b = 0 then [0xEF, 0xBF, 0xBD]
  else if b = 34 then bytesOfString "&#34;"
  else if b = 38 then bytesOfString "&amp;"
  else if b = 39 then bytesOfString "&#39;"
  else if b = 43 then bytesOfString "&#43;"
  else if b = 60 then bytesOfString "&lt;"
  else if b = 62 then bytesOfString "&gt;"
  else [b]

def htmlEscape (s : Bytes) : Bytes := s.flatMap htmlEscByte

structure HtmlCfg where
  id : Bytes := []
  cls : Bytes := []
  caption : Bytes := []
  rowClass : Option (Nat → Bytes) := none

def htmlTr (cfg : HtmlCfg) (n : Nat) (tag : String) (cells : List RCell) : Bytes :=
  bytesOfString "    <tr" ++
  (match cfg.rowClass with
   | some f => bytesOfString " class=\"" ++ htmlEscape (f n) ++ bytesOfString "\""
   | none => []) ++
  bytesOfString ">" ++
  cells.flatMap (fun c => bytesOfString ("<" ++ tag ++ ">") ++ htmlEscape c.text ++ bytesOfString ("</" ++ tag ++ ">")) ++
  bytesOfString "</tr>\n"

def htmlBytes (cfg : HtmlCfg) (v : RTable) : Bytes :=
  bytesOfString "<table" ++
  (if cfg.cls != [] then bytesOfString " class=\"" ++ htmlEscape cfg.cls ++ bytesOfString "\"" else []) ++
  (if cfg.id != [] then bytesOfString " id=\"" ++ htmlEscape cfg.id ++ bytesOfString "\"" else []) ++
  bytesOfString ">\n" ++
  (if cfg.caption != [] then bytesOfString "  <caption>" ++ htmlEscape cfg.caption ++ bytesOfString "</caption>\n" else []) ++
  bytesOfString "  <thead>\n" ++
  htmlTr cfg 0 "th" (v.header.getD []) ++
  bytesOfString "  </thead>\n  <tbody>\n" ++
  (v.rows.zipIdx.flatMap (fun (r, i) => match r with
    | none => []
    | some cells => htmlTr cfg (i + 1) "td" cells)) ++
  bytesOfString "  </tbody>\n</table>\n"

/-- The row numbers the row-class generator is called with during one render, in call order
    (what the harness's recording generator logs as `rc=`): 0 for the header row, then the 1-based
    position of every non-separator row.  `Props/DriverObs.lean` proves this is `rowClassArgs`, the
    list the C06 theorems speak about, and that it is duplicate-free, starts with 0 and holds exactly the
    1-based positions of the non-separator rows (each at most the number of rows). -/
def rowClassCalls (v : RTable) : List Nat :=
  0 :: v.rows.zipIdx.filterMap (fun (r, i) => match r with | some _ => some (i + 1) | none => none)

/-- `HTMLTable.RenderTo` after the callbacks pass (chunking is the template engine's; one chunk here) -/
def renderHtml (cfg : HtmlCfg) (v : RTable) : Emit Unit := write (htmlBytes cfg v)

end Tab
