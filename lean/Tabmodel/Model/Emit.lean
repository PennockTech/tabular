/-
  Renderers as programs that emit chunks (one per Go `Write` call) and may stop
  with an error or a panic.  `Emit α` is writer-over-except: the chunk list written
  so far plus how the program ended.  Running a chunk trace against a faulty
  `io.Writer` is the separate, generic `runEmit` (Model/Writer.lean).
-/
import Tabmodel.Model.Bytes
namespace Tab

/-- Canonical error classes (messages are not compared, only the class). -/
inductive ErrClass
  | noColumns | noHeaders | tooFewHeaders | emptyHeader | dupHeader | nonboolSkipable
  | structural | marshal | noDecoration | writer | badAlign
  deriving DecidableEq, Repr, Inhabited

/-- Why a program stopped early. A `panic` records the site of the failing index/assertion. -/
inductive Stop
  | err (e : ErrClass)
  | panic (site : String)
  deriving DecidableEq, Repr, Inhabited

structure Emit (α : Type) where
  chunks : List Bytes
  res : Except Stop α

namespace Emit
def pure' (a : α) : Emit α := ⟨[], .ok a⟩
def bind' (m : Emit α) (f : α → Emit β) : Emit β :=
  match m.res with
  | .ok a => let n := f a; ⟨m.chunks ++ n.chunks, n.res⟩
  | .error e => ⟨m.chunks, .error e⟩
instance : Monad Emit where
  pure := pure'
  bind := bind'

/-- One checked `Write` of `b`. -/
def write (b : Bytes) : Emit Unit := ⟨[b], .ok ()⟩
def fail (e : ErrClass) : Emit α := ⟨[], .error (.err e)⟩
def panic (site : String) : Emit α := ⟨[], .error (.panic site)⟩
/-- Lift a pure partial computation. -/
def lift (r : Except Stop α) : Emit α := ⟨[], r⟩

/-- Checked slice index `a[i]`: out of range is a panic at `site`. -/
def idx (a : List α) (i : Nat) (site : String) : Emit α :=
  match a[i]? with
  | some x => pure' x
  | none => panic site

/-- `for x in xs { body x }` with early exit. -/
def forM' (xs : List α) (body : α → Emit Unit) : Emit Unit :=
  match xs with
  | [] => pure' ()
  | x :: xs => bind' (body x) (fun _ => forM' xs body)

/-- The concatenated output under a never-failing writer. -/
def output (m : Emit α) : Bytes := m.chunks.flatten
end Emit

/-- Pure checked index for non-emitting code. -/
def idxE (a : List α) (i : Nat) (site : String) : Except Stop α :=
  match a[i]? with
  | some x => .ok x
  | none => .error (.panic site)

end Tab
