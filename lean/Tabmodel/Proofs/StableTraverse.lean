/-
  The render pass read off its static schedule (`irc_sched`: the pass is `runSteps` over `passSteps w t`).

  * `UserKeysOnly w t`: no callback the pass invokes is a `.setProp` on a private measurement key.  Such
    a pass keeps every measured value (`KeyMeas`), so a measuring callback among the table's render-time
    cell callbacks leaves every cell of every visited row measured (`irc_keyMeas_dim`, `irc_keyMeas_wid`).
  * Under `LogOnly` every step is a log, or a log / measuring callback handed a cell (`logOnly_steps`);
    so `LogOnly` implies `UserKeysOnly`, and the pass keeps every `StepInv`, in particular `erase`.
-/
import Tabmodel.Proofs.StableStep
import Tabmodel.Proofs.E2EcbRun
import Tabmodel.Proofs.C13Live
namespace Tab

/-- a user callback (`log`, `setProp`, `fail`) that names no private measurement key; the two
    measuring callbacks qualify -/
def Cb.userKeyOnly : Cb → Bool
  | .setProp _ k _ => !k.isPriv
  | _ => true

def World.UserKeysOnly (w : World) (t : Nat) : Prop := ∀ s ∈ passSteps w t, s.cb.userKeyOnly = true

instance (w : World) (t : Nat) : Decidable (w.UserKeysOnly t) := by unfold World.UserKeysOnly; infer_instance

namespace E2Ecb
open World

theorem cell?_setProp (w : World) (o : Target) (k : Key) (v : Option Val) (r j : Nat) :
    (w.setProp o k v).cell? r j =
      if o = .cell r j then (w.cell? r j).map (fun ce => { ce with props := ce.props.set k v })
      else w.cell? r j := by
  cases o with
  | table t => simp only [reduceCtorEq, if_false]; rfl
  | column t n => simp only [reduceCtorEq, if_false]; rfl
  | row r' =>
    simp only [reduceCtorEq, if_false]
    exact cell?_modRow_of w r' (fun rw => { rw with props := rw.props.set k v }) (fun _ => rfl) r j
  | cell r' c' =>
    simp only [World.setProp, cell?_modCell, Target.cell.injEq]
  | copy n => simp only [reduceCtorEq, if_false]; rfl

theorem cell?_addErrTo (w : World) (tk : Taker) (e : Nat) (r j : Nat) :
    (w.addErrTo tk e).cell? r j = w.cell? r j := by
  unfold World.addErrTo
  cases tk with
  | drop => rfl
  | table t => rfl
  | rowOwn r' =>
    apply cell?_modRow_of
    intro rw; split <;> rfl
  | rowLazy r' =>
    dsimp only
    split
    · apply cell?_modRow_of; intro _; rfl
    · apply cell?_modRow_of; intro _; rfl
    · rfl

/-! ### `KeyMeas` through one arbitrary invocation -/

theorem keyMeas_congr {dw : Measure} {k : Key} {r j : Nat} {w' w : World}
    (hc : w'.cell? r j = w.cell? r j) (hi : w'.items = w.items) (h : KeyMeas dw k r j w) :
    KeyMeas dw k r j w' := by
  intro ce hce
  rw [hc] at hce
  rw [h ce hce]
  have := mval_frame dw w w' ce ce.props (fun i => by unfold World.item; rw [hi])
  exact congrArg some (congrFun this k).symm

theorem keyMeas_setProp_other_key (dw : Measure) (w : World) (tgt : Target) (k' : Key) (v : Option Val)
    (k : Key) (r j : Nat) (hne : k' ≠ k) (h : KeyMeas dw k r j w) :
    KeyMeas dw k r j (w.setProp tgt k' v) := by
  by_cases ht : tgt = .cell r j
  · intro ce hce
    rw [cell?_setProp, if_pos ht] at hce
    obtain ⟨ce0, hc0, rfl⟩ := Option.map_eq_some_iff.mp hce
    have hm := mval_frame dw w (w.setProp tgt k' v) ce0 (ce0.props.set k' v)
      (fun i => by unfold World.item; rw [items_setProp])
    exact (Chain.get_set_ne ce0.props v hne).trans ((h ce0 hc0).trans (congrArg some (congrFun hm k).symm))
  · exact keyMeas_congr (by rw [cell?_setProp, if_neg ht]) (items_setProp w tgt k' v) h

theorem keyMeas_events (dw : Measure) (w : World) (es : List Event) (k : Key) (r j : Nat)
    (h : KeyMeas dw k r j w) : KeyMeas dw k r j ({ w with events := es } : World) :=
  keyMeas_congr (w := w) rfl rfl h

theorem keyMeas_addErrTo (dw : Measure) (w : World) (tk : Taker) (e : Nat) (k : Key) (r j : Nat)
    (h : KeyMeas dw k r j w) : KeyMeas dw k r j (w.addErrTo tk e) :=
  keyMeas_congr (cell?_addErrTo w tk e r j) (items_addErrTo w tk e) h

theorem keyMeas_invokeOne_any (dw : Measure) (w : World) (cb : Cb) (tgt : Target) (tk : Taker) (k : Key)
    (r j : Nat) (hk : k.isPriv = true) (hcb : cb.userKeyOnly = true) (h : KeyMeas dw k r j w) :
    KeyMeas dw k r j (invokeOne dw w cb tgt tk) := by
  cases cb with
  | log id => exact keyMeas_events dw w _ k r j h
  | setProp id k' v =>
    have hne : k' ≠ k := by
      intro e; subst e
      simp [Cb.userKeyOnly, hk] at hcb
    exact keyMeas_setProp_other_key dw _ tgt k' v k r j hne (keyMeas_events dw w _ k r j h)
  | fail id e => exact keyMeas_addErrTo dw _ tk e k r j (keyMeas_events dw w _ k r j h)
  | dimSetter =>
    cases tgt with
    | cell r' c' => exact keyMeas_invokeOne_dim dw w r' c' tk k r j h
    | _ => exact keyMeas_addErrTo dw w tk _ k r j h
  | widthSetter =>
    cases tgt with
    | cell r' c' => exact keyMeas_invokeOne_wid dw w r' c' tk k r j h
    | _ => exact keyMeas_addErrTo dw w tk _ k r j h

theorem keyMeas_runSteps (dw : Measure) (ss : List Step) (w : World) (k : Key) (r j : Nat) (hk : k.isPriv = true)
    (hall : ∀ s ∈ ss, s.cb.userKeyOnly = true) (h : KeyMeas dw k r j w) :
    KeyMeas dw k r j (runSteps dw w ss) :=
  runSteps_frame dw ss (fun s hs w' h' => keyMeas_invokeOne_any dw w' s.cb s.tgt s.tk k r j hk (hall s hs) h') w h

theorem keyMeas_runSteps_dim (dw : Measure) (ss : List Step) (w : World) (r i : Nat) (tk : Taker)
    (hall : ∀ s ∈ ss, s.cb.userKeyOnly = true) (hm : (⟨.dimSetter, .cell r i, tk⟩ : Step) ∈ ss) :
    KeyMeas dw .ttDims r i (runSteps dw w ss) ∧ KeyMeas dw .ttLines r i (runSteps dw w ss) := by
  obtain ⟨A, B, e⟩ := List.append_of_mem hm
  subst e
  rw [runSteps_append, runSteps_cons]
  have hB : ∀ s ∈ B, s.cb.userKeyOnly = true := fun s hs => hall s (by simp [hs])
  have := keyMeas_dim_est dw (runSteps dw w A) r i tk
  exact ⟨keyMeas_runSteps dw B _ .ttDims r i rfl hB this.1, keyMeas_runSteps dw B _ .ttLines r i rfl hB this.2⟩

theorem keyMeas_runSteps_wid (dw : Measure) (ss : List Step) (w : World) (r i : Nat) (tk : Taker)
    (hall : ∀ s ∈ ss, s.cb.userKeyOnly = true) (hm : (⟨.widthSetter, .cell r i, tk⟩ : Step) ∈ ss) :
    KeyMeas dw .mdWidth r i (runSteps dw w ss) := by
  obtain ⟨A, B, e⟩ := List.append_of_mem hm
  subst e
  rw [runSteps_append, runSteps_cons]
  have hB : ∀ s ∈ B, s.cb.userKeyOnly = true := fun s hs => hall s (by simp [hs])
  exact keyMeas_runSteps dw B _ .mdWidth r i rfl hB (keyMeas_wid_est dw (runSteps dw w A) r i tk)

theorem cellcb_mem_passSteps {w : World} {t r i : Nat} {cb : Cb} (hcb : cb ∈ (w.table t).cellCbs.render)
    (hr : r ∈ passRows w t) (hi : i < (w.rowCells r).length) :
    (⟨cb, .cell r i, .table t⟩ : Step) ∈ passSteps w t := by
  have h1 : (⟨cb, .cell r i, .table t⟩ : Step) ∈ cellSteps w t r i := by
    unfold cellSteps
    simp only [List.mem_append]
    refine Or.inl (Or.inl (Or.inl (Or.inl (Or.inr ?_))))
    unfold stepsOf
    exact List.mem_map.mpr ⟨cb, hcb, rfl⟩
  have h2 : (⟨cb, .cell r i, .table t⟩ : Step) ∈ rowSteps w t r := by
    unfold rowSteps
    simp only [List.mem_append, List.mem_flatMap]
    exact Or.inl (Or.inr ⟨i, List.mem_range.mpr hi, h1⟩)
  unfold passSteps
  simp only [List.mem_append, List.mem_flatMap]
  exact Or.inl (Or.inl (Or.inr ⟨r, hr, h2⟩))

theorem irc_keyMeas_dim (dw : Measure) (w : World) (t : Nat) (hU : w.UserKeysOnly t)
    (hcb : Cb.dimSetter ∈ (w.table t).cellCbs.render) {r j : Nat} (hr : r ∈ passRows w t)
    (hj : j < (w.rowCells r).length) :
    KeyMeas dw .ttDims r j (invokeRenderCallbacks dw w t) ∧ KeyMeas dw .ttLines r j (invokeRenderCallbacks dw w t) := by
  rw [irc_sched]
  exact keyMeas_runSteps_dim dw _ w r j (.table t) hU (cellcb_mem_passSteps hcb hr hj)

theorem irc_keyMeas_wid (dw : Measure) (w : World) (t : Nat) (hU : w.UserKeysOnly t)
    (hcb : Cb.widthSetter ∈ (w.table t).cellCbs.render) {r j : Nat} (hr : r ∈ passRows w t)
    (hj : j < (w.rowCells r).length) : KeyMeas dw .mdWidth r j (invokeRenderCallbacks dw w t) := by
  rw [irc_sched]
  exact keyMeas_runSteps_wid dw _ w r j (.table t) hU (cellcb_mem_passSteps hcb hr hj)

theorem passRows_core {w' w : World} (h : w'.core = w.core) (t : Nat) : passRows w' t = passRows w t := by
  unfold passRows
  rw [of_core_eq (fun w => (w.table t).header) (rd_header t) h, of_core_eq (fun w => (w.table t).rows) (rd_rows t) h]

end E2Ecb

/-! ### the schedule of a `LogOnly` pass -/

theorem CbSet.okSelf_at {s : CbSet} (h : s.okSelf = true) (tm : Time) (htm : tm ≠ .add := by decide) :
    (s.at tm).all Cb.okSelf = true := by
  unfold CbSet.okSelf at h
  simp only [Bool.and_eq_true] at h
  cases tm with
  | add => exact absurd rfl htm
  | pre => exact h.1.1
  | render => exact h.1.2
  | post => exact h.2

theorem CbSet.okCell_at {s : CbSet} (h : s.okCell = true) (tm : Time) (htm : tm ≠ .add := by decide) :
    (s.at tm).all Cb.okCell = true := by
  unfold CbSet.okCell at h
  simp only [Bool.and_eq_true] at h
  cases tm with
  | add => exact absurd rfl htm
  | pre => exact h.1.1
  | render => exact h.1.2
  | post => exact h.2

theorem Cb.userKeyOnly_of_okCell {cb : Cb} (h : cb.okCell = true) : cb.userKeyOnly = true := by
  cases cb with
  | setProp id k v => cases h
  | _ => rfl

theorem Cb.okCell_of_okSelf {cb : Cb} (h : cb.okSelf = true) : cb.okCell = true := by
  cases cb with
  | log id => rfl
  | _ => cases h

namespace World
open E2Ecb

theorem logOnly_cellSteps {w : World} {t r i : Nat} (hT : (w.table t).cellCbs.okCell = true)
    (hR : RowLogOnly w r) (hi : i < (w.rowCells r).length) {s : Step} (hs : s ∈ cellSteps w t r i) :
    s.tgt = .cell r i ∧ s.cb.okCell = true := by
  have ok : ∀ {cbs tk}, cbs.all Cb.okCell = true → s ∈ stepsOf cbs (.cell r i) tk →
      s.tgt = .cell r i ∧ s.cb.okCell = true :=
    fun hc h => ⟨(mem_stepsOf h).1, List.all_eq_true.mp hc _ (mem_stepsOf h).2.2⟩
  have hcell : (((w.cell? r i).map fun ce : Cell => ce.cbs.at .render).getD []).all Cb.okCell = true := by
    cases hc : w.cell? r i with
    | none => rfl
    | some ce => exact CbSet.okCell_at (hR.2.2.1 ce (List.mem_of_getElem? hc)) .render
  unfold cellSteps at hs
  simp only [List.mem_append] at hs
  rcases hs with ((((((h | h) | h) | h) | h) | h) | h) | h
  · exact ok (CbSet.okCell_at hT .pre) h
  · exact ok (hR.2.2.2 i hi).1 h
  · exact ok (CbSet.okCell_at hR.2.1 .pre) h
  · exact ok (CbSet.okCell_at hT .render) h
  · exact ok hcell h
  · exact ok (CbSet.okCell_at hR.2.1 .post) h
  · exact ok (hR.2.2.2 i hi).2 h
  · exact ok (CbSet.okCell_at hT .post) h

theorem logOnly_steps {w : World} {t : Nat} (hL : LogOnly w t) {s : Step} (hs : s ∈ passSteps w t) :
    s.cb.okSelf = true ∨ (∃ r i, s.tgt = .cell r i) ∧ s.cb.okCell = true := by
  have self : ∀ {cbs tgt tk}, cbs.all Cb.okSelf = true → s ∈ stepsOf cbs tgt tk → s.cb.okSelf = true :=
    fun hc h => List.all_eq_true.mp hc _ (mem_stepsOf h).2.2
  have cols : ∀ {tm : Time}, tm ≠ .add → s ∈ colsSteps w t tm → s.cb.okSelf = true := by
    intro tm htm h
    unfold colsSteps colSteps column? at h
    obtain ⟨j, _, h⟩ := List.mem_flatMap.mp h
    cases hc : (w.table t).columns[j]? with
    | none => rw [hc] at h; cases h
    | some c => rw [hc] at h; exact self (CbSet.okSelf_at (hL.2.2.1 c (List.mem_of_getElem? hc)) tm htm) h
  unfold passSteps at hs
  simp only [List.mem_append, List.mem_flatMap] at hs
  rcases hs with (((h | h) | ⟨r, hr, h⟩) | h) | h
  · exact Or.inl (self (CbSet.okSelf_at hL.1 .pre) h)
  · exact Or.inl (cols (by decide) h)
  · have hR := hL.2.2.2 r hr
    unfold rowSteps at h
    simp only [List.mem_append, List.mem_flatMap] at h
    rcases h with (h | ⟨i, hi, h⟩) | h
    · exact Or.inl (self (CbSet.okSelf_at hR.1 .pre) h)
    · have := logOnly_cellSteps hL.2.1 hR (List.mem_range.mp hi) h
      exact Or.inr ⟨⟨r, i, this.1⟩, this.2⟩
    · exact Or.inl (self (CbSet.okSelf_at hR.1 .post) h)
  · exact Or.inl (cols (by decide) h)
  · exact Or.inl (self (CbSet.okSelf_at hL.1 .post) h)

theorem LogOnly.userKeysOnly {w : World} {t : Nat} (hL : LogOnly w t) : w.UserKeysOnly t := by
  intro s hs
  rcases logOnly_steps hL hs with h | ⟨_, h⟩
  · exact Cb.userKeyOnly_of_okCell (Cb.okCell_of_okSelf h)
  · exact Cb.userKeyOnly_of_okCell h

theorem StepInv.irc {dw : Measure} {P : World → Prop} (hP : StepInv dw P) {w : World} {t : Nat}
    (hL : LogOnly w t) (h : P w) : P (invokeRenderCallbacks dw w t) := by
  rw [irc_sched]
  refine runSteps_frame dw _ (fun s hs w' h' => ?_) w h
  obtain ⟨cb, tgt, tk⟩ := s
  rcases logOnly_steps hL hs with hc | ⟨⟨r, i, ht⟩, hc⟩
  · cases cb with
    | log id => exact hP.log w' id tgt tk h'
    | _ => cases hc
  · cases ht
    cases cb with
    | log id => exact hP.log w' id _ tk h'
    | dimSetter => exact hP.dim w' r i tk h'
    | widthSetter => exact hP.wid w' r i tk h'
    | _ => cases hc

theorem erase_irc (dw : Measure) (w : World) (t : Nat) (hL : LogOnly w t) :
    (invokeRenderCallbacks dw w t).erase = w.erase :=
  (stepInv_erase dw w.erase).irc hL rfl

end World
end Tab
