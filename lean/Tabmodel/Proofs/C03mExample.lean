/-
  A measure and a junction for the non-vacuity examples of `Props/C03m.lean`: `toyDw` is not additive, has
  go-runewidth's behaviour on the D20 inputs, and is additive across `toyJ`.
-/
import Tabmodel.Proofs.C03mRender
import Tabmodel.Proofs.C03mGlyph
import Tabmodel.Proofs.TextExample
namespace Tab
open Generated

/-! ### a toy measure with go-runewidth's D20 behaviour

  One cell per UTF-8 lead / ASCII / stray byte (continuation bytes count nothing), except that `^`
  (94) attaches to the character before it (width 0) — unless it is the first byte of the measured
  string, where it stands alone (width 1), like a spacing mark or an emoji modifier.  It agrees with
  the library's glyph table, is NOT additive, but is additive across every boundary whose right-hand
  side does not start with `^`. -/

def toyDw (s : Bytes) : Nat :=
  (s.filter (fun b => !isCont b && b != 94)).length + (if s.head? = some 94 then 1 else 0)

/-- the junction for `toyDw`: `^` joins the previous character, nothing joins the next one -/
abbrev toyJ : Junction := Junction.clusters [(94, 94)] []

theorem toyDw_not_additive : ¬ ∀ a b, toyDw (a ++ b) = toyDw a + toyDw b := by
  intro h
  have := h [97] [94, 98]
  revert this
  decide

theorem startsCp_head_ne (b : Bytes) (h : startsCp (fun c => !inRanges [(94, 94)] c) b = true) :
    b.head? ≠ some 94 := by
  intro hb
  rcases b with _ | ⟨b0, rest⟩
  · simp at hb
  · simp only [List.head?_cons, Option.some.injEq] at hb
    subst hb
    unfold startsCp at h
    rw [List.any_eq_true] at h
    obtain ⟨k, hk, hx⟩ := h
    simp only [List.mem_cons, List.not_mem_nil, or_false] at hk
    rcases hk with rfl | rfl | rfl | rfl
    · revert hx; simp [cpOfExact, inRanges]
    · rcases rest with _ | ⟨b1, r1⟩
      · revert hx; simp
      · revert hx; simp [cpOfExact]
    · rcases rest with _ | ⟨b1, _ | ⟨b2, r2⟩⟩
      · revert hx; simp
      · revert hx; simp
      · revert hx; simp [cpOfExact]
    · rcases rest with _ | ⟨b1, _ | ⟨b2, _ | ⟨b3, r3⟩⟩⟩
      · revert hx; simp
      · revert hx; simp
      · revert hx; simp
      · revert hx; simp [cpOfExact]

theorem endsCp_ne_nil (p : Nat → Bool) (a : Bytes) (h : endsCp p a = true) : a ≠ [] := by
  rintro rfl
  revert h
  simp [endsCp]

theorem toyDw_across : AdditiveAcross toyDw toyJ := by
  intro a b hab
  rcases hab with rfl | rfl | ⟨h1, h2⟩
  · simp [toyDw]
  · simp [toyDw]
  · have ha : a ≠ [] := endsCp_ne_nil _ a h1
    have hb : b.head? ≠ some 94 := by
      apply startsCp_head_ne
      simpa [toyJ, Junction.clusters, Junction.cps] using h2
    have hh : (a ++ b).head? = a.head? := by
      cases a with
      | nil => exact absurd rfl ha
      | cons x t => rfl
    unfold toyDw
    rw [hh, List.filter_append, List.length_append]
    simp only [hb, if_false]
    omega

theorem toyDw_sp : toyDw [SP] = 1 := by decide

theorem toyDw_table : TableAgrees toyDw := by unfold TableAgrees; decide

theorem toy_hall : ∀ c ∈ TextExample.exView.allCells,
    CellOK toyDw c ∧ CellFits c ∧ CellMeasured toyDw c := by
  intro c hc
  simp only [RTable.allCells, TextExample.exView, List.flatMap_cons, List.flatMap_nil, List.append_nil,
    List.mem_append, List.mem_cons, List.not_mem_nil, or_false, false_or] at hc
  rcases hc with (rfl | rfl) | (rfl | rfl) | rfl
  · exact measuredCell_ok toyDw [97]
  · exact measuredCell_ok toyDw [98, 98]
  · exact measuredCell_ok toyDw [99, 99, 99, 10, 100]
  · exact measuredCell_ok toyDw [101]
  · exact measuredCell_ok toyDw [102]

theorem toy_hv : ViewOK toyDw TextExample.exView := fun c hc => ⟨(toy_hall c hc).1, (toy_hall c hc).2.1⟩

namespace C03mExample

theorem len_add : ∀ a b : Bytes, List.length (a ++ b) = List.length a + List.length b :=
  fun _ _ => List.length_append
/-- `heavy` under the name it is registered with ("utf8-heavy") -/
abbrev heavyP : Bytes × Decoration := ([117, 116, 102, 56, 45, 104, 101, 97, 118, 121], heavy)
theorem heavy_mem : heavyP ∈ builtins := by decide
theorem toy_box : ∀ c, boxCp c = true → (!inRanges [] c) = true ∧ (!inRanges [(94, 94)] c) = true :=
  boxCp_clusters _ _ (by decide) (by decide)

end C03mExample

end Tab
