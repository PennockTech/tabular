/-
  The render view after a pass with arbitrary callbacks.
  * the column properties of the rendered table, from the column chains (`irc_colProps`);
  * `canonView` of EVERY table depends on the world's `core` only, which the pass keeps; with both measurement
    flags off every view masks to its `canonView`, so up to the measurement fields the view after the pass is the
    view before it with the new column properties (`irc_view_mask`), and the content of every cell, the shape
    and the column count are those of before (`irc_view_content`);
  * the view of a table that shares no row with the rendered one is untouched.
-/
import Tabmodel.Proofs.E2EcbPass
import Tabmodel.Proofs.C13xLive
import Tabmodel.Proofs.E2EView
namespace Tab

/-- the value of key `k` after the callbacks `cbs` (in order) were invoked on a non-cell owner
    whose value was `init`: that of the last `.setProp _ k v` among them (`v = none` removes the
    key), `init` if there is none -/
def lastWrite (k : Key) (cbs : List Cb) (init : Option Val) : Option Val :=
  cbs.foldl (fun acc cb => match cb with
    | .setProp _ k' v => if k' = k then v else acc
    | _ => acc) init

def RTable.withCols (v : RTable) (al sk : List (Option Val)) : RTable := { v with colAlign := al, colSkip := sk }

/-- the cell a content triple describes, measurement fields zero -/
def RCell.ofContent (x : Bytes × Bool × Option Bytes) : RCell := { text := x.1, empty := x.2.1, json := x.2.2 }

/-! `withCols` touches nothing but the two property lists; stated here so that no proof has to unfold a view
    to see it. -/

theorem renderCsv_withCols (v : RTable) (al sk : List (Option Val)) : renderCsv (v.withCols al sk) = renderCsv v :=
  rfl

theorem renderHtml_withCols (cfg : HtmlCfg) (v : RTable) (al sk : List (Option Val)) :
    renderHtml cfg (v.withCols al sk) = renderHtml cfg v := rfl

theorem wfShape_withCols (v : RTable) (al sk : List (Option Val)) : WFShape (v.withCols al sk) ↔ WFShape v :=
  Iff.rfl

theorem mapCells_withCols (m : RCell → RCell) (v : RTable) (a s : List (Option Val)) :
    (v.withCols a s).mapCells m = (v.mapCells m).withCols a s := rfl

namespace E2Ecb
open World

/-! ### chains under a list of callbacks -/

theorem get_applyChain (ch : Chain) (cb : Cb) (k : Key) (h : ch.keys.Nodup) :
    (cb.applyChain ch).get k = (match cb with
      | .setProp _ k' v => if k' = k then v else ch.get k
      | _ => ch.get k) := by
  cases cb with
  | setProp id k' v =>
    simp only [Cb.applyChain]
    by_cases hk : k' = k
    · subst hk; simp only [if_true]; exact Chain.get_set ch k' v (Or.inr h)
    · simp only [hk, if_false]; exact Chain.get_set_ne ch v hk
  | _ => rfl

theorem nodup_applyChain (ch : Chain) (cb : Cb) (h : ch.keys.Nodup) : (cb.applyChain ch).keys.Nodup := by
  cases cb with
  | setProp id k' v => exact Chain.nodup_set ch k' v h
  | _ => exact h

theorem get_foldl_applyChain (cbs : List Cb) (ch : Chain) (k : Key) (h : ch.keys.Nodup) :
    (cbs.foldl Cb.applyChain ch).get k = lastWrite k cbs (ch.get k) := by
  induction cbs generalizing ch with
  | nil => rfl
  | cons cb cbs ih =>
    simp only [List.foldl_cons, lastWrite]
    rw [ih _ (nodup_applyChain ch cb h), get_applyChain ch cb k h]
    rfl

theorem get_foldl_applyChain_frame (cbs : List Cb) (ch : Chain) (k : Key) (h : ∀ cb ∈ cbs, cb.writes k = false) :
    (cbs.foldl Cb.applyChain ch).get k = ch.get k := by
  induction cbs generalizing ch with
  | nil => rfl
  | cons cb cbs ih =>
    simp only [List.foldl_cons]
    rw [ih _ (fun c hc => h c (by simp [hc]))]
    have hw := h cb (by simp)
    cases cb with
    | setProp id k' v =>
      have hk : k' ≠ k := by simpa [Cb.writes] using hw
      exact Chain.get_set_ne ch v hk
    | _ => rfl

theorem lastWrite_frame (k : Key) (cbs : List Cb) (init : Option Val) (h : ∀ cb ∈ cbs, cb.writes k = false) :
    lastWrite k cbs init = init := by
  induction cbs generalizing init with
  | nil => rfl
  | cons cb cbs ih =>
    have hw := h cb (by simp)
    have ih' := ih init (fun c hc => h c (by simp [hc]))
    cases cb with
    | setProp id k' v =>
      have hk : k' ≠ k := by simpa [Cb.writes] using hw
      simp only [lastWrite, List.foldl_cons, hk, if_false]
      exact ih'
    | _ => exact ih'

/-! ### column properties of the rendered table -/

theorem irc_colGet (dw : Measure) (w : World) (t : Nat) (k : Key) :
    ((invokeRenderCallbacks dw w t).table t).columns.map (·.props.get k) =
      (w.table t).columns.map (fun c => ((c.selfCbs.pre ++ c.selfCbs.post).foldl Cb.applyChain c.props).get k) := by
  have := congrArg (List.map (fun ch : Chain => ch.get k)) (irc_colProps dw w t)
  simpa [List.map_map, Function.comp_def] using this

theorem irc_colGet_lastWrite (dw : Measure) (w : World) (t : Nat)
    (hnd : ∀ c ∈ (w.table t).columns, c.props.keys.Nodup) (k : Key) :
    ((invokeRenderCallbacks dw w t).table t).columns.map (·.props.get k) =
      (w.table t).columns.map (fun c => lastWrite k (c.selfCbs.pre ++ c.selfCbs.post) (c.props.get k)) :=
  (irc_colGet dw w t k).trans (List.map_congr_left fun c hc => get_foldl_applyChain _ _ k (hnd c hc))

theorem irc_colGet_frame (dw : Measure) (w : World) (t : Nat) (k : Key)
    (h : ∀ c ∈ (w.table t).columns, ∀ cb ∈ c.selfCbs.pre ++ c.selfCbs.post, cb.writes k = false) :
    ((invokeRenderCallbacks dw w t).table t).columns.map (·.props.get k) =
      (w.table t).columns.map (·.props.get k) :=
  (irc_colGet dw w t k).trans (List.map_congr_left fun c hc => get_foldl_applyChain_frame _ _ k (h c hc))

/-! ### the masked view through the core -/

theorem canonView_core (dw : Measure) (tt md : Bool) (w : World) (t : Nat) (a s : List (Option Val)) :
    (canonView dw tt md w.core t).withCols a s = (canonView dw tt md w t).withCols a s := by
  unfold canonView RTable.withCols
  simp only [rd_nColumns, rd_header, rd_rows, RTable.mk.injEq, true_and, and_true]
  have hrow : ∀ r, (w.core.rowCells r).map (canonCell dw tt md w.core) =
      (w.rowCells r).map (canonCell dw tt md w) := by
    intro r
    rw [core_rowCells, List.map_map]
    rfl
  constructor
  · cases (w.table t).header with
    | none => rfl
    | some hr => simp only [Option.map_some, hrow]
  · apply List.map_congr_left
    intro r _
    simp only [rd_isSep, hrow]

theorem view_mask_of_core (dw : Measure) (tt md : Bool) {w' w : World} (hc : w'.core = w.core) (t : Nat)
    (hM : MeasAll dw tt md w' t) :
    (w'.view t).mapCells (RCell.mask tt md) =
      (canonView dw tt md w t).withCols (w'.view t).colAlign (w'.view t).colSkip :=
  calc (w'.view t).mapCells (RCell.mask tt md)
      = (canonView dw tt md w' t).withCols (w'.view t).colAlign (w'.view t).colSkip :=
        view_mask_eq_canon dw tt md w' t hM
    _ = (canonView dw tt md w t).withCols (w'.view t).colAlign (w'.view t).colSkip := by
        rw [← canonView_core, hc, canonView_core]

theorem measAll_ff (dw : Measure) (w : World) (t : Nat) : MeasAll dw false false w t :=
  fun _ _ _ _ => ⟨nofun, nofun⟩

theorem irc_view_mask (dw : Measure) (w : World) (t t2 : Nat) :
    ((invokeRenderCallbacks dw w t).view t2).mapCells (RCell.mask false false) =
      ((w.view t2).withCols ((invokeRenderCallbacks dw w t).view t2).colAlign
        ((invokeRenderCallbacks dw w t).view t2).colSkip).mapCells (RCell.mask false false) := by
  rw [mapCells_withCols, view_mask_eq_canon dw false false w t2 (measAll_ff dw w t2)]
  exact view_mask_of_core dw false false (irc_core dw w t) t2 (measAll_ff dw _ t2)

theorem mask_ff (c : RCell) : c.mask false false = RCell.ofContent c.content := rfl

theorem content_mask (tt md : Bool) (c : RCell) : (c.mask tt md).content = c.content := rfl

theorem irc_view_content (dw : Measure) (w : World) (t t2 : Nat) :
    ((invokeRenderCallbacks dw w t).view t2).ncols = (w.view t2).ncols ∧
    ((invokeRenderCallbacks dw w t).view t2).header.map (·.map RCell.content) =
      (w.view t2).header.map (·.map RCell.content) ∧
    ((invokeRenderCallbacks dw w t).view t2).rows.map (·.map (·.map RCell.content)) =
      (w.view t2).rows.map (·.map (·.map RCell.content)) := by
  have h := irc_view_mask dw w t t2
  have hn := congrArg RTable.ncols h
  have hh := congrArg (fun v => v.header.map (·.map RCell.content)) h
  have hr := congrArg (fun v => v.rows.map (·.map (·.map RCell.content))) h
  simp only [RTable.mapCells, RTable.withCols, Option.map_map, List.map_map, Function.comp_def, content_mask]
    at hn hh hr
  exact ⟨hn, hh, hr⟩

/-! ### the view of another table -/

theorem rcell_congr {w' w : World} (h : w'.items = w.items) : w'.rcell = w.rcell := by
  funext c
  unfold World.rcell World.item
  rw [h]

theorem view_congr {w' w : World} (t2 : Nat) (htb : (w'.table t2).noErrs = (w.table t2).noErrs)
    (hit : w'.items = w.items) (hrow : ∀ r ∈ passRows w t2, w'.row r = w.row r) : w'.view t2 = w.view t2 := by
  obtain ⟨hn, hh, hr, hc⟩ := Table.eq_of_noErrs_eq htb
  have hcells : ∀ r ∈ passRows w t2, w'.rowCells r = w.rowCells r := by
    intro r hr'; unfold World.rowCells; rw [hrow r hr']
  unfold World.view
  simp only [hn, hh, hr, hc, rcell_congr hit, RTable.mk.injEq, true_and, and_true]
  constructor
  · cases hd : (w.table t2).header with
    | none => rfl
    | some r0 =>
      simp only [Option.map_some]
      rw [hcells r0 (by unfold passRows; rw [hd]; simp)]
  · apply List.map_congr_left
    intro r hr'
    have hm : r ∈ passRows w t2 := by unfold passRows; simp [hr']
    rw [hrow r hm, hcells r hm]

theorem irc_view_other (dw : Measure) (w : World) (t t2 : Nat) (hne : t2 ≠ t)
    (hd : ∀ r ∈ passRows w t2, r ∉ passRows w t) :
    (invokeRenderCallbacks dw w t).view t2 = w.view t2 :=
  view_congr t2 (irc_table_other dw w t t2 hne) (irc_items dw w t)
    (fun r hr => irc_row_other dw w t r (hd r hr))

end E2Ecb
end Tab
