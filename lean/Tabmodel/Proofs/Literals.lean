/- `bytesOfString` on string literals.  `ByteArray.toList` is a well-founded loop: the elaborator's `decide`
   and `rfl` do not unfold it, and the kernel (`decide +kernel`) does, but at several times the cost of
   `data.toList`, to which it is shown equal here; evaluations of literals rewrite with that equation first.
   Also the instance that makes deciding `b ∈ l` for a byte list cheap. -/
import Tabmodel.Model.Markdown
namespace Tab

/-- Instance search finds `LawfulBEq UInt8` (wanted whenever `b ∈ l` is decided for `l : Bytes`)
only after a long walk through the order classes; the files that decide many such goals take this
as a local instance. -/
theorem lawfulBEq_uint8 : LawfulBEq UInt8 := inferInstance

theorem ByteArray_toList_loop (bs : ByteArray) (i : Nat) (r : List UInt8) :
    ByteArray.toList.loop bs i r = r.reverse ++ bs.data.toList.drop i := by
  fun_induction ByteArray.toList.loop bs i r with
  | case1 i r h ih =>
    rw [ih]
    have hi : i < bs.data.toList.length := by
      rw [Array.length_toList, ByteArray.size_data]; exact h
    rw [List.drop_eq_getElem_cons hi]
    have hg : bs.get! i = bs.data.toList[i] := by
      cases bs with
      | mk d =>
        show d[i]! = d.toList[i]
        have : i < d.size := by simpa using hi
        rw [getElem!_pos d i this]; simp
    rw [hg]; simp
  | case2 i r h =>
    have : bs.data.toList.length ≤ i := by
      rw [Array.length_toList, ByteArray.size_data]; omega
    rw [List.drop_eq_nil_of_le this]; simp

theorem ByteArray_toList (bs : ByteArray) : bs.toList = bs.data.toList := by
  simp [ByteArray.toList, ByteArray_toList_loop]

theorem bytesOfString_ofList (l : List Char) :
    bytesOfString (String.ofList l) = l.flatMap String.utf8EncodeChar := by
  simp [bytesOfString, String.toUTF8, ByteArray_toList, List.utf8Encode]

theorem bytesOfString_append (a b : String) :
    bytesOfString (a ++ b) = bytesOfString a ++ bytesOfString b := by
  simp [bytesOfString, String.toUTF8, ByteArray_toList]

theorem bytesOfString_eq (s : String) : bytesOfString s = s.toList.flatMap String.utf8EncodeChar := by
  rw [← bytesOfString_ofList, String.ofList_toList]

end Tab
