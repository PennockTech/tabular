/- C03 / C04: layout facts about the spec chunk list (column widths, slot widths, line kinds). -/
import Tabmodel.Proofs.TextRender
namespace Tab

theorem colWidth_ge (v : RTable) (i : Nat) (c : RCell) (hc : c ∈ v.colCells i) :
    c.cellWidth ≤ (v.colWidth i : Int) := by
  have : c.cellWidth.toNat ≤ v.colWidth i :=
    le_maxNat _ _ (List.mem_map.mpr ⟨c, hc, rfl⟩)
  omega

theorem colWidth_attained (v : RTable) (i : Nat) :
    v.colWidth i = 0 ∨ ∃ c ∈ v.colCells i, c.cellWidth = (v.colWidth i : Int) := by
  rcases maxNat_attained ((v.colCells i).map (fun c => c.cellWidth.toNat)) with h | h
  · exact Or.inl h
  · obtain ⟨c, hc, he⟩ := List.mem_map.mp h
    by_cases h0 : v.colWidth i = 0
    · exact Or.inl h0
    · right
      refine ⟨c, hc, ?_⟩
      have : c.cellWidth.toNat = v.colWidth i := he
      omega

theorem colWidths_getElem? (v : RTable) (i : Nat) (h : i < v.ncols) : v.colWidths[i]? = some (v.colWidth i) :=
  range_map_getElem? _ _ _ h

theorem effAligns_getD (v : RTable) (i : Nat) (h : i < v.ncols) : v.effAligns.getD i 0 = v.effAlign i := by
  simp [RTable.effAligns, List.getD_eq_getElem?_getD, range_map_getElem? _ _ _ h]

theorem mem_colCells (v : RTable) (cells : List RCell) (i : Nat) (c : RCell)
    (hrow : v.header = some cells ∨ some cells ∈ v.rows) (hc : cells[i]? = some c) : c ∈ v.colCells i := by
  unfold RTable.colCells
  rcases hrow with h | h
  · apply List.mem_append_left; rw [h]; simp [hc]
  · apply List.mem_append_right
    unfold bodyColCells
    exact List.mem_filterMap.mpr ⟨some cells, h, by simp [hc]⟩

theorem lineSlots_getElem? (cw aligns : List Nat) (g : Nat → WidthString) (i : Nat) :
    (lineSlots cw aligns g)[i]? = cw[i]?.map (fun w => slotD (g i) w (aligns.getD i 0)) := by
  unfold lineSlots
  rw [List.getElem?_map, List.getElem?_zipIdx]
  cases cw[i]? <;> simp

theorem lineSlots_widths (cw aligns : List Nat) (g : Nat → WidthString)
    (h : ∀ (i w : Nat), cw[i]? = some w → 0 ≤ (g i).w ∧ (g i).w ≤ (w : Int)) :
    (lineSlots cw aligns g).map SlotD.width = cw := by
  apply List.ext_getElem?
  intro i
  rw [List.getElem?_map, lineSlots_getElem?]
  cases hc : cw[i]? with
  | none => rfl
  | some w =>
    have := h i w hc
    simp [slotD_width _ _ _ this.1 this.2]

theorem mem_rowChunks (L I R : Bytes) (cw al : List Nat) (cells : List RCell) (n : Nat) (ch : Bytes)
    (h : ch ∈ rowChunks L I R cw al cells n) :
    ∃ k, k < rowLineCount cells n ∧ ch = contentLine L I R (rowSlots cw al cells k) := by
  unfold rowChunks at h
  obtain ⟨k, hk, rfl⟩ := List.mem_map.mp h
  exact ⟨k, by simpa using hk, rfl⟩

/-- the five rule lines, by their position in `ruleGlyphs` -/
theorem LineKind.rules (d : Decoration) (v : RTable) :
    LineKind d v (lineHeaderTop d v.colWidths) ∧ LineKind d v (lineHeaderBodySep d v.colWidths) ∧
    LineKind d v (lineBodyTop d v.colWidths) ∧ LineKind d v (lineBottom d v.colWidths) ∧
    LineKind d v (lineSeparator d v.colWidths) :=
  ⟨.rule _ _ _ _ (.head _), .rule _ _ _ _ (.tail _ (.head _)), .rule _ _ _ _ (.tail _ (.tail _ (.head _))),
   .rule _ _ _ _ (.tail _ (.tail _ (.tail _ (.head _)))),
   .rule _ _ _ _ (.tail _ (.tail _ (.tail _ (.tail _ (.head _)))))⟩

theorem specChunks_kinds (d : Decoration) (v : RTable) (ch : Bytes) (h : ch ∈ specChunks d v) :
    LineKind d v ch := by
  obtain ⟨htop, hsep, hbtop, hbot, hrule⟩ := LineKind.rules d v
  unfold specChunks at h
  simp only [List.mem_append, List.mem_singleton] at h
  rcases h with (h | h) | h
  · cases hh : v.header with
    | none =>
      rw [hh, List.mem_singleton] at h
      exact h ▸ hbtop
    | some hs =>
      rw [hh] at h
      simp only [List.mem_cons, List.mem_append, List.not_mem_nil, or_false] at h
      rcases h with h | h | h
      · exact h ▸ htop
      · obtain ⟨k, hk, rfl⟩ := mem_rowChunks _ _ _ _ _ _ _ _ h
        exact .header hs k hh hk
      · exact h ▸ hsep
  · obtain ⟨r, hr, hc⟩ := List.mem_flatMap.mp h
    cases r with
    | none => exact List.mem_singleton.mp hc ▸ hrule
    | some cells =>
      obtain ⟨k, hk, rfl⟩ := mem_rowChunks _ _ _ _ _ _ _ _ hc
      exact .body cells k hr hk
  · exact h ▸ hbot

theorem mem_zipWith_mk {ls : List Bytes} {wd : List Int} {x : WidthString}
    (h : x ∈ List.zipWith (fun l w => ({ s := l, w := w } : WidthString)) ls wd) : x.w ∈ wd := by
  rw [← List.map_uncurry_zip_eq_zipWith] at h
  obtain ⟨⟨l, w⟩, hm, rfl⟩ := List.mem_map.mp h
  exact (List.of_mem_zip hm).2

theorem map_s_zipWith_mk (ls : List Bytes) (wd : List Int) (hl : wd.length = ls.length) :
    (List.zipWith (fun l w => ({ s := l, w := w } : WidthString)) ls wd).map (·.s) = ls := by
  rw [List.map_zipWith, ← List.map_uncurry_zip_eq_zipWith]
  exact List.map_fst_zip (Nat.le_of_eq hl.symm)

theorem CellOK.nonneg {dw : Measure} {c : RCell} (h : CellOK dw c) : ∀ x ∈ c.lws, 0 ≤ x.w := by
  obtain ⟨_, wd, k, _, he, hnn, _⟩ := h
  intro x hx
  rw [he] at hx
  rcases List.mem_append.mp hx with hx | hx
  · exact hnn _ (mem_zipWith_mk hx)
  · rw [List.eq_of_mem_replicate hx]; exact Int.le_refl 0

/-- C04: entry `k` of a measured cell carries exactly text line `k` (or nothing) -/
theorem CellOK.text {dw : Measure} {c : RCell} (h : CellOK dw c) (k : Nat) :
    (c.lws.getD k blankWS).s = (lines c.text).getD k [] := by
  obtain ⟨_, wd, n, hl, he, _, _⟩ := h
  have hs : c.lws.map (·.s) = lines c.text ++ List.replicate n [] := by
    rw [he, List.map_append, map_s_zipWith_mk _ _ hl, List.map_replicate]; rfl
  have h1 : (c.lws.getD k blankWS).s = (c.lws.map (·.s)).getD k [] := by
    rw [List.getD_eq_getElem?_getD, List.getD_eq_getElem?_getD, List.getElem?_map]
    cases c.lws[k]? <;> rfl
  rw [h1, hs, List.getD_eq_getElem?_getD, List.getD_eq_getElem?_getD, List.getElem?_append]
  split
  · rfl
  · rename_i hk
    rw [List.getElem?_eq_none (Nat.not_lt.mp hk), List.getElem?_replicate]
    split <;> rfl

theorem ViewOK.nonneg {dw : Measure} {v : RTable} (h : ViewOK dw v) :
    ∀ c ∈ v.allCells, ∀ x ∈ c.lws, 0 ≤ x.w := fun c hc => (h c hc).1.nonneg

theorem rowSlots_widths (dw : Measure) (v : RTable) (cells : List RCell) (k : Nat)
    (hv : ViewOK dw v) (hrow : v.header = some cells ∨ some cells ∈ v.rows) :
    (rowSlots v.colWidths v.effAligns cells k).map SlotD.width = v.colWidths := by
  unfold rowSlots
  apply lineSlots_widths
  intro i w hw
  have hnn := cellLineWS_nonneg cells (fun c hc => (hv c (mem_allCells v cells c hrow hc)).1.nonneg) i k
  refine ⟨hnn, ?_⟩
  have hi : i < v.ncols := by
    have := (List.getElem?_eq_some_iff.mp hw).1
    rw [colWidths_length] at this; exact this
  rw [colWidths_getElem? v i hi] at hw
  cases hw
  cases hc : cells[i]? with
  | none => simp [cellLineWS, hc, blankWS]
  | some c =>
    have hm := mem_allCells v cells c hrow (List.mem_of_getElem? hc)
    have h1 := cellLineWS_fits cells i k c hc (hv c hm).1.1 (hv c hm).2
    have h2 := colWidth_ge v i c (mem_colCells v cells i c hrow hc)
    omega

end Tab
