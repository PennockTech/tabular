/-
  Reading a world for its callbacks.  Worlds that differ in the event log alone (`World.addEv`) read alike; the
  callback lists the traversals fetch field by field are the slots' lists (`colCellCbs_eq`, `cellOwn_eq`,
  `colSelf_eq`); invoking `.log` callbacks only extends the log (`invoke_log`); and `LogOnlyAll`, which evaluation
  decides, gives the slot-wise `LogOnlyAt`.
-/
import Tabmodel.Proofs.C13Spec
import Tabmodel.Proofs.Traverse
namespace Tab
open World
namespace C13

@[simp] theorem logIds_nil : logIds [] = [] := rfl
@[simp] theorem logIds_cons_log (id : Nat) (cbs : List Cb) : logIds (.log id :: cbs) = id :: logIds cbs := rfl
theorem logIds_append (a b : List Cb) : logIds (a ++ b) = logIds a ++ logIds b := by
  simp [logIds, List.filterMap_append]
@[simp] theorem ev_nil (tgt : Target) : logEvents [] tgt = [] := rfl
@[simp] theorem ev_cons_log (id : Nat) (cbs : List Cb) (tgt : Target) :
    logEvents (.log id :: cbs) tgt = ⟨id, tgt⟩ :: logEvents cbs tgt := rfl

@[simp] theorem CbSet.empty_at (tm : Time) : ({} : CbSet).at tm = [] := by cases tm <;> rfl

@[simp] theorem addEv_nil (w : World) : w.addEv [] = w := by
  simp [World.addEv]
@[simp] theorem addEv_addEv (w : World) (a b : List Event) : (w.addEv a).addEv b = w.addEv (a ++ b) := by
  simp [World.addEv, List.append_assoc]
@[simp] theorem addEv_events (w : World) (a : List Event) : (w.addEv a).events = w.events ++ a := rfl
theorem addEv_frame (w : World) (a : List Event) : { w.addEv a with events := w.events } = w := rfl

@[simp] theorem table_addEv (w : World) (a : List Event) (t : Nat) : (w.addEv a).table t = w.table t := rfl
@[simp] theorem row_addEv (w : World) (a : List Event) (r : Nat) : (w.addEv a).row r = w.row r := rfl
@[simp] theorem rowCells_addEv (w : World) (a : List Event) (r : Nat) : (w.addEv a).rowCells r = w.rowCells r := rfl
@[simp] theorem cell?_addEv (w : World) (a : List Event) (r c : Nat) : (w.addEv a).cell? r c = w.cell? r c := rfl
@[simp] theorem column?_addEv (w : World) (a : List Event) (t n : Nat) : (w.addEv a).column? t n = w.column? t n := rfl
@[simp] theorem columnOf_addEv (w : World) (a : List Event) (r c : Nat) : (w.addEv a).columnOf r c = w.columnOf r c := rfl
@[simp] theorem colCellCbs_addEv (w : World) (a : List Event) (tc : Option (Nat × Nat)) (tm : Time) :
    (w.addEv a).colCellCbs tc tm = w.colCellCbs tc tm := rfl
@[simp] theorem cbSet_addEv (w : World) (a : List Event) (s : CbSlot) : (w.addEv a).cbSet s = w.cbSet s := by
  cases s <;> rfl
@[simp] theorem cbsAt_addEv (w : World) (a : List Event) (s : CbSlot) (tm : Time) :
    (w.addEv a).cbsAt s tm = w.cbsAt s tm := by simp [World.cbsAt]

theorem getD_map_at {α : Type} (o : Option α) (f : α → CbSet) (tm : Time) :
    (o.map (fun x => (f x).at tm)).getD [] = ((o.map f).getD {}).at tm := by
  cases o <;> simp

theorem colCellCbs_eq (w : World) (r i : Nat) (tm : Time) :
    w.colCellCbs (w.columnOf r i) tm = colCellAt w r i tm := by
  unfold World.colCellCbs colCellAt World.cbsAt World.cbSet
  cases w.columnOf r i with
  | none => rfl
  | some p =>
    obtain ⟨t', n⟩ := p
    exact getD_map_at _ _ _

theorem cellOwn_eq (w : World) (r i : Nat) (tm : Time) :
    ((w.cell? r i).map (·.cbs.at tm)).getD [] = w.cbsAt (.cellOwn r i) tm :=
  getD_map_at _ _ _

theorem colSelf_eq (w : World) (t n : Nat) (tm : Time) :
    ((w.column? t n).map (·.selfCbs.at tm)).getD [] = w.cbsAt (.colSelf t n) tm :=
  getD_map_at _ _ _

theorem colCellAt_log {w : World} (h : LogOnlyAt w) (r i : Nat) (tm : Time) :
    ∀ cb ∈ colCellAt w r i tm, cb.isLog = true := by
  unfold colCellAt
  cases w.columnOf r i with
  | none => simp
  | some p => exact h _ _

theorem invoke_log (dw : Measure) (w : World) (cbs : List Cb) (tgt : Target) (tk : Taker)
    (h : ∀ cb ∈ cbs, cb.isLog = true) : invoke dw w cbs tgt tk = w.addEv (logEvents cbs tgt) := by
  induction cbs generalizing w with
  | nil => exact (addEv_nil w).symm
  | cons cb cbs ih =>
    cases cb with
    | log id =>
      rw [invoke_cons, ih _ (fun c hc => h c (List.mem_cons_of_mem _ hc))]
      simp [invokeOne, World.addEv, List.append_assoc]
    | _ => exact absurd (h _ List.mem_cons_self) (by simp [Cb.isLog])

theorem CbSet.allLog_at {s : CbSet} (h : s.allLog = true) (tm : Time) : ∀ cb ∈ s.at tm, cb.isLog = true := by
  simp only [CbSet.allLog, Bool.and_eq_true, List.all_eq_true] at h
  cases tm
  · exact h.1.1.1
  · exact h.1.1.2
  · exact h.1.2
  · exact h.2

theorem CbSet.allLog_empty : ({} : CbSet).allLog = true := rfl

theorem Table.allLog_default : ({} : Table).allLog = true := rfl
theorem Row.allLog_default : ({} : Row).allLog = true := rfl

theorem logOnlyAll_table {w : World} (h : LogOnlyAll w) (t : Nat) : (w.table t).allLog = true := by
  unfold World.table
  rw [List.getD_eq_getElem?_getD]
  cases ht : w.tables[t]? with
  | none => rfl
  | some tb =>
    have := List.all_eq_true.mp h.1 tb (List.mem_of_getElem? ht)
    simpa using this

theorem logOnlyAll_row {w : World} (h : LogOnlyAll w) (r : Nat) : (w.row r).allLog = true := by
  unfold World.row
  rw [List.getD_eq_getElem?_getD]
  cases hr : w.rows[r]? with
  | none => rfl
  | some rw =>
    have := List.all_eq_true.mp h.2.1 rw (List.mem_of_getElem? hr)
    simpa using this

theorem allLog_getD {α : Type} (o : Option α) (f : α → CbSet) (h : ∀ x, o = some x → (f x).allLog = true) :
    ((o.map f).getD {}).allLog = true := by
  cases o with
  | none => rfl
  | some x => exact h x rfl

theorem logOnlyAll_at {w : World} (h : LogOnlyAll w) : LogOnlyAt w := by
  intro s tm
  refine CbSet.allLog_at ?_ tm
  have hT := fun t => logOnlyAll_table h t
  have hR := fun r => logOnlyAll_row h r
  simp only [Table.allLog, Row.allLog, Column.allLog, Bool.and_eq_true, List.all_eq_true] at hT hR
  cases s with
  | tableSelf t => exact (hT t).1.1.1
  | tableCell t => exact (hT t).1.1.2
  | tableRow t => exact (hT t).1.2
  | colSelf t n => exact allLog_getD _ _ (fun c hc => ((hT t).2 c (List.mem_of_getElem? hc)).1)
  | colCell t n => exact allLog_getD _ _ (fun c hc => ((hT t).2 c (List.mem_of_getElem? hc)).2)
  | rowSelf r => exact (hR r).1.1
  | rowCell r => exact (hR r).1.2
  | cellOwn r i => exact allLog_getD _ _ (fun c hc => (hR r).2 c (List.mem_of_getElem? hc))
  | copyOwn n => exact allLog_getD _ _ (fun c hc => List.all_eq_true.mp h.2.2 c (List.mem_of_getElem? hc))

end C13
end Tab
