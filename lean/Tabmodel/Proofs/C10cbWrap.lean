/-
  C10cb helper lemmas: C10 for ARBITRARY user callbacks (no `LogOnly`).

  * `X.Wrap` adds only measuring callbacks to a pass: `UserKeysOnly` is kept, in both directions;
  * `CbStable w w'`: same `bare` form (Proofs/StableDefs.lean: every callback set, the log and the three
    private measurement properties forgotten), same column records, `UserKeysOnly` for the same tables;
  * `render_congr_cb`: two worlds so related, both with the measuring callback the renderer needs and
    both `UserKeysOnly`, emit the same program.
-/
import Tabmodel.Props.E2Ecb
namespace Tab
open World hiding CellOK
open E2Ecb
namespace C10cb

/-! ### `UserKeysOnly` as a Boolean fold over the schedule -/

def stepsOK (ss : List Step) : Bool := ss.all (fun s => s.cb.userKeyOnly)

theorem userKeysOnly_iff (w : World) (t : Nat) : w.UserKeysOnly t ↔ stepsOK (passSteps w t) = true := by
  unfold World.UserKeysOnly stepsOK
  rw [List.all_eq_true]

theorem stepsOK_append (a b : List Step) : stepsOK (a ++ b) = (stepsOK a && stepsOK b) := by
  unfold stepsOK; rw [List.all_append]

theorem stepsOK_stepsOf (cbs : List Cb) (tgt : Target) (tk : Taker) :
    stepsOK (stepsOf cbs tgt tk) = cbs.all Cb.userKeyOnly := by
  unfold stepsOK stepsOf
  rw [List.all_map]
  rfl

theorem stepsOK_flatMap {α : Type} (l : List α) (f : α → List Step) :
    stepsOK (l.flatMap f) = l.all (fun a => stepsOK (f a)) := by
  unfold stepsOK; rw [List.all_flatMap]

/-! ### what `wrapEffect` changes of a table -/

/-- the callbacks `Wrap` appends to list `tm` of table `c`'s cell callbacks -/
def wrapExtra (w : World) (k : WKind) (t c : Nat) (tm : Time) : List Cb :=
  match wrapCb k with
  | some cb => if (t = c ∧ t < w.tables.length) ∧ tm = .render then [cb] else []
  | none => []

theorem wrapExtra_all (w : World) (k : WKind) (t c : Nat) (tm : Time) :
    (wrapExtra w k t c tm).all Cb.userKeyOnly = true := by
  unfold wrapExtra
  cases k <;> simp only [wrapCb, List.all_nil] <;> split <;> rfl

theorem cellCbs_at_wrapEffect (w : World) (k : WKind) (t c : Nat) (tm : Time) :
    ((w.wrapEffect k t).table c).cellCbs.at tm = (w.table c).cellCbs.at tm ++ wrapExtra w k t c tm := by
  rw [table_wrapEffect]
  unfold wrapExtra
  cases wrapCb k with
  | none => simp
  | some cb =>
    simp only
    by_cases h : t = c ∧ t < w.tables.length
    · obtain ⟨rfl, hlt⟩ := h
      cases tm <;> simp [CbSet.push, CbSet.at, hlt]
    · simp only [h, if_false, false_and, List.append_nil]

theorem selfCbs_wrapEffect (w : World) (k : WKind) (t c : Nat) :
    ((w.wrapEffect k t).table c).selfCbs = (w.table c).selfCbs := by
  rw [table_wrapEffect_skel]

theorem columns_wrapEffect (w : World) (k : WKind) (t c : Nat) :
    ((w.wrapEffect k t).table c).columns = (w.table c).columns := by
  rw [table_wrapEffect_skel]

theorem header_wrapEffect (w : World) (k : WKind) (t c : Nat) :
    ((w.wrapEffect k t).table c).header = (w.table c).header := by
  rw [table_wrapEffect_skel]

theorem rows_wrapEffect (w : World) (k : WKind) (t c : Nat) :
    ((w.wrapEffect k t).table c).rows = (w.table c).rows := by
  rw [table_wrapEffect_skel]

theorem column?_wrapEffect (w : World) (k : WKind) (t c n : Nat) :
    (w.wrapEffect k t).column? c n = w.column? c n := by
  unfold World.column?; rw [columns_wrapEffect]

/-! ### the schedule after a wrap -/

theorem stepsOK_cellSteps_wrapEffect (w : World) (k : WKind) (t c r i : Nat) :
    stepsOK (cellSteps (w.wrapEffect k t) c r i) = stepsOK (cellSteps w c r i) := by
  unfold cellSteps
  simp only [stepsOK_append, stepsOK_stepsOf, row_wrapEffect, cell?_wrapEffect, columnOf_wrapEffect,
    colCellCbs_wrapEffect, cellCbs_at_wrapEffect, List.all_append, wrapExtra_all, Bool.and_true]

theorem stepsOK_rowSteps_wrapEffect (w : World) (k : WKind) (t c r : Nat) :
    stepsOK (rowSteps (w.wrapEffect k t) c r) = stepsOK (rowSteps w c r) := by
  unfold rowSteps
  simp only [stepsOK_append, stepsOK_stepsOf, stepsOK_flatMap, row_wrapEffect, rowCells_wrapEffect,
    stepsOK_cellSteps_wrapEffect]

theorem colsSteps_wrapEffect (w : World) (k : WKind) (t c : Nat) (tm : Time) :
    colsSteps (w.wrapEffect k t) c tm = colsSteps w c tm := by
  unfold colsSteps colSteps
  simp only [columns_wrapEffect, column?_wrapEffect]

theorem stepsOK_passSteps_wrapEffect (w : World) (k : WKind) (t c : Nat) :
    stepsOK (passSteps (w.wrapEffect k t) c) = stepsOK (passSteps w c) := by
  unfold passSteps passRows
  simp only [stepsOK_append, stepsOK_stepsOf, stepsOK_flatMap, selfCbs_wrapEffect, colsSteps_wrapEffect,
    header_wrapEffect, rows_wrapEffect, stepsOK_rowSteps_wrapEffect]

theorem userKeysOnly_wrapEffect (w : World) (k : WKind) (t c : Nat) :
    (w.wrapEffect k t).UserKeysOnly c ↔ w.UserKeysOnly c := by
  rw [userKeysOnly_iff, userKeysOnly_iff, stepsOK_passSteps_wrapEffect]

/-! ### the relation kept by wraps -/

/-- `w'` shows the same contents and the same column records as `w`, and its passes name a private
    key iff `w`'s do (true of `w` after any wraps) -/
structure CbStable (w w' : World) : Prop where
  bare : w'.bare = w.bare
  cols : ∀ t, (w'.table t).columns = (w.table t).columns
  user : ∀ t, w'.UserKeysOnly t ↔ w.UserKeysOnly t
  needs : ∀ wr, Needs w wr → Needs w' wr
  ntables : w'.tables.length = w.tables.length

theorem CbStable.refl (w : World) : CbStable w w := ⟨rfl, fun _ => rfl, fun _ => Iff.rfl, fun _ h => h, rfl⟩

theorem CbStable.trans {a b c : World} (h1 : CbStable a b) (h2 : CbStable b c) : CbStable a c :=
  ⟨h2.bare.trans h1.bare, fun t => (h2.cols t).trans (h1.cols t), fun t => (h2.user t).trans (h1.user t),
   fun wr h => h2.needs wr (h1.needs wr h), h2.ntables.trans h1.ntables⟩

theorem CbStable.wrap (w : World) (k : WKind) (t : Nat) : CbStable w (w.wrapEffect k t) :=
  ⟨bare_wrapEffect w k t, fun c => columns_wrapEffect w k t c, fun c => userKeysOnly_wrapEffect w k t c,
   fun wr h => needs_wrapEffect w k t wr h, ntables_wrapEffect w k t⟩

theorem cbStable_wraps (t : Nat) (ks : List WKind) (w : World) :
    CbStable w (ks.foldl (fun w k => w.wrapEffect k t) w) := by
  suffices h : ∀ w', CbStable w w' → CbStable w (ks.foldl (fun w k => w.wrapEffect k t) w') from
    h w (CbStable.refl w)
  induction ks with
  | nil => intro w' h; exact h
  | cons k ks ih =>
    intro w' h
    rw [List.foldl_cons]
    exact ih _ (h.trans (CbStable.wrap w' k t))

/-! ### rendering two related worlds -/

theorem canonView_of_bare (dw : Measure) (tt md : Bool) {w1 w2 : World} (hb : w1.bare = w2.bare) (t : Nat) :
    canonView dw tt md w1 t = canonView dw tt md w2 t := by
  rw [← canonView_bare dw tt md w1, hb, canonView_bare]

theorem postCols_congr (dw : Measure) {w1 w2 : World} (t : Nat) (hc : (w1.table t).columns = (w2.table t).columns) :
    ((invokeRenderCallbacks dw w1 t).view t).colAlign = ((invokeRenderCallbacks dw w2 t).view t).colAlign ∧
    ((invokeRenderCallbacks dw w1 t).view t).colSkip = ((invokeRenderCallbacks dw w2 t).view t).colSkip := by
  simp only [view_colAlign, view_colSkip, irc_colGet, hc, and_self]

theorem view_mask_of_bare (dw : Measure) {w1 w2 : World} (hb : w1.bare = w2.bare) (t : Nat) :
    (w1.view t).mapCells (RCell.mask false false) = (w2.view t).mapCells (RCell.mask false false) := by
  have hM : ∀ w : World, MeasAll dw false false w t :=
    fun w r _ ce _ => ⟨fun h => Bool.noConfusion h, fun h => Bool.noConfusion h⟩
  rw [view_mask_eq_canon dw false false w1 t (hM w1), view_mask_eq_canon dw false false w2 t (hM w2),
    canonView_of_bare dw false false hb t]

theorem render_congr_cb (x : Ext) (w1 w2 : World) (wr : Wrapper) (hb : w1.bare = w2.bare)
    (hc : (w1.table wr.core).columns = (w2.table wr.core).columns)
    (hU1 : w1.UserKeysOnly wr.core) (hU2 : w2.UserKeysOnly wr.core) (hN1 : Needs w1 wr) (hN2 : Needs w2 wr) :
    (renderTo x w1 wr).2 = (renderTo x w2 wr).2 := by
  obtain ⟨ha, hs⟩ := postCols_congr x.dw wr.core hc
  cases hk : wr.kind with
  | text =>
    by_cases hd : wr.decor = emptyDecoration
    · unfold renderTo; rw [hk]; simp only [hd, if_true]
    · rw [(e2ecb_measured_view x w1 wr hU1 hN1).1 hk hd, (e2ecb_measured_view x w2 wr hU2 hN2).1 hk hd,
        canonView_of_bare x.dw true false hb, ha, hs]
  | markdown =>
    rw [(e2ecb_measured_view x w1 wr hU1 hN1).2 hk, (e2ecb_measured_view x w2 wr hU2 hN2).2 hk,
      canonView_of_bare x.dw false true hb, ha, hs]
  | csv =>
    rw [(e2ecb_render_unmeasured x w1 wr).1 hk, (e2ecb_render_unmeasured x w2 wr).1 hk]
    exact of_mapCells_eq (renderCsv_mapCells (RCell.mask false false) (fun _ => rfl))
      (view_mask_of_bare x.dw hb wr.core)
  | html =>
    rw [(e2ecb_render_unmeasured x w1 wr).2.1 hk, (e2ecb_render_unmeasured x w2 wr).2.1 hk]
    exact of_mapCells_eq (renderHtml_mapCells wr.html (RCell.mask false false) (fun _ => rfl))
      (view_mask_of_bare x.dw hb wr.core)
  | json =>
    rw [(e2ecb_render_unmeasured x w1 wr).2.2 hk, (e2ecb_render_unmeasured x w2 wr).2.2 hk, ha, hs]
    exact of_mapCells_eq (renderJson_mapCells x.js (RCell.mask false false) (fun _ => rfl) (fun _ => rfl) (fun _ => rfl))
      (by rw [mapCells_withCols, mapCells_withCols, view_mask_of_bare x.dw hb])

/-- two worlds `CbStable`-related to the same `w` emit the same program as soon as both have the measuring
    callback the renderer needs (`w` itself need not) -/
theorem CbStable.render_congr {w w1 w2 : World} (h1 : CbStable w w1) (h2 : CbStable w w2) (x : Ext) (wr : Wrapper)
    (hU : w.UserKeysOnly wr.core) (hN1 : Needs w1 wr) (hN2 : Needs w2 wr) :
    (renderTo x w1 wr).2 = (renderTo x w2 wr).2 :=
  render_congr_cb x w1 w2 wr (h1.bare.trans h2.bare.symm) ((h1.cols _).trans (h2.cols _).symm)
    ((h1.user _).mpr hU) ((h2.user _).mpr hU) hN1 hN2

theorem CbStable.render_eq {w w' : World} (h : CbStable w w') (x : Ext) (wr : Wrapper)
    (hU : w.UserKeysOnly wr.core) (hN : Needs w wr) : (renderTo x w' wr).2 = (renderTo x w wr).2 :=
  h.render_congr (CbStable.refl w) x wr hU (h.needs wr hN) hN

end C10cb
end Tab
