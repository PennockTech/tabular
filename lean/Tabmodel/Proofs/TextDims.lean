/- C03 / C04: what the measuring callback (`World.dimProps`, texttable `dimensionSetter`) establishes. -/
import Tabmodel.Proofs.TextLayout
import Tabmodel.Proofs.Chain
import Tabmodel.Proofs.Store
namespace Tab
open World

theorem zipWith_map_mk (ls : List Bytes) (f : Bytes → Int) :
    List.zipWith (fun l w => ({ s := l, w := w } : WidthString)) ls (ls.map f)
      = ls.map (fun l => { s := l, w := f l }) := by
  induction ls with
  | nil => rfl
  | cons l t ih => simp [ih]

theorem termWidth_eq (c : Cell) : c.termWidth = max c.width 0 := by
  unfold Cell.termWidth
  by_cases h : c.width < 0
  · rw [if_pos h, Int.max_eq_right (Int.le_of_lt h)]
  · rw [if_neg h, Int.max_eq_left (Int.not_lt.mp h)]

theorem termWidth_nonneg (c : Cell) : 0 ≤ c.termWidth := by
  rw [termWidth_eq]; exact Int.le_max_right _ _

/-- the width `dimProps` lays line `l` out with -/
def dimLineW (dw : Measure) (it : Item) (c : Cell) (l : Bytes) : Int :=
  if it.mWidth.isSome && c.lines.length == 1 then c.termWidth else ((dw l : Nat) : Int)

theorem dimLineW_declared (dw : Measure) {it : Item} {c : Cell} (l : Bytes)
    (hdec : it.mWidth.isSome = true) (h1 : c.lines.length = 1) : dimLineW dw it c l = c.termWidth := by
  unfold dimLineW; rw [hdec, h1]; rfl

theorem dimLineW_nonneg (dw : Measure) (it : Item) (c : Cell) (l : Bytes) : 0 ≤ dimLineW dw it c l := by
  unfold dimLineW
  split
  · exact termWidth_nonneg c
  · exact Int.natCast_nonneg _

theorem dimProps_eq (dw : Measure) (it : Item) (c : Cell) :
    dimProps dw it c =
      (Val.dims c.termWidth c.hgt,
       Val.lws ((c.lines.map (fun l => ({ s := l, w := dimLineW dw it c l } : WidthString)))
             ++ List.replicate (max c.hgt.toNat c.lines.length - c.lines.length) blankWS)) := rfl

theorem dimProps_props_irrel (dw : Measure) (it : Item) (c : Cell) (p : Chain) :
    dimProps dw it { c with props := p } = dimProps dw it c := rfl

/-- C03/C04: the measuring callback establishes `CellOK` for the view cell it fills. -/
theorem dimProps_cellOK (dw : Measure) (it : Item) (c : Cell) (rc : RCell) (h : Int)
    (ht : rc.text = c.str) (hd : (dimProps dw it c).1 = .dims rc.cellWidth h)
    (hl : (dimProps dw it c).2 = .lws rc.lws) : CellOK dw rc := by
  rw [dimProps_eq] at hd hl
  simp only [Val.dims.injEq, Val.lws.injEq] at hd hl
  refine ⟨by rw [← hd.1]; exact termWidth_nonneg c, (lines rc.text).map (dimLineW dw it c),
    max c.hgt.toNat c.lines.length - c.lines.length, by simp, ?_, ?_, ?_⟩
  · rw [← hl, zipWith_map_mk, ht]; rfl
  · intro w hw
    obtain ⟨l, _, rfl⟩ := List.mem_map.mp hw
    exact dimLineW_nonneg dw it c l
  · by_cases hdec : (it.mWidth.isSome && c.lines.length == 1) = true
    · right
      have hlen : (lines rc.text).length = 1 := by
        rw [ht]; simp at hdec; exact hdec.2
      refine ⟨hlen, ?_⟩
      match hls : lines rc.text, hlen with
      | [l], _ => simp [dimLineW, hdec, hd.1]
    · left
      apply List.map_congr_left
      intro l _
      simp [dimLineW, hdec]

/-- every laid-out line fits as soon as every text line does: the blank entries are 0 wide -/
theorem dimProps_fits (dw : Measure) (it : Item) (c : Cell) (rc : RCell) (h : Int)
    (hd : (dimProps dw it c).1 = .dims rc.cellWidth h)
    (hl : (dimProps dw it c).2 = .lws rc.lws)
    (hline : ∀ l ∈ c.lines, dimLineW dw it c l ≤ c.termWidth) : CellFits rc := by
  rw [dimProps_eq] at hd hl
  simp only [Val.dims.injEq, Val.lws.injEq] at hd hl
  intro x hx
  rw [← hl] at hx
  rw [← hd.1]
  rcases List.mem_append.mp hx with hx | hx
  · obtain ⟨l, hlm, rfl⟩ := List.mem_map.mp hx
    exact hline l hlm
  · rw [List.eq_of_mem_replicate hx]; exact termWidth_nonneg c

theorem dimLineW_le_of_width (dw : Measure) {it : Item} {c : Cell} {l : Bytes}
    (hw : c.width = (longestLine dw c.str : Nat)) (hl : l ∈ c.lines) :
    dimLineW dw it c l ≤ c.termWidth := by
  unfold dimLineW
  split
  · exact Int.le_refl _
  · rw [termWidth_eq, hw, Int.max_eq_left (Int.natCast_nonneg _), longestLine_eq]
    exact Int.ofNat_le.mpr (le_maxNat ((lines c.str).map dw) (dw l) (List.mem_map.mpr ⟨l, hl, rfl⟩))

/-- fit, case 1: the cell's width is the measured longest line
    (what `Cell.update` stores for every item that declares no width and is not itself a `tabular.Cell`) -/
theorem dimProps_fits_measured (dw : Measure) (it : Item) (c : Cell) (rc : RCell) (h : Int)
    (hd : (dimProps dw it c).1 = .dims rc.cellWidth h)
    (hl : (dimProps dw it c).2 = .lws rc.lws)
    (hw : c.width = (longestLine dw c.str : Nat)) : CellFits rc :=
  dimProps_fits dw it c rc h hd hl (fun _ hlm => dimLineW_le_of_width dw hw hlm)

/-- fit, case 2: a single text line with a declared width -/
theorem dimProps_fits_single_declared (dw : Measure) (it : Item) (c : Cell) (rc : RCell) (h : Int)
    (hd : (dimProps dw it c).1 = .dims rc.cellWidth h)
    (hl : (dimProps dw it c).2 = .lws rc.lws)
    (hdec : it.mWidth.isSome = true) (h1 : c.lines.length = 1) : CellFits rc :=
  dimProps_fits dw it c rc h hd hl (fun l _ => Int.le_of_eq (dimLineW_declared dw l hdec h1))

/-- C04 declared width: a single-line item declaring width `dd` is laid out as `max dd 0` wide,
    and that is also the cell width the column is widened by -/
theorem dimProps_declared_width (dw : Measure) (it : Item) (c : Cell) (l : Bytes) (dd : Int)
    (hdec : it.mWidth.isSome = true) (hw : c.width = dd) (h1 : c.lines = [l]) :
    dimProps dw it c = (.dims (max dd 0) c.hgt,
      .lws ({ s := l, w := max dd 0 } :: List.replicate (c.hgt.toNat - 1) blankWS)) := by
  have hlen : c.lines.length = 1 := by rw [h1]; rfl
  have hpad : max c.hgt.toNat 1 - 1 = c.hgt.toNat - 1 := by
    cases c.hgt.toNat with
    | zero => rfl
    | succ n => rw [Nat.max_eq_left (Nat.le_add_left 1 n)]
  rw [dimProps_eq, ← hw, ← termWidth_eq, hlen, hpad, h1]
  show (_, Val.lws ({ s := l, w := dimLineW dw it c l } :: _)) = _
  rw [dimLineW_declared dw l hdec hlen]
  rfl

/-- C04 declared height: the measured line list has `max (height) (number of text lines)` entries -/
theorem dimProps_lws_length (dw : Measure) (it : Item) (c : Cell) (ls : List WidthString)
    (hl : (dimProps dw it c).2 = .lws ls) : ls.length = max c.hgt.toNat c.lines.length := by
  rw [dimProps_eq] at hl
  rw [← Val.lws.inj hl, List.length_append, List.length_map, List.length_replicate,
    Nat.add_sub_cancel' (Nat.le_max_right _ _)]

theorem hgt_of_height (c : Cell) (h : 1 ≤ c.height) : c.hgt = c.height := by
  unfold Cell.hgt; split <;> omega

/-! ### what `Cell.update` stores -/

theorem update_width_declared (dw : Measure) (it : Item) (c : Cell) (hp : it.plain) (dd : Int)
    (hd : it.mWidth = some dd) : (Cell.update dw it c).width = dd := by
  unfold Cell.update
  obtain ⟨h1, h2⟩ := hp
  cases hk : it.kind with
  | nil => exact absurd hk h2
  | cell s w h e => exact absurd hk (h1 s w h e)
  | str s => simp [sizeWidth, hd]
  | rune r => simp [sizeWidth, hd]
  | other => simp [sizeWidth, hd]

theorem update_height_declared (dw : Measure) (it : Item) (c : Cell) (hp : it.plain) (hh : Int)
    (hd : it.mHeight = some hh) : (Cell.update dw it c).height = hh := by
  unfold Cell.update
  obtain ⟨h1, h2⟩ := hp
  cases hk : it.kind with
  | nil => exact absurd hk h2
  | cell s w h e => exact absurd hk (h1 s w h e)
  | str s => simp [sizeHeight, hd]
  | rune r => simp [sizeHeight, hd]
  | other => simp [sizeHeight, hd]

theorem tt_lines_nil : lines [] = [] := by decide

theorem ite_beq_nil (s : Bytes) (f : Bytes → Nat) (h0 : f [] = 0) :
    (if (s == []) = true then (0 : Int) else ((f s : Nat) : Int)) = ((f s : Nat) : Int) := by
  by_cases hs : s = []
  · subst hs; simp [h0]
  · simp [hs]

theorem update_width_measured (dw : Measure) (it : Item) (c : Cell) (h1 : ∀ s w h e, it.kind ≠ .cell s w h e)
    (hd : it.mWidth = none) :
    (Cell.update dw it c).width = (longestLine dw (Cell.update dw it c).str : Nat) := by
  have l0 : longestLine dw [] = 0 := by simp [longestLine, tt_lines_nil]
  unfold Cell.update
  cases hk : it.kind with
  | nil => simp [l0]
  | cell s w h e => exact absurd hk (h1 s w h e)
  | str s => simp only [sizeWidth, hd]; exact ite_beq_nil _ _ l0
  | rune r => simp only [sizeWidth, hd]; exact ite_beq_nil _ _ l0
  | other => simp only [sizeWidth, hd]; exact ite_beq_nil _ _ l0

/-! ### the callback in the world -/

/-- the view cell reads back what the callback stored -/
theorem rcell_dims_lws (dw : Measure) (w : World) (it : Item) (c : Cell)
    (h1 : c.props.get .ttDims = some (dimProps dw it c).1)
    (h2 : c.props.get .ttLines = some (dimProps dw it c).2) :
    (dimProps dw it c).1 = .dims (w.rcell c).cellWidth c.hgt ∧
    (dimProps dw it c).2 = .lws (w.rcell c).lws := by
  unfold World.rcell
  rw [h1, h2, dimProps_eq]
  exact ⟨rfl, rfl⟩

theorem rcell_cellOK (dw : Measure) (w : World) (it : Item) (c : Cell)
    (h1 : c.props.get .ttDims = some (dimProps dw it c).1)
    (h2 : c.props.get .ttLines = some (dimProps dw it c).2) : CellOK dw (w.rcell c) :=
  have ⟨e1, e2⟩ := rcell_dims_lws dw w it c h1 h2
  dimProps_cellOK dw it c (w.rcell c) c.hgt rfl e1 e2

theorem invokeOne_dimSetter (dw : Measure) (w : World) (r i : Nat) (tk : Taker) (ce : Cell)
    (h : w.cell? r i = some ce) :
    invokeOne dw w .dimSetter (.cell r i) tk =
      (w.modCell r i (fun c => { c with props := c.props.set .ttDims (some (dimProps dw (w.item ce.item) ce).1) })).modCell
        r i (fun c => { c with props := c.props.set .ttLines (some (dimProps dw (w.item ce.item) ce).2) }) := by
  unfold invokeOne
  simp only [h]
  rfl

/-- C03/C04: running the measuring callback on a cell of the world makes its view cell `CellOK`
    (whatever world the view is later read in: `rcell` reads only the cell's own properties). -/
theorem dimSetter_cellOK (dw : Measure) (w : World) (r i : Nat) (tk : Taker) (ce : Cell)
    (h : w.cell? r i = some ce) :
    ∃ ce', (invokeOne dw w .dimSetter (.cell r i) tk).cell? r i = some ce' ∧
      ce'.str = ce.str ∧ ce'.width = ce.width ∧ ce'.height = ce.height ∧
      ∀ w', CellOK dw (World.rcell w' ce') := by
  rw [invokeOne_dimSetter dw w r i tk ce h, cell?_modCell, if_pos ⟨rfl, rfl⟩, cell?_modCell, if_pos ⟨rfl, rfl⟩, h]
  refine ⟨_, rfl, rfl, rfl, rfl, ?_⟩
  intro w'
  -- `ttLines` is written after `ttDims`
  apply rcell_cellOK dw w' (w.item ce.item)
  · dsimp only
    rw [Chain.get_set_ne _ _ (by decide), Chain.get_set_same]
    rfl
  · dsimp only
    rw [Chain.get_set_same]
    rfl

end Tab
