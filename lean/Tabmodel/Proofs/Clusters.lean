/-
  Display cells never exceed twice the runes, for every width measure of the shape go-runewidth
  has: the string is cut into grapheme clusters of one or more whole runes, and each cluster
  contributes the width (at most 2) of one of its runes.
-/
import Tabmodel.Proofs.Length
namespace Tab

/-- drop the first `k` runes (Go's decoder: an invalid byte is one rune) -/
def dropRunes : Nat → Bytes → Bytes
  | 0, s => s
  | _ + 1, [] => []
  | k + 1, s@(_ :: _) => dropRunes k (s.drop (runeLen s))

/-- a cluster-based width: at each step the first cluster has `cr s ≥ 1` runes and width `cw s`;
    `fuel` bounds the number of clusters (the string's length suffices) -/
def clusterWidth (cr cw : Bytes → Nat) : Nat → Bytes → Nat
  | 0, _ => 0
  | _ + 1, [] => 0
  | f + 1, s@(_ :: _) => cw s + clusterWidth cr cw f (dropRunes (cr s) s)

theorem runeCountFuel_nil (f : Nat) : runeCountFuel f [] = 0 := by
  cases f <;> rfl

theorem runeCountFuel_indep (f1 f2 : Nat) (s : Bytes) (h1 : s.length ≤ f1) (h2 : s.length ≤ f2) :
    runeCountFuel f1 s = runeCountFuel f2 s := by
  induction f1 generalizing f2 s with
  | zero =>
    have : s = [] := List.length_eq_zero_iff.1 (Nat.le_zero.1 h1)
    subst this; rw [runeCountFuel_nil, runeCountFuel_nil]
  | succ n ih =>
    cases s with
    | nil => rw [runeCountFuel_nil, runeCountFuel_nil]
    | cons b bs =>
      cases f2 with
      | zero => simp at h2
      | succ m =>
        have hlen := length_drop_runeLen b bs
        rw [List.length_cons] at h1 h2
        rw [runeCountFuel, runeCountFuel, ih m _ (by omega) (by omega)]

theorem runeCountFuel_enough (f : Nat) (s : Bytes) (h : s.length ≤ f) :
    runeCountFuel f s = runeCountFuel s.length s :=
  runeCountFuel_indep f s.length s h (Nat.le_refl _)

theorem runeCount_cons (b : UInt8) (bs : Bytes) :
    runeCount (b :: bs) = 1 + runeCount ((b :: bs).drop (runeLen (b :: bs))) := by
  rw [runeCount, List.length_cons, runeCountFuel, runeCount,
    runeCountFuel_enough bs.length _ (length_drop_runeLen b bs)]

theorem runeCount_nil : runeCount [] = 0 := rfl

theorem runeCount_dropRunes_le (k : Nat) (s : Bytes) : runeCount (dropRunes k s) ≤ runeCount s := by
  induction k generalizing s with
  | zero => exact Nat.le_refl _
  | succ k ih =>
    cases s with
    | nil => exact Nat.le_refl _
    | cons b bs =>
      simp only [dropRunes]
      rw [runeCount_cons b bs]
      exact Nat.le_trans (ih _) (by omega)

theorem runeCount_dropRunes_succ (k : Nat) (b : UInt8) (bs : Bytes) :
    runeCount (dropRunes (k + 1) (b :: bs)) + 1 ≤ runeCount (b :: bs) := by
  simp only [dropRunes]
  rw [runeCount_cons b bs]
  have := runeCount_dropRunes_le k ((b :: bs).drop (runeLen (b :: bs)))
  omega

theorem clusterWidth_le (cr cw : Bytes → Nat) (hcr : ∀ s, 1 ≤ cr s) (hcw : ∀ s, cw s ≤ 2)
    (f : Nat) (s : Bytes) : clusterWidth cr cw f s ≤ 2 * runeCount s := by
  induction f generalizing s with
  | zero => exact Nat.zero_le _
  | succ n ih =>
    cases s with
    | nil => exact Nat.zero_le _
    | cons b bs =>
      obtain ⟨k, hk⟩ := Nat.exists_eq_add_one_of_ne_zero (Nat.ne_of_gt (hcr (b :: bs)))
      have h1 := runeCount_dropRunes_succ k b bs
      have h2 := ih (dropRunes (k + 1) (b :: bs))
      have h3 := hcw (b :: bs)
      rw [clusterWidth, hk]
      omega

end Tab
