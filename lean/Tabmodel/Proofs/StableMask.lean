import Tabmodel.Model.Render
import Tabmodel.Proofs.TextRender
import Tabmodel.Proofs.C08Render
namespace Tab

def RTable.mapCells (m : RCell → RCell) (v : RTable) : RTable :=
  { v with header := v.header.map (·.map m), rows := v.rows.map (·.map (·.map m)) }

namespace StableMask
open Emit

theorem forM'_congr (xs : List α) (f g : α → Emit Unit) (h : ∀ x, f x = g x) :
    forM' xs f = forM' xs g := by
  have : f = g := funext h
  rw [this]

theorem bind'_idx_map (m : α → β) (cells : List α) (i : Nat) (s : String) (f : β → Emit γ) :
    bind' (idx (cells.map m) i s) f = bind' (idx cells i s) (fun c => f (m c)) := by
  unfold idx
  rw [List.getElem?_map]
  cases cells[i]? with
  | none => simp
  | some c => simp

theorem forM'_rows_map (m : RCell → RCell) (rows : List (Option (List RCell)))
    (f g : Option (List RCell) → Emit Unit) (hn : f none = g none)
    (hs : ∀ cells, f (some (cells.map m)) = g (some cells)) :
    forM' (rows.map (·.map (·.map m))) f = forM' rows g := by
  rw [forM'_map]
  apply forM'_congr
  intro r
  cases r with
  | none => exact hn
  | some cells => exact hs cells

@[simp] theorem mapCells_ncols (m : RCell → RCell) (v : RTable) : (v.mapCells m).ncols = v.ncols := rfl
@[simp] theorem mapCells_colAlign (m : RCell → RCell) (v : RTable) : (v.mapCells m).colAlign = v.colAlign := rfl
@[simp] theorem mapCells_colSkip (m : RCell → RCell) (v : RTable) : (v.mapCells m).colSkip = v.colSkip := rfl
@[simp] theorem mapCells_header (m : RCell → RCell) (v : RTable) :
    (v.mapCells m).header = v.header.map (·.map m) := rfl
@[simp] theorem mapCells_rows (m : RCell → RCell) (v : RTable) :
    (v.mapCells m).rows = v.rows.map (·.map (·.map m)) := rfl

/-! ### CSV -/

theorem csvEmitRow_map (m : RCell → RCell) (ht : ∀ c, (m c).text = c.text) (n : Nat) (cells : List RCell) :
    csvEmitRow n (cells.map m) = csvEmitRow n cells := by
  unfold csvEmitRow
  simp only [List.length_map, ← List.map_take, forM'_map, ht, bind_eq, pure_eq, bind'_idx_map]

/-! ### HTML -/

theorem flatMap_zipIdx_rows (m : RCell → RCell) (rows : List (Option (List RCell)))
    (f g : Option (List RCell) × Nat → Bytes)
    (h : ∀ r i, f (r.map (·.map m), i) = g (r, i)) (k : Nat) :
    ((rows.map (·.map (·.map m))).zipIdx k).flatMap f = (rows.zipIdx k).flatMap g := by
  induction rows generalizing k with
  | nil => rfl
  | cons r rows ih => simp only [List.map_cons, List.zipIdx_cons, List.flatMap_cons, h, ih]

theorem htmlTr_map (m : RCell → RCell) (ht : ∀ c, (m c).text = c.text) (cfg : HtmlCfg) (n : Nat)
    (tag : String) (cells : List RCell) :
    htmlTr cfg n tag (cells.map m) = htmlTr cfg n tag cells := by
  unfold htmlTr
  simp only [List.flatMap_map, ht]

theorem htmlBytes_mapCells (cfg : HtmlCfg) (m : RCell → RCell) (ht : ∀ c, (m c).text = c.text) (v : RTable) :
    htmlBytes cfg (v.mapCells m) = htmlBytes cfg v := by
  unfold htmlBytes
  simp only [mapCells_header, mapCells_rows]
  have e1 : htmlTr cfg 0 "th" ((v.header.map (·.map m)).getD []) = htmlTr cfg 0 "th" (v.header.getD []) := by
    cases v.header with
    | none => rfl
    | some hs => simp only [Option.map_some, Option.getD_some, htmlTr_map m ht]
  rw [e1]
  congr 2
  apply flatMap_zipIdx_rows
  intro r i
  cases r with
  | none => rfl
  | some cells => simp only [Option.map_some, htmlTr_map m ht]

/-! ### JSON -/

theorem idxE_map (m : α → β) (cells : List α) (i : Nat) (site : String) :
    idxE (cells.map m) i site = (idxE cells i site).map m := by
  unfold idxE
  rw [List.getElem?_map]
  cases cells[i]? <;> rfl

theorem jsonKeys_map (js : JsonStr) (m : RCell → RCell) (ht : ∀ c, (m c).text = c.text)
    (v' v : RTable) (hv : v'.colSkip = v.colSkip) (hs : List RCell) (defSkip : Bool)
    (n i : Nat) (seen : List Bytes) (acc : List (Bytes × Bool)) :
    jsonKeys js v' (hs.map m) defSkip n i seen acc = jsonKeys js v hs defSkip n i seen acc := by
  induction n generalizing i seen acc with
  | zero => simp only [jsonKeys]
  | succ n ih =>
    simp only [jsonKeys, idxE_map, hv]
    cases idxE hs i "json.headers[i]" with
    | error e => rfl
    | ok h => simp only [Except.map, bind, Except.bind, ht, ih]

theorem jsonEmitCells_map (js : JsonStr) (m : RCell → RCell) (ht : ∀ c, (m c).text = c.text)
    (he : ∀ c, (m c).empty = c.empty) (hj : ∀ c, (m c).json = c.json)
    (keys : List (Bytes × Bool)) (cells : List RCell) (i : Nat) (opened : Bool) :
    jsonEmitCells js keys (cells.map m) i opened = jsonEmitCells js keys cells i opened := by
  induction cells generalizing i opened with
  | nil => rfl
  | cons c cs ih => simp only [List.map_cons, jsonEmitCells, ht, he, hj, ih]

theorem jsonEmitRow_map (js : JsonStr) (m : RCell → RCell) (ht : ∀ c, (m c).text = c.text)
    (he : ∀ c, (m c).empty = c.empty) (hj : ∀ c, (m c).json = c.json)
    (keys : List (Bytes × Bool)) (cells : List RCell) :
    jsonEmitRow js keys (cells.map m) = jsonEmitRow js keys cells := by
  unfold jsonEmitRow
  simp only [List.length_map, jsonEmitCells_map js m ht he hj]

theorem foldl_zipIdx_rows (m : RCell → RCell) (rows : List (Option (List RCell)))
    (f g : γ → Option (List RCell) × Nat → γ)
    (h : ∀ a r i, f a (r.map (·.map m), i) = g a (r, i)) (k : Nat) (acc : γ) :
    ((rows.map (·.map (·.map m))).zipIdx k).foldl f acc = (rows.zipIdx k).foldl g acc := by
  induction rows generalizing k acc with
  | nil => rfl
  | cons r rows ih => simp only [List.map_cons, List.zipIdx_cons, List.foldl_cons, h, ih]

theorem lastObject_map (m : RCell → RCell) (rows : List (Option (List RCell))) :
    lastObject (rows.map (·.map (·.map m))) = lastObject rows := by
  unfold lastObject
  apply foldl_zipIdx_rows
  intro a r i
  cases r <;> rfl

theorem jsonRows_map (js : JsonStr) (m : RCell → RCell) (ht : ∀ c, (m c).text = c.text)
    (he : ∀ c, (m c).empty = c.empty) (hj : ∀ c, (m c).json = c.json)
    (keys : List (Bytes × Bool)) (lo : Nat) (rows : List (Option (List RCell))) (i : Nat) (nc : Bool) :
    jsonRows js keys lo (rows.map (·.map (·.map m))) i nc = jsonRows js keys lo rows i nc := by
  induction rows generalizing i nc with
  | nil => rfl
  | cons r rows ih =>
    cases r with
    | none => simp only [List.map_cons, Option.map_none, jsonRows, ih]
    | some cells => simp only [List.map_cons, Option.map_some, jsonRows, ih, jsonEmitRow_map js m ht he hj]

/-! ### Markdown -/

theorem foldlM_rows_map (m : RCell → RCell) (rows : List (Option (List RCell)))
    (f g : β → Option (List RCell) → Except Stop β)
    (h : ∀ a r, f a (r.map (·.map m)) = g a r) (init' init : β) (h0 : init' = init) :
    (rows.map (·.map (·.map m))).foldlM f init' = rows.foldlM g init := by
  subst h0
  induction rows generalizing init' with
  | nil => rfl
  | cons r rows ih => simp only [List.map_cons, List.foldlM_cons, h, ih]

theorem mdPadded_map (dw : Measure) (m : RCell → RCell) (ht : ∀ c, (m c).text = c.text)
    (c : RCell) (want : Int) (al : Nat) : mdPadded dw (m c) want al = mdPadded dw c want al := by
  unfold mdPadded
  simp only [ht]

theorem mdEmitCells_map (dw : Measure) (m : RCell → RCell) (ht : ∀ c, (m c).text = c.text)
    (widths : List Int) (aligns : List Nat) (bc br : Bytes) (cells : List RCell) (i : Nat) :
    mdEmitCells dw widths aligns bc br (cells.map m) i = mdEmitCells dw widths aligns bc br cells i := by
  induction cells generalizing i with
  | nil => rfl
  | cons c cs ih =>
    simp only [List.map_cons, mdEmitCells, mdPadded_map dw m ht, List.isEmpty_map, ih]

theorem mdEmitRow_map (dw : Measure) (m : RCell → RCell) (ht : ∀ c, (m c).text = c.text)
    (ncols : Nat) (cells : List RCell) (widths : List Int) (aligns : List Nat) (addPads : Bool) :
    mdEmitRow dw ncols (cells.map m) widths aligns addPads = mdEmitRow dw ncols cells widths aligns addPads := by
  unfold mdEmitRow
  simp only [List.length_map, mdEmitCells_map dw m ht]

theorem mdWiden_map (m : RCell → RCell) (hm : ∀ c, (m c).mdw = c.mdw)
    (widths : List Int) (cells : List RCell) :
    mdWiden widths (cells.map m) = mdWiden widths cells := by
  unfold mdWiden
  congr 1
  funext p
  cases p with
  | mk w i =>
    simp only [List.getElem?_map]
    cases cells[i]? with
    | none => rfl
    | some c => simp only [Option.map_some, hm]

theorem mdWidthsM_mapCells (m : RCell → RCell) (hm : ∀ c, (m c).mdw = c.mdw) (v : RTable) (hs : List RCell) :
    mdWidthsM (v.mapCells m) (hs.map m) = mdWidthsM v hs := by
  unfold mdWidthsM mdWidths0
  simp only [mapCells_ncols, mapCells_rows]
  apply foldlM_rows_map
  · intro a r
    cases r with
    | none => rfl
    | some cells => simp only [Option.map_some, List.length_map, mdWiden_map m hm]
  · congr 1
    funext i
    simp only [List.getElem?_map]
    cases hs[i]? with
    | none => rfl
    | some c => simp only [Option.map_some, hm]

theorem mdEmitRows_mapCells (dw : Measure) (m : RCell → RCell) (ht : ∀ c, (m c).text = c.text) (v : RTable)
    (hs : List RCell) (widths : List Int) (aligns : List Nat) :
    mdEmitRows dw (v.mapCells m) (hs.map m) widths aligns = mdEmitRows dw v hs widths aligns := by
  unfold mdEmitRows mdControlRow
  simp only [mapCells_ncols, mapCells_rows]
  rw [mdEmitRow_map dw m ht, forM'_rows_map m v.rows _ _ rfl (fun cells => mdEmitRow_map dw m ht ..)]

/-! ### Text -/

theorem ttWidenRow_map (m : RCell → RCell) (hc : ∀ c, (m c).cellWidth = c.cellWidth)
    (ncols : Nat) (cells : List RCell) (i : Nat) (ws : List Int) :
    ttWidenRow ncols (cells.map m) i ws = ttWidenRow ncols cells i ws := by
  induction cells generalizing i ws with
  | nil => rfl
  | cons c cs ih => simp only [List.map_cons, ttWidenRow, hc, ih]

theorem ttColumnWidths_mapCells (m : RCell → RCell) (hc : ∀ c, (m c).cellWidth = c.cellWidth)
    (v : RTable) : ttColumnWidths (v.mapCells m) = ttColumnWidths v := by
  unfold ttColumnWidths
  simp only [mapCells_ncols, mapCells_header, mapCells_rows]
  apply foldlM_rows_map
  · intro a r
    cases r with
    | none => rfl
    | some cells => simp only [Option.map_some, ttWidenRow_map m hc]
  · congr 1
    funext i
    cases v.header with
    | none => rfl
    | some hs =>
      simp only [Option.map_some, List.getElem?_map]
      cases hs[i]? with
      | none => rfl
      | some c => simp only [Option.map_some, hc]

theorem ttAligns_mapCells (m : RCell → RCell) (v : RTable) : ttAligns (v.mapCells m) = ttAligns v := rfl

theorem ttRowLines_map (m : RCell → RCell) (hl : ∀ c, (m c).lws = c.lws)
    (cells : List RCell) (ncols : Nat) : ttRowLines (cells.map m) ncols = ttRowLines cells ncols := by
  unfold ttRowLines
  have hcomp : (fun (c : RCell) => c.lws) ∘ m = fun c => c.lws := funext hl
  simp only [List.length_map, ← List.map_take, List.map_map, hcomp]

theorem ttEmitRow_map (m : RCell → RCell) (hl : ∀ c, (m c).lws = c.lws)
    (left inner right : Bytes) (cw : List Nat) (aligns : List Nat) (cells : List RCell) (ncols : Nat) :
    ttEmitRow left inner right cw aligns (cells.map m) ncols
      = ttEmitRow left inner right cw aligns cells ncols := by
  unfold ttEmitRow
  rw [ttRowLines_map m hl]

theorem ttBody_map (d : Decoration) (m : RCell → RCell) (hl : ∀ c, (m c).lws = c.lws)
    (cw aligns : List Nat) (n : Nat) (header : Option (List RCell)) (rows : List (Option (List RCell))) :
    ttBody d cw aligns n (header.map (·.map m)) (rows.map (·.map (·.map m)))
      = ttBody d cw aligns n header rows := by
  unfold ttBody
  rw [forM'_rows_map m rows (ttBodyRow d cw aligns n) (ttBodyRow d cw aligns n) rfl
    (fun cells => ttEmitRow_map m hl ..)]
  cases header with
  | none => rfl
  | some hs => simp only [Option.map_some, ttEmitRow_map m hl]

end StableMask
open StableMask Emit

theorem renderCsv_mapCells (m : RCell → RCell) (ht : ∀ c, (m c).text = c.text) (v : RTable) :
    renderCsv (v.mapCells m) = renderCsv v := by
  unfold renderCsv
  simp only [mapCells_ncols, mapCells_header, mapCells_rows]
  have hrows := forM'_rows_map m v.rows
    (fun r => match r with
      | none => pure ()
      | some cells => csvEmitRow v.ncols cells)
    (fun r => match r with
      | none => pure ()
      | some cells => csvEmitRow v.ncols cells) rfl
    (fun cells => by simp only [csvEmitRow_map m ht])
  by_cases hn : v.ncols < 1
  · simp only [hn, if_true]
  · simp only [hn, if_false]
    cases v.header with
    | none => exact hrows
    | some hs =>
      simp only [Option.map_some, csvEmitRow_map m ht]
      exact congrArg (fun z => bind' (csvEmitRow v.ncols hs) (fun _ => z)) hrows

theorem renderHtml_mapCells (cfg : HtmlCfg) (m : RCell → RCell) (ht : ∀ c, (m c).text = c.text) (v : RTable) :
    renderHtml cfg (v.mapCells m) = renderHtml cfg v := by
  unfold renderHtml
  rw [htmlBytes_mapCells cfg m ht]

theorem renderJson_mapCells (js : JsonStr) (m : RCell → RCell) (ht : ∀ c, (m c).text = c.text)
    (he : ∀ c, (m c).empty = c.empty) (hj : ∀ c, (m c).json = c.json) (v : RTable) :
    renderJson js (v.mapCells m) = renderJson js v := by
  unfold renderJson
  simp only [mapCells_ncols, mapCells_colSkip, mapCells_header, mapCells_rows, lastObject_map,
    jsonRows_map js m ht he hj]
  cases v.header with
  | none => rfl
  | some hs =>
    simp only [Option.map_some, List.length_map,
      jsonKeys_map js m ht (v.mapCells m) v (mapCells_colSkip m v)]

theorem renderMarkdown_mapCells (dw : Measure) (m : RCell → RCell) (ht : ∀ c, (m c).text = c.text)
    (hm : ∀ c, (m c).mdw = c.mdw) (v : RTable) :
    renderMarkdown dw (v.mapCells m) = renderMarkdown dw v := by
  cases hh : v.header with
  | none => unfold renderMarkdown; rw [mapCells_header, hh]; rfl
  | some hs =>
    have ha : mdAlignsM (v.mapCells m) = mdAlignsM v := rfl
    rw [renderMarkdown_some dw v hs hh,
      renderMarkdown_some dw (v.mapCells m) (hs.map m) (by rw [mapCells_header, hh]; rfl),
      mapCells_ncols, List.length_map, mdWidthsM_mapCells m hm, ha]
    simp only [mdEmitRows_mapCells dw m ht]

theorem renderTextBody_mapCells (d : Decoration) (m : RCell → RCell) (hc : ∀ c, (m c).cellWidth = c.cellWidth)
    (hl : ∀ c, (m c).lws = c.lws) (v : RTable) :
    renderTextBody d (v.mapCells m) = renderTextBody d v := by
  simp only [renderTextBody_def, ttColumnWidths_mapCells m hc, ttAligns_mapCells, mapCells_ncols,
    mapCells_header, mapCells_rows, ttBody_map d m hl]

end Tab
