/-
  C16: the API functions of `Model/World.lean` that do not allocate (`addErrTo`, `setProp`, `invoke`, `rowAdd`,
  `addRow`, `invokeRenderCallbacks`, `registerCb`, `wrapEffect`, …), and what `addSeparator` and `addHeaders` do
  after their allocation, called on table `t` and rows in `P`, are framed, keep `Inv`, and commute with the
  renaming of row ids (`Both`).  Each function is first written as a composition of reads (`rd`), updates and
  callback passes (`call`), then walked once.
-/
import Tabmodel.Proofs.C16Basic
namespace Tab
namespace C16
open World

variable {ρ : Nat → Nat} {t : Nat} {P I : Nat → Prop}

/-! ### derived reads -/

theorem reads_taker {tk : Taker} (h : TakerOK t P tk) :
    Reads ρ t P I (fun _ => tk) (fun _ => renTaker ρ tk) (renTaker ρ) (TakerOK t P) :=
  ⟨fun _ _ => h, fun _ _ _ _ => rfl⟩

theorem reads_cell? {r : Nat} (hr : P r) (c : Nat) :
    Reads ρ t P I (fun w => w.cell? r c) (fun w => w.cell? (ρ r) c) (Option.map (renCell ρ))
      (fun oc => ∀ ce, oc = some ce → CellOK r I ce) :=
  (reads_row hr).map (fun rw => (rw.cells.getD [])[c]?) (fun rw => (rw.cells.getD [])[c]?) _ _
    (fun rw => by unfold renRow; cases rw.cells <;> simp)
    (fun rw h ce hce => h.cells ce (List.mem_of_getElem? hce))

theorem renRow_cells_length (ρ : Nat → Nat) (rw : Row) :
    ((renRow ρ rw).cells.getD []).length = (rw.cells.getD []).length := by
  unfold renRow
  cases rw.cells <;> simp

theorem reads_rowLen {r : Nat} (hr : P r) :
    Reads ρ t P I (fun w => (w.rowCells r).length) (fun w => (w.rowCells (ρ r)).length) (fun n => n)
      (fun _ => True) :=
  reads_rowf hr (fun rw => (rw.cells.getD []).length) (renRow_cells_length ρ)

theorem columnOf_some {w : World} {r c t' n : Nat} (h : columnOf w r c = some (t', n)) :
    ∃ ce r', w.cell? r c = some ce ∧ ce.inRow = some r' ∧ (w.row r').inTable = some t' := by
  unfold columnOf at h
  split at h
  · cases h
  next ce hce =>
    split at h
    · cases h
    split at h
    · cases h
    next r' hr' =>
      split at h
      · cases h
      next t'' ht =>
        split at h
        · cases h
        · cases h; exact ⟨ce, r', hce, hr', ht⟩

theorem reads_columnOf {r : Nat} (hr : P r) (c : Nat) :
    Reads ρ t P I (fun w => columnOf w r c) (fun w => columnOf w (ρ r) c) (fun tc => tc)
      (fun tc => ∀ t' n, tc = some (t', n) → t' = t) := by
  refine ⟨fun w h t' n e => ?_, fun w w₂ h hs => ?_⟩
  · obtain ⟨ce, r', hce, hr', ht⟩ := columnOf_some e
    rcases ((h.rowok r hr).cells ce (List.mem_of_getElem? hce)).1 with h1 | h1 <;> rw [h1] at hr'
    · cases hr'
    · cases hr'
      rcases (h.rowok r hr).inT with h2 | h2 <;> rw [h2] at ht
      · cases ht
      · cases ht; rfl
  · have hrow := h.rowok r hr
    unfold columnOf
    rw [(reads_cell? hr c).rel w w₂ h hs]
    cases hc : w.cell? r c with
    | none => rfl
    | some ce =>
      rcases (hrow.cells ce (List.mem_of_getElem? hc)).1 with h1 | h1
      · simp only [Option.map_some, renCell, h1, Option.map_none]
      · rcases hrow.inT with h2 | h2
        · simp only [Option.map_some, renCell, h1, hs.row hr, renRow, h2]
        · simp only [Option.map_some, renCell, h1, hs.row hr, renRow, h2, hs.table, renTable]

theorem reads_colCellCbs {tc : Option (Nat × Nat)} (htc : ∀ t' n, tc = some (t', n) → t' = t) (tm : Time) :
    Reads ρ t P I (fun w => colCellCbs w tc tm) (fun w => colCellCbs w tc tm) (fun cbs => cbs) (fun _ => True) := by
  cases tc with
  | none => exact ⟨fun _ _ => trivial, fun _ _ _ _ => rfl⟩
  | some p =>
    obtain ⟨t', n⟩ := p
    obtain rfl : t' = t := htc t' n rfl
    exact reads_tablef (fun tb => ((tb.columns[n]?).map (·.cellCbs.at tm)).getD []) (fun _ => rfl)

theorem reads_colOfCbs {r : Nat} (hr : P r) (i : Nat) (tm : Time) :
    Reads ρ t P I (fun w => colCellCbs w (columnOf w r i) tm) (fun w => colCellCbs w (columnOf w (ρ r) i) tm)
      (fun cbs => cbs) (fun _ => True) :=
  ⟨fun _ _ => trivial, fun w w₂ h hs => by
    rw [(reads_columnOf hr i).rel w w₂ h hs]
    exact (reads_colCellCbs ((reads_columnOf (ρ := ρ) hr i).q w h) tm).rel w w₂ h hs⟩

theorem reads_rowECTaker {r : Nat} (hr : P r) :
    Reads ρ t P I (fun w => rowECTaker w r) (fun w => rowECTaker w (ρ r)) (renTaker ρ) (TakerOK t P) := by
  refine ⟨fun w h => ?_, fun w w₂ _ hs => ?_⟩
  · have := (h.rowok r hr).ec
    unfold rowECTaker
    cases he : (w.row r).ec with
    | none => trivial
    | own es => exact hr
    | table t' => rw [he] at this; exact this
  · unfold rowECTaker
    rw [hs.row hr]
    show (match (w.row r).ec with | .none => Taker.drop | .own _ => .rowOwn (ρ r) | .table t => .table t) = _
    cases (w.row r).ec <;> rfl

theorem reads_rowErrors {r : Nat} (hr : P r) :
    Reads ρ t P I (fun w => rowErrors w r) (fun w => rowErrors w (ρ r)) (fun es => es) (fun _ => True) := by
  refine ⟨fun _ _ => trivial, fun w w₂ h hs => ?_⟩
  have hec := (h.rowok r hr).ec
  unfold rowErrors
  rw [hs.row hr]
  show (match (w.row r).ec with | .none => [] | .own es => es | .table t => (w₂.table t).errs) = _
  cases he : (w.row r).ec with
  | none => rfl
  | own es => rfl
  | table t' =>
    rw [he] at hec
    obtain rfl : t' = t := hec
    simp only [hs.table]
    rfl

theorem foot_resize (tb : Table) (n r : Nat) (h : FootT (resizeColumnsAtLeast tb n) r) : FootT tb r := by
  unfold resizeColumnsAtLeast at h
  split at h <;> exact h

theorem both_resize (n : Nat) :
    Both ρ t P I (fun w => w.modTable t (fun tb => resizeColumnsAtLeast tb n))
      (fun w => w.modTable t (fun tb => resizeColumnsAtLeast tb n)) :=
  both_modTable _ _ (fun tb r h => .inl (foot_resize tb n r h)) (fun tb => by
    unfold resizeColumnsAtLeast renTable
    simp only []
    split <;> rfl)

/-! ### `addErrTo` -/

/-- `fun w => addErrTo w (.rowLazy r) e` as a read followed by an update -/
def addErrLazyC (r e : Nat) : World → World :=
  rd (fun w => (w.row r).ec) (fun ec w => match ec with
    | .none => w.modRow r (fun rw => { rw with ec := .own [e] })
    | .own es => w.modRow r (fun rw => { rw with ec := .own (es ++ [e]) })
    | .table t' => w.modTable t' (fun tb => { tb with errs := tb.errs ++ [e] }))

theorem both_addErrTo {tk : Taker} (htk : TakerOK t P tk) (e : Nat) :
    Both ρ t P I (fun w => addErrTo w tk e) (fun w => addErrTo w (renTaker ρ tk) e) := by
  cases tk with
  | drop => exact Both.id' ρ t P I
  | table t' =>
    obtain rfl : t' = t := htk
    exact both_modTable _ _ (fun _ _ h => .inl h) (fun _ => rfl)
  | rowOwn r =>
    refine both_modRow htk _ _ (fun rw h => ?_) (fun rw => ?_)
    · cases he : rw.ec with
      | own es => exact ⟨h.inT, trivial, h.cells⟩
      | _ => exact h
    · unfold renRow
      cases he : rw.ec <;> simp only [he]
  | rowLazy r =>
    have hr : P r := htk
    show Both ρ t P I (addErrLazyC r e) (addErrLazyC (ρ r) e)
    refine Both.rd ((reads_row hr).map (·.ec) (·.ec) (fun ec => ec) (ecOK t) (fun _ => rfl) (fun _ h => h.ec))
      (fun ec hec => ?_)
    cases ec with
    | none => exact both_modRow hr _ _ (fun rw h => ⟨h.inT, trivial, h.cells⟩) (fun _ => rfl)
    | own es => exact both_modRow hr _ _ (fun rw h => ⟨h.inT, trivial, h.cells⟩) (fun _ => rfl)
    | table t' =>
      obtain rfl : t' = t := hec
      exact both_modTable _ _ (fun _ _ h => .inl h) (fun _ => rfl)

/-! ### `setProp` -/

theorem both_setProp {o : Target} (ho : TgtOK t P o) (k : Key) (v : Option Val) :
    Both ρ t P I (fun w => setProp w o k v) (fun w => setProp w (renTarget ρ o) k v) := by
  cases o with
  | table t' =>
    obtain rfl : t' = t := ho
    exact both_modTable _ _ (fun _ _ h => .inl h) (fun _ => rfl)
  | column t' n =>
    obtain rfl : t' = t := ho
    exact both_modColumn n _
  | row r => exact both_modRow ho _ _ (fun rw h => ⟨h.inT, h.ec, h.cells⟩) (fun _ => rfl)
  | cell r c => exact both_modCell ho c _ (fun _ => ⟨rfl, rfl⟩) (fun _ => rfl)
  | copy n => exact both_other _ _ (fun _ => ⟨rfl, rfl, rfl⟩) (fun _ => ⟨rfl, rfl, rfl⟩)

/-! ### `invokeOne`, `invoke` -/

theorem both_event (ev ev₂ : Event) :
    Both ρ t P I (fun w => { w with events := w.events ++ [ev] }) (fun w => { w with events := w.events ++ [ev₂] }) :=
  both_other _ _ (fun _ => ⟨rfl, rfl, rfl⟩) (fun _ => ⟨rfl, rfl, rfl⟩)

/-- `fun w => invokeOne dw w .dimSetter (.cell r c) tk` -/
def dimSetterC (dw : Measure) (r c : Nat) : World → World :=
  rd (fun w => w.cell? r c) (fun oc w => match oc with
    | some ce => rd (fun w => w.item ce.item) (fun it w =>
        setProp (setProp w (.cell r c) .ttDims (some (dimProps dw it ce).1)) (.cell r c) .ttLines
          (some (dimProps dw it ce).2)) w
    | none => w)

/-- `fun w => invokeOne dw w .widthSetter (.cell r c) tk` -/
def widthSetterC (r c : Nat) : World → World :=
  rd (fun w => w.cell? r c) (fun oc w => match oc with
    | some ce => setProp w (.cell r c) .mdWidth (some (.mdw ce.termWidth))
    | none => w)

theorem both_invokeOne (dw : Measure) (cb : Cb) {tgt : Target} (htgt : TgtOK t P tgt)
    {tk : Taker} (htk : TakerOK t P tk) :
    Both ρ t P I (fun w => invokeOne dw w cb tgt tk)
      (fun w => invokeOne dw w cb (renTarget ρ tgt) (renTaker ρ tk)) := by
  cases cb with
  | log id => exact both_event _ _
  | setProp id k v => exact Both.seq (both_event _ _) (both_setProp htgt k v)
  | fail id e => exact Both.seq (both_event _ _) (both_addErrTo htk e)
  | dimSetter =>
    cases tgt with
    | cell r c =>
      have hr : P r := htgt
      show Both ρ t P I (dimSetterC dw r c) (dimSetterC dw (ρ r) c)
      refine Both.rd (reads_cell? hr c) (fun oc hoc => ?_)
      cases oc with
      | none => exact Both.id' ρ t P I
      | some ce =>
        refine Both.rd (reads_item (hoc ce rfl).2) (fun it _ => ?_)
        exact Both.seq (both_setProp (o := .cell r c) hr _ _) (both_setProp (o := .cell r c) hr _ _)
    | _ => exact both_addErrTo htk _
  | widthSetter =>
    cases tgt with
    | cell r c =>
      have hr : P r := htgt
      show Both ρ t P I (widthSetterC r c) (widthSetterC (ρ r) c)
      refine Both.rd (reads_cell? hr c) (fun oc _ => ?_)
      cases oc with
      | none => exact Both.id' ρ t P I
      | some ce => exact both_setProp (o := .cell r c) hr _ _
    | _ => exact both_addErrTo htk _

theorem both_invoke (dw : Measure) (cbs : List Cb) {tgt : Target} (htgt : TgtOK t P tgt)
    {tk : Taker} (htk : TakerOK t P tk) :
    Both ρ t P I (fun w => invoke dw w cbs tgt tk)
      (fun w => invoke dw w cbs (renTarget ρ tgt) (renTaker ρ tk)) := by
  have := Both.foldl (ρ := ρ) (t := t) (P := P) (I := I) (fun w cb => invokeOne dw w cb tgt tk)
    (fun w cb => invokeOne dw w cb (renTarget ρ tgt) (renTaker ρ tk)) (fun cb => cb) cbs
    (fun cb _ => both_invokeOne dw cb htgt htk)
  simpa [invoke] using this

/-- one callback pass of a traversal: the callback list and the error receiver are read from the world the
    pass starts in -/
def call (dw : Measure) (cbs : World → List Cb) (tgt : Target) (tk : World → Taker) : World → World :=
  fun w => invoke dw w (cbs w) tgt (tk w)

theorem both_call (dw : Measure) {tgt : Target} (htgt : TgtOK t P tgt) {cbs cbs₂ : World → List Cb}
    {tk tk₂ : World → Taker} {Q : List Cb → Prop} (hc : Reads ρ t P I cbs cbs₂ (fun cbs => cbs) Q)
    (hk : Reads ρ t P I tk tk₂ (renTaker ρ) (TakerOK t P)) :
    Both ρ t P I (call dw cbs tgt tk) (call dw cbs₂ (renTarget ρ tgt) tk₂) := by
  show Both ρ t P I (rd cbs fun c => rd tk fun k w => invoke dw w c tgt k)
    (rd cbs₂ fun c => rd tk₂ fun k w => invoke dw w c (renTarget ρ tgt) k)
  exact Both.rd hc (fun c _ => Both.rd hk (fun k hk => both_invoke dw c htgt hk))

theorem reads_tableTaker :
    Reads ρ t P I (fun _ => Taker.table t) (fun _ => Taker.table t) (renTaker ρ) (TakerOK t P) :=
  reads_taker (tk := .table t) rfl

/-! ### `Row.Add` -/

/-- `fun w => rowAddCell dw w r ce` -/
def rowAddCellC (dw : Measure) (r : Nat) (ce : Cell) : World → World :=
  rd (fun w => (w.row r).cells) (fun cells w => match cells with
    | none => addErrTo w (.rowLazy r) errNonCellRow
    | some cs =>
      seq (fun w => w.modRow r (fun rw =>
            { rw with cells := some (cs ++ [{ ce with inRow := some r, columnNum := cs.length + 1 }]) }))
        (seq (rd (fun w => (w.row r).inTable) (fun it w => match it with
              | some t => w.modTable t (fun tb => resizeColumnsAtLeast tb (cs.length + 1))
              | none => w))
          (call dw (fun w => (w.row r).cellCbs.at .add) (.cell r (cs.length + 1 - 1)) (fun _ => .rowLazy r))) w)

theorem both_rowAddCell (dw : Measure) {r : Nat} (hr : P r) (ce : Cell) (hce : I ce.item) :
    Both ρ t P I (fun w => rowAddCell dw w r ce) (fun w => rowAddCell dw w (ρ r) ce) := by
  show Both ρ t P I (rowAddCellC dw r ce) (rowAddCellC dw (ρ r) ce)
  refine Both.rd ((reads_row hr).map (·.cells) (·.cells) (Option.map (List.map (renCell ρ)))
    (fun oc => ∀ cs, oc = some cs → ∀ c ∈ cs, CellOK r I c) (fun _ => rfl)
    (fun rw h cs hcs c hc => h.cells c (by simp [hcs, hc]))) (fun cells hcells => ?_)
  cases cells with
  | none => exact both_addErrTo (tk := .rowLazy r) hr _
  | some cs =>
    simp only [Option.map_some, List.length_map]
    refine Both.seq (both_modRow hr _ _ (fun rw h => ⟨h.inT, h.ec, fun c hc => ?_⟩) (fun rw => ?_))
      (Both.seq ?_ ?_)
    · simp only [Option.getD_some, List.mem_append, List.mem_singleton] at hc
      rcases hc with hc | rfl
      · exact hcells cs rfl c hc
      · exact ⟨.inr rfl, hce⟩
    · unfold renRow
      simp [renCell]
    · refine Both.rd ((reads_row hr).map (·.inTable) (·.inTable) (fun it => it) (fun it => it = none ∨ it = some t)
        (fun _ => rfl) (fun _ h => h.inT)) (fun it hit => ?_)
      rcases hit with rfl | rfl
      · exact Both.id' ρ t P I
      · exact both_resize _
    · exact both_call dw (tgt := .cell r _) hr (reads_rowf hr (fun rw => rw.cellCbs.at .add) (fun _ => rfl))
        (reads_taker (tk := .rowLazy r) hr)

theorem both_rowAdd (dw : Measure) {r : Nat} (hr : P r) {i : Nat} (hi : I i) :
    Both ρ t P I (fun w => rowAdd dw w r i) (fun w => rowAdd dw w (ρ r) i) := by
  show Both ρ t P I (rd (fun w => w.item i) (fun it w => rowAddCell dw w r (newCell dw i it)))
    (rd (fun w => w.item i) (fun it w => rowAddCell dw w (ρ r) (newCell dw i it)))
  refine Both.rd (reads_item hi) (fun it _ => both_rowAddCell dw hr _ ?_)
  have : ∀ c : Cell, (Cell.update dw it c).item = c.item := by
    intro c; unfold Cell.update; split <;> rfl
  show I (Cell.update dw it { item := i }).item
  rw [this]; exact hi

theorem both_rowAddMany (dw : Measure) {r : Nat} (hr : P r) (items : List Nat) (hi : ∀ i ∈ items, I i) :
    Both ρ t P I (fun w => rowAddMany dw r items w) (fun w => rowAddMany dw (ρ r) items w) := by
  induction items with
  | nil => exact Both.id' ρ t P I
  | cons i is ih =>
    exact Both.seq (both_rowAdd dw hr (hi i (by simp))) (ih (fun j hj => hi j (by simp [hj])))

/-! ### `AddRow` -/

def atcStepC (dw : Measure) (t r : Nat) (colTaker : World → Taker) (i : Nat) (k : World → World) :
    World → World :=
  seq (call dw (fun w => colCellCbs w (columnOf w r i) .add) (.cell r i) colTaker)
    (seq (call dw (fun w => (w.table t).cellCbs.at .add) (.cell r i) colTaker) k)

theorem atc_succ (dw : Measure) (t r : Nat) (colTaker : World → Taker) (n i : Nat) :
    (fun w => addTimeCells dw t r colTaker (n + 1) i w)
      = atcStepC dw t r colTaker i (fun w => addTimeCells dw t r colTaker n (i + 1) w) := rfl

theorem both_addTimeCells (dw : Measure) {r : Nat} (hr : P r) {colTaker colTaker₂ : World → Taker}
    (hct : Reads ρ t P I colTaker colTaker₂ (renTaker ρ) (TakerOK t P)) (n i : Nat) :
    Both ρ t P I (fun w => addTimeCells dw t r colTaker n i w)
      (fun w => addTimeCells dw t (ρ r) colTaker₂ n i w) := by
  induction n generalizing i with
  | zero => exact Both.id' ρ t P I
  | succ n ih =>
    rw [atc_succ, atc_succ]
    exact Both.seq (both_call dw (tgt := .cell r i) hr (reads_colOfCbs hr i .add) hct)
      (Both.seq (both_call dw (tgt := .cell r i) hr (reads_tablef (·.cellCbs.at .add) (fun _ => rfl)) hct)
        (ih (i + 1)))

def addRowC (dw : Measure) (t r : Nat) : World → World :=
  seq (fun w => w.modTable t (fun tb => { tb with rows := tb.rows ++ [r] }))
  (rd (fun w => (w.table t).rows.length) (fun n =>
    seq (fun w => w.modRow r (fun rw => { rw with inTable := some t, rowNum := n }))
    (seq (rd (fun w => (w.rowCells r).length) (fun len w =>
            w.modTable t (fun tb => resizeColumnsAtLeast tb len)))
    (rd (fun w => w.rowErrors r) (fun es =>
      seq (fun w => w.modTable t (fun tb => { tb with errs := tb.errs ++ es }))
      (seq (fun w => w.modRow r (fun rw => { rw with ec := .table t }))
      (seq (call dw (fun w => (w.row r).selfCbs.at .add) (.row r) (fun _ => .table t))
      (seq (call dw (fun w => (w.table t).rowCbs.at .add) (.row r) (fun _ => .table t))
        (rd (fun w => (w.rowCells r).length) (fun len w =>
          addTimeCells dw t r (fun w => rowECTaker w r) len 0 w))))))))))

/-- proved by normalising both sides: a bare `rfl` makes the unifier compare the `let` chain of `addRow`, with
    every intermediate world substituted, against the nested composition -/
theorem addRowC_eq (dw : Measure) (t r : Nat) : (fun w => addRow dw w t r) = addRowC dw t r := by
  funext w; simp only [addRow, addRowC, seq, rd, call]

theorem foot_append {r : Nat} (hr : P r) (tb : Table) (r' : Nat)
    (h : FootT { tb with rows := tb.rows ++ [r] } r') : FootT tb r' ∨ P r' := by
  rcases h with h | h
  · exact .inl (.inl h)
  · simp only [List.mem_append, List.mem_singleton] at h
    rcases h with h | rfl
    · exact .inl (.inr h)
    · exact .inr hr

theorem both_addRow (dw : Measure) {r : Nat} (hr : P r) :
    Both ρ t P I (fun w => addRow dw w t r) (fun w => addRow dw w t (ρ r)) := by
  rw [addRowC_eq, addRowC_eq]
  unfold addRowC
  refine Both.seq (both_modTable _ _ (foot_append hr) (fun tb => by simp [renTable]))
    (Both.rd (reads_tablef (·.rows.length) (fun tb => by simp [renTable])) (fun n _ => ?_))
  refine Both.seq (both_modRow hr _ _ (fun rw h => ⟨.inr rfl, h.ec, h.cells⟩) (fun _ => rfl))
    (Both.seq (Both.rd (reads_rowLen hr) (fun len _ => both_resize len)) ?_)
  refine Both.rd (reads_rowErrors hr) (fun es _ => ?_)
  refine Both.seq (both_modTable _ _ (fun _ _ h => .inl h) (fun _ => rfl)) ?_
  refine Both.seq (both_modRow hr _ _ (fun rw h => ⟨h.inT, rfl, h.cells⟩) (fun _ => rfl)) ?_
  refine Both.seq (both_call dw (tgt := .row r) hr (reads_rowf hr (·.selfCbs.at .add) (fun _ => rfl))
    reads_tableTaker) ?_
  refine Both.seq (both_call dw (tgt := .row r) hr (reads_tablef (·.rowCbs.at .add) (fun _ => rfl))
    reads_tableTaker) ?_
  exact Both.rd (reads_rowLen hr) (fun len _ => both_addTimeCells dw hr (reads_rowECTaker hr) len 0)

/-! ### `AddSeparator`, `AddHeaders`: what they do with the fresh row `L` once it is allocated -/

def addSeparatorC (t L : Nat) : World → World :=
  seq (fun w => w.modTable t (fun tb => { tb with rows := tb.rows ++ [L] }))
    (rd (fun w => (w.table t).rows.length) (fun n w =>
      w.modRow L (fun rw => { rw with inTable := some t, rowNum := n, ec := .table t })))

theorem both_addSeparatorC {L : Nat} (hL : P L) : Both ρ t P I (addSeparatorC t L) (addSeparatorC t (ρ L)) :=
  Both.seq (both_modTable _ _ (foot_append hL) (fun tb => by simp [renTable]))
    (Both.rd (reads_tablef (·.rows.length) (fun tb => by simp [renTable])) (fun n _ =>
      both_modRow hL _ _ (fun rw hrw => ⟨.inr rfl, rfl, hrw.cells⟩) (fun _ => rfl)))

def addHeadersC (dw : Measure) (t : Nat) (items : List Nat) (L : Nat) : World → World :=
  seq (fun w => w.modTable t (fun tb => resizeColumnsAtLeast tb items.length))
    (seq (fun w => rowAddMany dw L items w)
    (seq (fun w => w.modTable t (fun tb => { tb with header := some L }))
    (seq (call dw (fun w => (w.table t).rowCbs.at .add) (.row L) (fun _ => .table t))
      (rd (fun w => (w.rowCells L).length) (fun len w => addTimeCells dw t L (fun _ => .table t) len 0 w)))))

/-- `addHeaders` resizes the columns before it allocates; the two commute -/
theorem addHeaders_eq (dw : Measure) (w : World) (t : Nat) (items : List Nat) :
    addHeaders dw w t items = addHeadersC dw t items w.rows.length (w.newRow { ec := .table t }).1 := by
  simp only [addHeaders, addHeadersC, newRow, modTable, seq, rd, call]

theorem foot_header {L : Nat} (hL : P L) (tb : Table) (r : Nat)
    (h : FootT { tb with header := some L } r) : FootT tb r ∨ P r := by
  rcases h with h | h
  · obtain rfl : L = r := Option.some.inj h
    exact .inr hL
  · exact .inl (.inr h)

theorem both_addHeadersC (dw : Measure) {items : List Nat} (hitems : ∀ i ∈ items, I i) {L : Nat} (hL : P L) :
    Both ρ t P I (addHeadersC dw t items L) (addHeadersC dw t items (ρ L)) :=
  Both.seq (both_resize _) (Both.seq (both_rowAddMany dw hL items hitems)
    (Both.seq (both_modTable _ _ (foot_header hL) (fun tb => by simp [renTable]))
    (Both.seq (both_call dw (tgt := .row L) hL (reads_tablef (·.rowCbs.at .add) (fun _ => rfl)) reads_tableTaker)
      (Both.rd (reads_rowLen hL) (fun len _ => both_addTimeCells dw hL reads_tableTaker len 0)))))

/-! ### `InvokeRenderCallbacks` -/

def renderCellsStepC (dw : Measure) (t r i : Nat) (k : World → World) : World → World :=
  rd (fun w => columnOf w r i) (fun col =>
    seq (call dw (fun w => (w.table t).cellCbs.at .pre) (.cell r i) (fun _ => .table t))
    (seq (call dw (fun w => colCellCbs w col .pre) (.cell r i) (fun w => rowECTaker w r))
    (seq (call dw (fun w => (w.row r).cellCbs.at .pre) (.cell r i) (fun _ => .table t))
    (seq (call dw (fun w => (w.table t).cellCbs.at .render) (.cell r i) (fun _ => .table t))
    (seq (call dw (fun w => ((w.cell? r i).map (·.cbs.at .render)).getD []) (.cell r i) (fun _ => .table t))
    (seq (call dw (fun w => (w.row r).cellCbs.at .post) (.cell r i) (fun _ => .table t))
    (seq (call dw (fun w => colCellCbs w col .post) (.cell r i) (fun w => rowECTaker w r))
    (seq (call dw (fun w => (w.table t).cellCbs.at .post) (.cell r i) (fun _ => .table t))
      k))))))))

/-- proved by normalising both sides, as for `addRowC_eq` -/
theorem renderCells_succ (dw : Measure) (t r n i : Nat) :
    (fun w => renderCells dw t r (n + 1) i w)
      = renderCellsStepC dw t r i (fun w => renderCells dw t r n (i + 1) w) := by
  funext w; simp only [renderCells, renderCellsStepC, seq, rd, call]

theorem both_renderCells (dw : Measure) {r : Nat} (hr : P r) (n i : Nat) :
    Both ρ t P I (fun w => renderCells dw t r n i w) (fun w => renderCells dw t (ρ r) n i w) := by
  induction n generalizing i with
  | zero => exact Both.id' ρ t P I
  | succ n ih =>
    rw [renderCells_succ, renderCells_succ]
    refine Both.rd (reads_columnOf hr i) (fun col hcol => ?_)
    have pass : ∀ {cbs cbs₂ : World → List Cb} {tk tk₂ : World → Taker},
        Reads ρ t P I cbs cbs₂ (fun cbs => cbs) (fun _ => True) →
        Reads ρ t P I tk tk₂ (renTaker ρ) (TakerOK t P) →
        Both ρ t P I (call dw cbs (.cell r i) tk) (call dw cbs₂ (.cell (ρ r) i) tk₂) :=
      both_call dw (tgt := .cell r i) hr
    have tcb := fun tm => pass (reads_tablef (·.cellCbs.at tm) (fun _ => rfl)) reads_tableTaker
    have rcb := fun tm => pass (reads_rowf hr (·.cellCbs.at tm) (fun _ => rfl)) reads_tableTaker
    have ccb := fun tm => pass (reads_colCellCbs hcol tm) (reads_rowECTaker hr)
    refine Both.seq (tcb _) (Both.seq (ccb _) (Both.seq (rcb _) (Both.seq (tcb _)
      (Both.seq (pass ?_ reads_tableTaker) (Both.seq (rcb _) (Both.seq (ccb _) (Both.seq (tcb _) (ih (i + 1)))))))))
    exact (reads_cell? hr i).map (fun oc => (oc.map (·.cbs.at .render)).getD [])
      (fun oc => (oc.map (·.cbs.at .render)).getD []) (fun cbs => cbs) (fun _ => True)
      (fun oc => by cases oc <;> rfl) (fun _ _ => trivial)

def renderRowC (dw : Measure) (t r : Nat) : World → World :=
  seq (call dw (fun w => (w.row r).selfCbs.at .pre) (.row r) (fun _ => .table t))
  (seq (rd (fun w => (w.rowCells r).length) (fun len w => renderCells dw t r len 0 w))
    (call dw (fun w => (w.row r).selfCbs.at .post) (.row r) (fun _ => .table t)))

theorem renderRowC_eq (dw : Measure) (t r : Nat) : (fun w => renderRow dw t w r) = renderRowC dw t r := by
  funext w; simp only [renderRow, renderRowC, seq, rd, call]

theorem both_renderRow (dw : Measure) {r : Nat} (hr : P r) :
    Both ρ t P I (fun w => renderRow dw t w r) (fun w => renderRow dw t w (ρ r)) := by
  rw [renderRowC_eq, renderRowC_eq]
  exact Both.seq (both_call dw (tgt := .row r) hr (reads_rowf hr (·.selfCbs.at .pre) (fun _ => rfl))
      reads_tableTaker)
    (Both.seq (Both.rd (reads_rowLen hr) (fun len _ => both_renderCells dw hr len 0))
      (both_call dw (tgt := .row r) hr (reads_rowf hr (·.selfCbs.at .post) (fun _ => rfl)) reads_tableTaker))

theorem both_renderColumns (dw : Measure) (tm : Time) (n i : Nat) :
    Both ρ t P I (fun w => renderColumns dw t tm n i w) (fun w => renderColumns dw t tm n i w) := by
  induction n generalizing i with
  | zero => exact Both.id' ρ t P I
  | succ n ih =>
    exact Both.seq (both_call dw (tgt := .column t i) rfl
      (reads_tablef (fun tb => ((tb.columns[i]?).map (·.selfCbs.at tm)).getD []) (fun _ => rfl))
      reads_tableTaker) (ih (i + 1))

def ircC (dw : Measure) (t : Nat) : World → World :=
  seq (call dw (fun w => (w.table t).selfCbs.at .pre) (.table t) (fun _ => .table t))
  (rd (fun w => (w.table t).columns.length) (fun ncol =>
    seq (fun w => renderColumns dw t .pre ncol 0 w)
    (seq (rd (fun w => (w.table t).header) (fun h w => match h with
            | some hr => renderRow dw t w hr
            | none => w))
    (seq (rd (fun w => (w.table t).rows) (fun rows w => rows.foldl (renderRow dw t) w))
    (seq (fun w => renderColumns dw t .post ncol 0 w)
      (call dw (fun w => (w.table t).selfCbs.at .post) (.table t) (fun _ => .table t)))))))

/-- after normalising, the sides differ only in the auxiliary definition behind the `match` on the header -/
theorem ircC_eq (dw : Measure) (t : Nat) : (fun w => invokeRenderCallbacks dw w t) = ircC dw t := by
  funext w; simp only [invokeRenderCallbacks, ircC, seq, rd, call]; rfl

theorem both_invokeRenderCallbacks (dw : Measure) :
    Both ρ t P I (fun w => invokeRenderCallbacks dw w t) (fun w => invokeRenderCallbacks dw w t) := by
  rw [ircC_eq]
  have self : ∀ tm, Both ρ t P I (call dw (fun w => (w.table t).selfCbs.at tm) (.table t) (fun _ => .table t))
      (call dw (fun w => (w.table t).selfCbs.at tm) (.table t) (fun _ => .table t)) :=
    fun tm => both_call dw (tgt := .table t) rfl (reads_tablef (·.selfCbs.at tm) (fun _ => rfl)) reads_tableTaker
  refine Both.seq (self .pre) (Both.rd (reads_tablef (·.columns.length) (fun _ => rfl)) (fun ncol _ =>
    Both.seq (both_renderColumns dw .pre ncol 0)
    (Both.seq ?_ (Both.seq ?_ (Both.seq (both_renderColumns dw .post ncol 0) (self .post))))))
  · refine Both.rd ((reads_table ρ t P I).map (·.header) (·.header) (Option.map ρ)
      (fun h => ∀ hr, h = some hr → P hr) (fun _ => rfl) (fun tb htb hr e => htb hr (.inl e))) (fun h hh => ?_)
    cases h with
    | none => exact Both.id' ρ t P I
    | some hr => exact both_renderRow dw (hh hr rfl)
  · refine Both.rd ((reads_table ρ t P I).map (·.rows) (·.rows) (List.map ρ) (fun rows => ∀ r ∈ rows, P r)
      (fun _ => rfl) (fun tb htb r e => htb r (.inr e))) (fun rows hrows => ?_)
    exact Both.foldl (fun w r => renderRow dw t w r) (fun w r => renderRow dw t w r) ρ rows
      (fun r hr => both_renderRow dw (hrows r hr))

/-! ### registration, wrapping -/

theorem both_registerCb {o : Target} (ho : TgtOK t P o) (tm : Time) (tg : CbTarget) (cb : Cb) :
    Both ρ t P I (fun w => (registerCb w o tm tg cb).getD w)
      (fun w => (registerCb w (renTarget ρ o) tm tg cb).getD w) := by
  cases o with
  | table t' =>
    obtain rfl : t' = t := ho
    cases tg <;> exact both_modTable _ _ (fun _ _ h => .inl h) (fun _ => rfl)
  | column t' n =>
    obtain rfl : t' = t := ho
    cases tg
    · exact both_modColumn n _
    · exact both_modColumn n _
    · exact Both.id' _ _ _ _
  | row r =>
    cases tg <;> exact both_modRow ho _ _ (fun rw h => ⟨h.inT, h.ec, h.cells⟩) (fun _ => rfl)
  | cell r c =>
    cases tg
    · exact both_modCell ho c _ (fun _ => ⟨rfl, rfl⟩) (fun _ => rfl)
    · exact both_modCell ho c _ (fun _ => ⟨rfl, rfl⟩) (fun _ => rfl)
    · exact Both.id' _ _ _ _
  | copy n =>
    cases tg
    · exact both_other _ _ (fun _ => ⟨rfl, rfl, rfl⟩) (fun _ => ⟨rfl, rfl, rfl⟩)
    · exact both_other _ _ (fun _ => ⟨rfl, rfl, rfl⟩) (fun _ => ⟨rfl, rfl, rfl⟩)
    · exact Both.id' _ _ _ _

theorem both_wrapEffect (k : WKind) : Both ρ t P I (fun w => wrapEffect w k t) (fun w => wrapEffect w k t) := by
  cases k
  case text => exact both_modTable _ _ (fun _ _ h => .inl h) (fun _ => rfl)
  case markdown => exact both_modTable _ _ (fun _ _ h => .inl h) (fun _ => rfl)
  all_goals exact Both.id' _ _ _ _

end C16
end Tab
