/-
  "Wrapped at least once" as a property of the history: a render-time cell callback registered on
  a table stays registered through every later operation of a history (`has_runFrom`), so a history
  that contains a `Wrap` step (`wrapOps`) on an existing table establishes `Needs`
  (`needs_of_wrapped`).

  `tcbs w` is the projection "for each table, its render-time cell callbacks"; every operation keeps
  it, except `newTable` (appends an empty entry) and `RegisterPropertyCallback` on a table's cells
  at render time (appends to one entry).
-/
import Tabmodel.Proofs.E2EView
import Tabmodel.Proofs.Store
import Tabmodel.Proofs.Traverse
namespace Tab
namespace World

def tcbs (w : World) : List (List Cb) := w.tables.map (·.cellCbs.render)

def Has (w : World) (t : Nat) (cb : Cb) : Prop := cb ∈ (w.table t).cellCbs.render

theorem has_iff (w : World) (t : Nat) (cb : Cb) : Has w t cb ↔ cb ∈ w.tcbs.getD t [] := by
  unfold Has tcbs table
  rw [List.getD_eq_getElem?_getD, List.getD_eq_getElem?_getD, List.getElem?_map]
  cases w.tables[t]? <;> rfl

theorem has_of_tcbs_eq {w w' : World} (h : w'.tcbs = w.tcbs) (t : Nat) (cb : Cb) (hh : Has w t cb) :
    Has w' t cb := by
  rw [has_iff] at hh ⊢; rw [h]; exact hh

/-! ### what keeps `tcbs` -/

theorem tcbs_modTable_id (w : World) (t : Nat) (f : Table → Table)
    (h : ∀ tb, (f tb).cellCbs.render = tb.cellCbs.render) : (w.modTable t f).tcbs = w.tcbs := by
  unfold modTable tcbs
  exact map_modify_inv (fun tb : Table => tb.cellCbs.render) f h _ _

theorem tcbs_modRow (w : World) (r : Nat) (f : Row → Row) : (w.modRow r f).tcbs = w.tcbs := rfl
theorem tcbs_modCell (w : World) (r c : Nat) (f : Cell → Cell) : (w.modCell r c f).tcbs = w.tcbs := rfl
theorem tcbs_modColumn (w : World) (t n : Nat) (f : Column → Column) : (w.modColumn t n f).tcbs = w.tcbs :=
  tcbs_modTable_id _ _ _ (fun _ => rfl)
theorem tcbs_newRow (w : World) (rw : Row) : (w.newRow rw).1.tcbs = w.tcbs := rfl

theorem tcbs_resize (w : World) (t n : Nat) :
    (w.modTable t (fun tb => resizeColumnsAtLeast tb n)).tcbs = w.tcbs := by
  apply tcbs_modTable_id
  intro tb
  unfold resizeColumnsAtLeast
  split <;> rfl

theorem tcbs_addErrTo (w : World) (tk : Taker) (e : Nat) : (w.addErrTo tk e).tcbs = w.tcbs := by
  unfold addErrTo
  split
  · rfl
  · exact tcbs_modTable_id _ _ _ (fun _ => rfl)
  · rfl
  · split
    · rfl
    · rfl
    · exact tcbs_modTable_id _ _ _ (fun _ => rfl)

theorem tcbs_setProp (w : World) (o : Target) (k : Key) (v : Option Val) : (w.setProp o k v).tcbs = w.tcbs := by
  cases o with
  | table t => exact tcbs_modTable_id _ _ _ (fun _ => rfl)
  | column t n => exact tcbs_modColumn _ _ _ _
  | _ => rfl

/-- `tcbs` is kept by the three primitive writes of a callback, hence by every traversal -/
theorem tcbs_invoke (dw : Measure) (w : World) (cbs : List Cb) (tgt : Target) (tk : Taker) :
    (invoke dw w cbs tgt tk).tcbs = w.tcbs :=
  invoke_frame (P := fun w' => w'.tcbs = w.tcbs) dw cbs tgt tk
    (fun w' cb _ h => invokeOne_frame dw w' cb tgt tk (fun _ _ h => h)
      (fun w' k v h => (tcbs_setProp w' tgt k v).trans h) (fun w' e h => (tcbs_addErrTo w' tk e).trans h) h)
    w rfl

theorem tcbs_addTimeCells (dw : Measure) (t r : Nat) (colTaker : World → Taker) (n i : Nat) (w : World) :
    (addTimeCells dw t r colTaker n i w).tcbs = w.tcbs :=
  addTimeCells_keeps (P := fun w' => w'.tcbs = w.tcbs) (fun w' _ _ _ h => (tcbs_invoke dw w' _ _ _).trans h)
    t r colTaker n i w rfl

theorem tcbs_invokeRenderCallbacks (dw : Measure) (w : World) (t : Nat) :
    (invokeRenderCallbacks dw w t).tcbs = w.tcbs :=
  invokeRenderCallbacks_keeps (P := fun w' => w'.tcbs = w.tcbs)
    (fun w' _ _ _ h => (tcbs_invoke dw w' _ _ _).trans h) t w rfl

theorem tcbs_rowAddCell (dw : Measure) (w : World) (r : Nat) (ce : Cell) : (rowAddCell dw w r ce).tcbs = w.tcbs := by
  unfold rowAddCell
  split
  · exact tcbs_addErrTo _ _ _
  · simp only []
    rw [tcbs_invoke]
    split
    · rw [tcbs_resize]; rfl
    · rfl

theorem tcbs_rowAdd (dw : Measure) (w : World) (r i : Nat) : (rowAdd dw w r i).tcbs = w.tcbs :=
  tcbs_rowAddCell dw w r _

theorem tcbs_rowAddMany (dw : Measure) (r : Nat) (is : List Nat) (w : World) :
    (rowAddMany dw r is w).tcbs = w.tcbs := by
  induction is generalizing w with
  | nil => rfl
  | cons i is ih => simp only [rowAddMany]; rw [ih, tcbs_rowAdd]

theorem tcbs_addRow (dw : Measure) (w : World) (t r : Nat) : (addRow dw w t r).tcbs = w.tcbs := by
  unfold addRow
  simp only [tcbs_addTimeCells, tcbs_invoke]
  refine (tcbs_modRow _ _ _).trans ?_
  refine Eq.trans (tcbs_modTable_id _ _ _ ?_) ?_
  · intro _; rfl
  refine (tcbs_resize _ _ _).trans ?_
  refine (tcbs_modRow _ _ _).trans ?_
  exact tcbs_modTable_id _ _ _ (fun _ => rfl)

theorem tcbs_addSeparator (w : World) (t : Nat) : (addSeparator w t).tcbs = w.tcbs := by
  unfold addSeparator
  refine (tcbs_modRow _ _ _).trans ?_
  refine Eq.trans (tcbs_modTable_id _ _ _ ?_) ?_
  · intro _; rfl
  rfl

theorem tcbs_addHeaders (dw : Measure) (w : World) (t : Nat) (items : List Nat) :
    (addHeaders dw w t items).tcbs = w.tcbs := by
  unfold addHeaders
  simp only [tcbs_addTimeCells, tcbs_invoke]
  refine Eq.trans (tcbs_modTable_id _ _ _ ?_) ?_
  · intro _; rfl
  refine (tcbs_rowAddMany _ _ _ _).trans ?_
  refine (tcbs_newRow _ _).trans ?_
  exact tcbs_resize _ _ _

theorem tcbs_addRowItems (dw : Measure) (w : World) (t : Nat) (items : List Nat) :
    (addRowItems dw w t items).1.tcbs = w.tcbs := by
  unfold addRowItems
  simp only []
  rw [tcbs_addRow, tcbs_rowAddMany, tcbs_newRow]

theorem tcbs_appendNewRow (dw : Measure) (w : World) (t : Nat) : (appendNewRow dw w t).1.tcbs = w.tcbs := by
  unfold appendNewRow
  simp only []
  rw [tcbs_addRow, tcbs_newRow]

/-! ### every operation keeps a registered callback registered -/

theorem has_newTable (w : World) (t : Nat) (cb : Cb) (h : Has w t cb) : Has w.newTable.1 t cb := by
  unfold Has; rw [table_newTable]; exact h

theorem has_modTable (w : World) (t' : Nat) (f : Table → Table) (t : Nat) (cb : Cb)
    (hf : ∀ tb, cb ∈ tb.cellCbs.render → cb ∈ (f tb).cellCbs.render) (h : Has w t cb) :
    Has (w.modTable t' f) t cb := by
  unfold Has; rw [table_modTable]
  split
  · exact hf _ h
  · exact h

theorem mem_render_push (s : CbSet) (tm : Time) (cb' cb : Cb) (h : cb ∈ s.render) : cb ∈ (s.push tm cb').render := by
  cases tm with
  | render => exact List.mem_append_left _ h
  | _ => exact h

theorem has_registerCb (w : World) (o : Target) (tm : Time) (tg : CbTarget) (cb' : Cb) (t : Nat) (cb : Cb)
    (h : Has w t cb) : Has ((w.registerCb o tm tg cb').getD w) t cb := by
  cases o with
  | table t' =>
    cases tg with
    | cell => exact has_modTable w t' _ t cb (fun _ => mem_render_push _ tm cb' cb) h
    | _ => exact has_modTable w t' _ t cb (fun _ hc => hc) h
  | column t' n =>
    cases tg with
    | row => exact h
    | _ => exact has_modTable w t' _ t cb (fun _ hc => hc) h
  | row r => cases tg <;> exact h
  | cell r c => cases tg <;> exact h
  | copy n => cases tg <;> exact h

theorem has_applyOp (dw : Measure) (w : World) (op : BuildOp) (t : Nat) (cb : Cb) (h : Has w t cb) :
    Has (applyOp dw w op) t cb := by
  cases op with
  | newTable => exact has_newTable w t cb h
  | addHeaders t' items => exact has_of_tcbs_eq (tcbs_addHeaders dw w t' items) t cb h
  | addRowItems t' items => exact has_of_tcbs_eq (tcbs_addRowItems dw w t' items) t cb h
  | newRow => exact h
  | zeroRow => exact h
  | appendNewRow t' => exact has_of_tcbs_eq (tcbs_appendNewRow dw w t') t cb h
  | rowAdd r i => exact has_of_tcbs_eq (tcbs_rowAdd dw w r i) t cb h
  | rowAddCell r ce => exact has_of_tcbs_eq (tcbs_rowAddCell dw w r ce) t cb h
  | addRow t' r => exact has_of_tcbs_eq (tcbs_addRow dw w t' r) t cb h
  | addSeparator t' => exact has_of_tcbs_eq (tcbs_addSeparator w t') t cb h
  | regCb o tm tg cb' => exact has_registerCb w o tm tg cb' t cb h
  | setProp o k v => exact has_of_tcbs_eq (tcbs_setProp w o k v) t cb h
  | addErr tk e => exact has_of_tcbs_eq (tcbs_addErrTo w tk e) t cb h
  | setItems its => exact h
  | updateCell r c => exact h
  | copyCell r c =>
    show Has (match w.cell? r c with | some ce => { w with copies := w.copies ++ [ce] } | none => w) t cb
    split <;> exact h
  | render t' => exact has_of_tcbs_eq (tcbs_invokeRenderCallbacks dw w t') t cb h

theorem has_runFrom (dw : Measure) (ops : List BuildOp) (w : World) (t : Nat) (cb : Cb) (h : Has w t cb) :
    Has (runFrom dw w ops) t cb := by
  unfold runFrom
  induction ops generalizing w with
  | nil => exact h
  | cons op ops ih => exact ih _ (has_applyOp dw w op t cb h)

theorem needs_of_wrapped (dw : Measure) (pre post : List BuildOp) (wr : Wrapper)
    (ht : wr.core < (run dw pre).tables.length) :
    Needs (run dw (pre ++ wrapOps wr.kind wr.core ++ post)) wr := by
  rw [run_append, run_wrapOps]
  exact ⟨fun hk => has_runFrom dw post _ wr.core .dimSetter
      (render_mem_wrapEffect_self _ _ _ ht _ (congrArg wrapCb hk)),
    fun hk => has_runFrom dw post _ wr.core .widthSetter
      (render_mem_wrapEffect_self _ _ _ ht _ (congrArg wrapCb hk))⟩

end World
end Tab
