/-
  A predicate on cells that reads only a cell's item id, text and cached sizes (`SigInv`) and holds of
  every cell of every row and of every by-value copy (`CellsAll`) is kept by every write to the stores
  that leaves the cell lists alone, hence by every callback traversal, and by every operation of the
  API — provided the cells the operation creates (`newCell`), is handed (`rowAddCell`) or re-reads
  (`Cell.update`) satisfy it.  The item store is carried along (`Kept`), since `newCell` and
  `Cell.update` read it: only `setItems` changes it.
-/
import Tabmodel.Proofs.C03hDefs
import Tabmodel.Proofs.E2EcbRun
import Tabmodel.Proofs.Traverse
namespace Tab
namespace C03h
open World

/-- what `Cell.Update` caches of the item, with the item's id -/
def sig (c : Cell) : Nat × Bytes × Int × Int := (c.item, c.str, c.width, c.height)

def SigInv (Q : Cell → Prop) : Prop := ∀ a b : Cell, sig a = sig b → Q a → Q b

def RowAll (Q : Cell → Prop) (rw : Row) : Prop := ∀ ce ∈ rw.cells.getD [], Q ce

/-- every cell of every row in the store (attached or not, header or not) and every copy -/
def CellsAll (Q : Cell → Prop) (w : World) : Prop :=
  (∀ rw ∈ w.rows, RowAll Q rw) ∧ ∀ ce ∈ w.copies, Q ce

variable {Q : Cell → Prop}

theorem rowAll_of_nil {rw : Row} (h : rw.cells.getD [] = []) : RowAll Q rw := by
  intro ce hce; rw [h] at hce; cases hce

theorem CellsAll.row {w : World} (h : CellsAll Q w) (r : Nat) : RowAll Q (w.row r) := by
  unfold World.row
  rw [List.getD_eq_getElem?_getD]
  cases hr : w.rows[r]? with
  | none => exact rowAll_of_nil rfl
  | some rw => exact h.1 rw (List.mem_of_getElem? hr)

theorem CellsAll.rowCells {w : World} (h : CellsAll Q w) (r : Nat) : ∀ ce ∈ w.rowCells r, Q ce :=
  h.row r

theorem CellsAll.cell? {w : World} (h : CellsAll Q w) {r c : Nat} {ce : Cell} (hc : w.cell? r c = some ce) :
    Q ce := h.rowCells r ce (List.mem_of_getElem? hc)

theorem CellsAll.mono {Q' : Cell → Prop} {w : World} (h : CellsAll Q w) (hq : ∀ ce, Q ce → Q' ce) :
    CellsAll Q' w :=
  ⟨fun rw hrw ce hce => hq ce (h.1 rw hrw ce hce), fun ce hce => hq ce (h.2 ce hce)⟩

theorem cellsAll_empty : CellsAll Q {} :=
  ⟨fun _ h => (List.not_mem_nil h).elim, fun _ h => (List.not_mem_nil h).elim⟩

/-! ### writes to the stores -/

theorem cellsAll_items {w : World} (its : List Item) (h : CellsAll Q w) :
    CellsAll Q ({ w with items := its } : World) := h

theorem cellsAll_modColumn {w : World} (t n : Nat) (f : Column → Column) (h : CellsAll Q w) :
    CellsAll Q (w.modColumn t n f) := h

theorem cellsAll_newTable {w : World} (h : CellsAll Q w) : CellsAll Q w.newTable.1 := h

theorem cellsAll_modRow {w : World} (r : Nat) (f : Row → Row) (hf : ∀ rw, RowAll Q rw → RowAll Q (f rw))
    (h : CellsAll Q w) : CellsAll Q (w.modRow r f) := by
  refine ⟨?_, h.2⟩
  intro rw hrw
  rcases mem_modify f w.rows r rw hrw with h1 | ⟨b, hb, rfl⟩
  · exact h.1 rw h1
  · exact hf b (h.1 b hb)

theorem cellsAll_modRow_cells {w : World} (r : Nat) (f : Row → Row) (hf : ∀ rw, (f rw).cells = rw.cells)
    (h : CellsAll Q w) : CellsAll Q (w.modRow r f) :=
  cellsAll_modRow r f (fun rw hrw => by unfold RowAll; rw [hf rw]; exact hrw) h

theorem cellsAll_modCell {w : World} (r c : Nat) (g : Cell → Cell) (hg : ∀ ce, Q ce → Q (g ce))
    (h : CellsAll Q w) : CellsAll Q (w.modCell r c g) := by
  apply cellsAll_modRow r _ _ h
  intro rw hrw ce hce
  cases hc : rw.cells with
  | none => simp [hc] at hce
  | some cs =>
    simp only [hc, Option.map_some, Option.getD_some] at hce
    have hcs : ∀ x ∈ cs, Q x := by
      intro x hx; apply hrw; simp [hc, hx]
    rcases mem_modify g cs c ce hce with h1 | ⟨b, hb, rfl⟩
    · exact hcs ce h1
    · exact hg b (hcs b hb)

theorem cellsAll_modCopy {w : World} (n : Nat) (g : Cell → Cell) (hg : ∀ ce, Q ce → Q (g ce))
    (h : CellsAll Q w) : CellsAll Q ({ w with copies := w.copies.modify n g } : World) := by
  refine ⟨h.1, ?_⟩
  intro ce hce
  rcases mem_modify g w.copies n ce hce with h1 | ⟨b, hb, rfl⟩
  · exact h.2 ce h1
  · exact hg b (h.2 b hb)

theorem cellsAll_newRow {w : World} (rw : Row) (hrw : RowAll Q rw) (h : CellsAll Q w) :
    CellsAll Q (w.newRow rw).1 := by
  refine ⟨?_, h.2⟩
  intro rw' hm
  rcases List.mem_append.mp hm with h1 | h1
  · exact h.1 rw' h1
  · rw [List.mem_singleton.mp h1]; exact hrw

theorem cellsAll_setProp (hQ : SigInv Q) {w : World} (o : Target) (k : Key) (v : Option Val)
    (h : CellsAll Q w) : CellsAll Q (w.setProp o k v) := by
  cases o with
  | table t => exact h
  | column t n => exact h
  | row r => exact cellsAll_modRow_cells r _ (fun _ => rfl) h
  | cell r c => exact cellsAll_modCell r c _ (fun ce hce => hQ ce _ rfl hce) h
  | copy n => exact cellsAll_modCopy n _ (fun ce hce => hQ ce _ rfl hce) h

theorem cellsAll_addErrTo {w : World} (tk : Taker) (e : Nat) (h : CellsAll Q w) :
    CellsAll Q (w.addErrTo tk e) := by
  unfold World.addErrTo
  cases tk with
  | drop => exact h
  | table t => exact h
  | rowOwn r => exact cellsAll_modRow_cells r _ (fun rw => by split <;> rfl) h
  | rowLazy r =>
    dsimp only
    split
    · exact cellsAll_modRow_cells r _ (fun _ => rfl) h
    · exact cellsAll_modRow_cells r _ (fun _ => rfl) h
    · exact h

/-! ### with the item store: traversals and operations -/

def Kept (Q : Cell → Prop) (s : List Item) (w : World) : Prop := CellsAll Q w ∧ w.items = s

variable {s : List Item}

theorem Kept.item {w : World} (h : Kept Q s w) (i : Nat) : w.item i = s.getD i default := by
  unfold World.item; rw [h.2]

theorem kept_modTable {w : World} (t : Nat) (f : Table → Table) (h : Kept Q s w) : Kept Q s (w.modTable t f) := h

theorem kept_modRow_cells {w : World} (r : Nat) (f : Row → Row) (hf : ∀ rw, (f rw).cells = rw.cells)
    (h : Kept Q s w) : Kept Q s (w.modRow r f) :=
  ⟨cellsAll_modRow_cells r f hf h.1, h.2⟩

theorem kept_newRow {w : World} (rw : Row) (hrw : rw.cells.getD [] = []) (h : Kept Q s w) :
    Kept Q s (w.newRow rw).1 :=
  ⟨cellsAll_newRow rw (rowAll_of_nil hrw) h.1, h.2⟩

theorem kept_setProp (hQ : SigInv Q) {w : World} (o : Target) (k : Key) (v : Option Val) (h : Kept Q s w) :
    Kept Q s (w.setProp o k v) :=
  ⟨cellsAll_setProp hQ o k v h.1, (E2Ecb.items_setProp w o k v).trans h.2⟩

theorem kept_addErrTo {w : World} (tk : Taker) (e : Nat) (h : Kept Q s w) : Kept Q s (w.addErrTo tk e) :=
  ⟨cellsAll_addErrTo tk e h.1, (E2Ecb.items_addErrTo w tk e).trans h.2⟩

theorem kept_registerCb (hQ : SigInv Q) {w w' : World} (o : Target) (tm : Time) (tg : CbTarget) (cb : Cb)
    (e : w.registerCb o tm tg cb = some w') (h : Kept Q s w) : Kept Q s w' := by
  cases o with
  | table t => cases tg <;> cases e <;> exact h
  | column t n => cases tg <;> cases e <;> exact h
  | row r => cases tg <;> cases e <;> exact kept_modRow_cells r _ (fun _ => rfl) h
  | cell r c =>
    cases tg <;> cases e <;> exact ⟨cellsAll_modCell r c _ (fun ce hce => hQ ce _ rfl hce) h.1, h.2⟩
  | copy n =>
    cases tg <;> cases e <;> exact ⟨cellsAll_modCopy n _ (fun ce hce => hQ ce _ rfl hce) h.1, h.2⟩

/-- a callback writes by `setProp` and `addErrTo` only -/
theorem kept_invoke (hQ : SigInv Q) (dw : Measure) (w : World) (cbs : List Cb) (tgt : Target) (tk : Taker)
    (h : Kept Q s w) : Kept Q s (invoke dw w cbs tgt tk) :=
  invoke_frame dw cbs tgt tk (fun w cb _ h => invokeOne_frame dw w cb tgt tk (fun _ _ h => h)
    (fun _ k v h => kept_setProp hQ tgt k v h) (fun _ e h => kept_addErrTo tk e h) h) w h

theorem kept_rowAddCell (hQ : SigInv Q) (dw : Measure) {w : World} (r : Nat) (ce : Cell) (hce : Q ce)
    (h : Kept Q s w) : Kept Q s (w.rowAddCell dw r ce) := by
  unfold World.rowAddCell
  cases hc : (w.row r).cells with
  | none => exact kept_addErrTo _ _ h
  | some cs =>
    dsimp only
    apply kept_invoke hQ
    have h1 : Kept Q s (w.modRow r (fun rw =>
        { rw with cells := some (cs ++ [{ ce with inRow := some r, columnNum := cs.length + 1 }]) })) := by
      refine ⟨cellsAll_modRow r _ ?_ h.1, h.2⟩
      intro rw _ x hx
      simp only [Option.getD_some, List.mem_append, List.mem_singleton] at hx
      rcases hx with hx | rfl
      · exact h.1.row r x (by rw [hc]; exact hx)
      · exact hQ ce _ rfl hce
    split
    · exact kept_modTable _ _ h1
    · exact h1

theorem kept_rowAddMany (hQ : SigInv Q) (dw : Measure) (r : Nat) (is : List Nat) {w : World}
    (hnew : ∀ i ∈ is, Q (newCell dw i (s.getD i default))) (h : Kept Q s w) :
    Kept Q s (rowAddMany dw r is w) := by
  induction is generalizing w with
  | nil => exact h
  | cons i is ih =>
    refine ih (fun j hj => hnew j (List.mem_cons_of_mem _ hj)) (kept_rowAddCell hQ dw r _ ?_ h)
    rw [h.item]
    exact hnew i List.mem_cons_self

theorem kept_addTimeCells (hQ : SigInv Q) (dw : Measure) (t r : Nat) (colTaker : World → Taker)
    (n i : Nat) {w : World} (h : Kept Q s w) : Kept Q s (addTimeCells dw t r colTaker n i w) :=
  addTimeCells_keeps (kept_invoke hQ dw) t r colTaker n i w h

theorem kept_addRow (hQ : SigInv Q) (dw : Measure) (t r : Nat) {w : World} (h : Kept Q s w) :
    Kept Q s (w.addRow dw t r) := by
  unfold World.addRow
  apply kept_addTimeCells hQ
  apply kept_invoke hQ
  apply kept_invoke hQ
  refine kept_modRow_cells _ _ (fun _ => rfl) ?_
  apply kept_modTable
  apply kept_modTable
  refine kept_modRow_cells _ _ (fun _ => rfl) ?_
  apply kept_modTable
  exact h

theorem kept_addSeparator {w : World} (t : Nat) (h : Kept Q s w) : Kept Q s (w.addSeparator t) :=
  kept_modRow_cells _ _ (fun _ => rfl) (kept_modTable _ _ (kept_newRow _ rfl h))

theorem kept_addHeaders (hQ : SigInv Q) (dw : Measure) (t : Nat) (is : List Nat) {w : World}
    (hnew : ∀ i ∈ is, Q (newCell dw i (s.getD i default))) (h : Kept Q s w) :
    Kept Q s (w.addHeaders dw t is) := by
  unfold World.addHeaders
  apply kept_addTimeCells hQ
  apply kept_invoke hQ
  apply kept_modTable
  exact kept_rowAddMany hQ dw _ is hnew (kept_newRow _ rfl (kept_modTable _ _ h))

theorem kept_addRowItems (hQ : SigInv Q) (dw : Measure) (t : Nat) (is : List Nat) {w : World}
    (hnew : ∀ i ∈ is, Q (newCell dw i (s.getD i default))) (h : Kept Q s w) :
    Kept Q s (w.addRowItems dw t is).1 := by
  rw [addRowItems_fst]
  exact kept_addRow hQ dw t _ (kept_rowAddMany hQ dw _ is hnew (kept_newRow {} rfl h))

theorem kept_appendNewRow (hQ : SigInv Q) (dw : Measure) (t : Nat) {w : World} (h : Kept Q s w) :
    Kept Q s (w.appendNewRow dw t).1 := by
  rw [appendNewRow_fst]
  exact kept_addRow hQ dw t _ (kept_newRow {} rfl h)

theorem kept_render (hQ : SigInv Q) (dw : Measure) (t : Nat) {w : World} (h : Kept Q s w) :
    Kept Q s (invokeRenderCallbacks dw w t) :=
  invokeRenderCallbacks_keeps (kept_invoke hQ dw) t w h

theorem kept_applyOp (hQ : SigInv Q) (dw : Measure) {w : World} (op : BuildOp)
    (hnew : ∀ i ∈ op.madeFrom, (∀ r ce, op ≠ .rowAddCell r ce) → Q (newCell dw i (s.getD i default)))
    (hadd : ∀ r ce, op = .rowAddCell r ce → Q ce)
    (hupd : ∀ r c, op = .updateCell r c → ∀ ce, Q ce → Q (ce.update dw (s.getD ce.item default)))
    (h : Kept Q s w) : Kept Q (op.storeAfter s) (applyOp dw w op) := by
  cases op with
  | newTable => exact h
  | addHeaders t items =>
    exact kept_addHeaders hQ dw t items (fun i hi => hnew i hi (fun _ _ e => by cases e)) h
  | addRowItems t items =>
    exact kept_addRowItems hQ dw t items (fun i hi => hnew i hi (fun _ _ e => by cases e)) h
  | newRow => exact kept_newRow _ rfl h
  | zeroRow => exact kept_newRow _ rfl h
  | appendNewRow t => exact kept_appendNewRow hQ dw t h
  | rowAdd r i =>
    refine kept_rowAddCell hQ dw r _ ?_ h
    rw [h.item]
    exact hnew i List.mem_cons_self (fun _ _ e => by cases e)
  | rowAddCell r ce => exact kept_rowAddCell hQ dw r ce (hadd r ce rfl) h
  | addRow t r => exact kept_addRow (w := w) hQ dw t r h
  | addSeparator t => exact kept_addSeparator t h
  | regCb o tm tg cb =>
    show Kept Q s ((w.registerCb o tm tg cb).getD w)
    cases e : w.registerCb o tm tg cb with
    | none => exact h
    | some w' => exact kept_registerCb hQ o tm tg cb e h
  | setProp o k v => exact kept_setProp hQ o k v h
  | addErr tk e => exact kept_addErrTo tk e h
  | setItems its => exact ⟨h.1, rfl⟩
  | updateCell r c =>
    refine ⟨cellsAll_modCell r c _ (fun ce hce => ?_) h.1, h.2⟩
    rw [h.item]
    exact hupd r c rfl ce hce
  | copyCell r c =>
    show Kept Q s (match w.cell? r c with | some ce => _ | none => w)
    cases e : w.cell? r c with
    | none => exact h
    | some ce =>
      refine ⟨⟨h.1.1, ?_⟩, h.2⟩
      intro x hx
      rcases List.mem_append.mp hx with h1 | h1
      · exact h.1.2 x h1
      · rw [List.mem_singleton.mp h1]; exact h.1.cell? e
  | render t => exact kept_render hQ dw t h

end C03h
end Tab
