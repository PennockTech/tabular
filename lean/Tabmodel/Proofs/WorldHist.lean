/-
  Histories: each `BuildOp` of the model refines one step of the abstract machine, valid
  steps preserve the invariant, and the per-step laws for row lists and column counts.
-/
import Tabmodel.Proofs.WorldInv
namespace Tab

/-! ### refinement of one step and of a run -/

theorem shape_applyOp (dw : Measure) (w : World) (op : BuildOp) :
    (applyOp dw w op).shape = w.shape.step op := by
  cases op with
  | newTable => exact World.shape_newTable w
  | addHeaders t items => exact World.shape_addHeaders dw w t items
  | addRowItems t items => exact World.shape_addRowItems dw w t items
  | newRow => exact World.shape_newRow w {}
  | zeroRow => exact World.shape_newRow w { cells := none }
  | appendNewRow t => exact World.shape_appendNewRow dw w t
  | rowAdd r i => exact World.shape_rowAdd dw w r i
  | rowAddCell r ce => exact World.shape_rowAddCell dw w r ce
  | addRow t r => exact World.shape_addRow dw w t r
  | addSeparator t => exact World.shape_addSeparator w t
  | regCb o tm tg cb =>
    simp only [applyOp, Shape.step]
    cases h : w.registerCb o tm tg cb with
    | none => rfl
    | some w' => exact World.shape_registerCb w w' o tm tg cb h
  | setProp o k v => exact World.shape_setProp w o k v
  | addErr tk e => exact World.shape_addErrTo w tk e
  | setItems its => rfl
  | updateCell r c =>
    exact World.shape_modCell_id w r c _ (fun ce => World.geo_update dw _ ce)
  | copyCell r c =>
    simp only [applyOp, Shape.step]
    split <;> rfl
  | render t => exact World.shape_invokeRenderCallbacks dw w t

theorem shape_runFrom (dw : Measure) (w : World) (ops : List BuildOp) :
    (runFrom dw w ops).shape = w.shape.runFrom ops := by
  unfold runFrom Shape.runFrom
  induction ops generalizing w with
  | nil => rfl
  | cons op ops ih => simp only [List.foldl_cons]; rw [ih, shape_applyOp]

theorem shape_run (dw : Measure) (ops : List BuildOp) : (run dw ops).shape = Shape.runFrom {} ops :=
  shape_runFrom dw {} ops

/-! ### splitting a history -/

theorem runFrom_append (dw : Measure) (w : World) (a b : List BuildOp) :
    runFrom dw w (a ++ b) = runFrom dw (runFrom dw w a) b :=
  List.foldl_append

theorem run_append (dw : Measure) (a b : List BuildOp) : run dw (a ++ b) = runFrom dw (run dw a) b :=
  runFrom_append dw {} a b

theorem run_snoc (dw : Measure) (ops : List BuildOp) (op : BuildOp) :
    run dw (ops ++ [op]) = applyOp dw (run dw ops) op :=
  runFrom_append dw {} ops [op]

namespace Shape

theorem runFrom_append (s : Shape) (a b : List BuildOp) : s.runFrom (a ++ b) = (s.runFrom a).runFrom b :=
  List.foldl_append

theorem validFrom_append (s : Shape) (a b : List BuildOp) :
    s.validFrom (a ++ b) = (s.validFrom a && (s.runFrom a).validFrom b) := by
  induction a generalizing s with
  | nil => rfl
  | cons op a ih => simp only [List.cons_append, validFrom, ih, Bool.and_assoc]; rfl

/-! ### what a valid step may assume -/

theorem isHeader_false {s : Shape} {r : Nat} (h : s.isHeader r = false) (t : Nat) :
    (s.table t).header ≠ some r := by
  by_cases ht : t < s.tables.length
  · intro e
    have hm : s.table t ∈ s.tables := by
      unfold table; rw [List.getD_eq_getElem?_getD, List.getElem?_eq_getElem ht]
      exact List.getElem_mem ht
    unfold isHeader at h
    rw [List.any_eq_false] at h
    have := h _ hm
    simp [e] at this
  · rw [table_oob s t (by omega)]; intro e; cases e

/-- the precondition of `Row.Add`, as `ok` states it for `.rowAdd` and for `.rowAddCell` -/
theorem ok_rowAdd {s : Shape} {r : Nat} (h : (decide (r < s.rows.length) && !s.isHeader r) = true) :
    r < s.rows.length ∧ ∀ t, (s.table t).header ≠ some r := by
  simp only [Bool.and_eq_true, Bool.not_eq_true', decide_eq_true_eq] at h
  exact ⟨h.1, isHeader_false h.2⟩

theorem ok_addRow {s : Shape} {t r : Nat} (h : s.ok (.addRow t r) = true) :
    t < s.tables.length ∧ r < s.rows.length ∧ (s.row r).inTable = none ∧
      ∀ t', (s.table t').header ≠ some r := by
  simp only [ok, Bool.and_eq_true, Bool.not_eq_true', decide_eq_true_eq, beq_iff_eq] at h
  exact ⟨h.1.1.1, h.1.1.2, h.1.2, isHeader_false h.2⟩

/-! ### valid steps preserve the invariant -/

theorem SInv.step {s : Shape} (h : SInv s) (op : BuildOp) (hok : s.ok op = true) : SInv (s.step op) := by
  cases op with
  | newTable =>
    have e := table_newTable s
    refine h.of_skel (s' := s.newTable)
      ⟨rfl, fun t => by rw [e], fun t => by rw [e], fun _ => rfl, fun _ => rfl, fun _ => rfl⟩ ?_ ?_ ?_ h.geo h.sep
    · intro t; rw [e]; exact h.cols t
    · intro t r hm; rw [e]; exact h.wid t r hm
    · intro t hd hh; rw [e]; exact h.hwid t hd hh
  | addHeaders t items => exact h.addHeaders t _ (of_decide_eq_true hok)
  | addRowItems t items => exact h.addRowItems t _ (of_decide_eq_true hok)
  | newRow => exact h.newCellRow [] nofun
  | zeroRow => exact h.newRow { cells := none } rfl nofun (fun e => Bool.noConfusion e)
  | appendNewRow t => exact h.addRowItems t 0 (of_decide_eq_true hok)
  | rowAdd r i => exact h.rowAdd r (ok_rowAdd hok).2
  | rowAddCell r ce => exact h.rowAdd r (ok_rowAdd hok).2
  | addRow t r =>
    obtain ⟨ht, hr, hfree, hh⟩ := ok_addRow hok
    exact h.addRow t r ht hr hfree hh
  | addSeparator t => exact h.addSeparator t (of_decide_eq_true hok)
  | regCb o tm tg cb => exact h
  | setProp o k v => exact h
  | addErr tk e => exact h
  | setItems its => exact h
  | updateCell r c => exact h
  | copyCell r c => exact h
  | render t => exact h

theorem SInv.runFrom {s : Shape} (h : SInv s) (ops : List BuildOp) (hv : s.validFrom ops = true) :
    SInv (s.runFrom ops) := by
  unfold Shape.runFrom
  induction ops generalizing s with
  | nil => exact h
  | cons op ops ih =>
    simp only [validFrom, Bool.and_eq_true] at hv
    simp only [List.foldl_cons]
    exact ih (h.step op hv.1) hv.2

/-! ### per-step laws: row store, table lists, column counts -/

theorem addRowItems_rows_length (s : Shape) (t n : Nat) : (s.addRowItems t n).rows.length = s.rows.length + 1 := by
  obtain ⟨cs, _, _, e⟩ := addRowItems_eq s t n
  rw [e, addRow_rows_length, rows_length_newRow]

theorem addRowItems_tables_length (s : Shape) (t n : Nat) : (s.addRowItems t n).tables.length = s.tables.length := by
  obtain ⟨cs, _, _, e⟩ := addRowItems_eq s t n
  rw [e, addRow_tables_length, tables_newRow]

theorem addRowItems_rows (s : Shape) (t n t' : Nat) (ht : t < s.tables.length) :
    ((s.addRowItems t n).table t').rows = (s.table t').rows ++ if t = t' then [s.rows.length] else [] := by
  obtain ⟨cs, _, _, e⟩ := addRowItems_eq s t n
  rw [e, addRow_rows (s.newRow _) _ _ _ ht, table_newRow]

theorem addRowItems_nColumns (s : Shape) (t n t' : Nat) (ht : t < s.tables.length) :
    ((s.addRowItems t n).table t').nColumns = max (s.table t').nColumns (if t = t' then n else 0) := by
  obtain ⟨cs, hl, _, e⟩ := addRowItems_eq s t n
  rw [e, addRow_nColumns (s.newRow _) _ _ _ ht, table_newRow, width_newRow_self]
  exact hl ▸ rfl

theorem step_rows_length (s : Shape) (op : BuildOp) : (s.step op).rows.length = s.rows.length + op.newRows := by
  cases op with
  | addHeaders t items =>
    obtain ⟨cs, _, _, e⟩ := addHeaders_eq s t items.length
    simp only [Shape.step, e]; exact rows_length_newRow _ _
  | addRowItems t items => exact addRowItems_rows_length s t _
  | newRow => exact rows_length_newRow _ _
  | zeroRow => exact rows_length_newRow _ _
  | appendNewRow t => exact addRowItems_rows_length s t 0
  | rowAdd r i => exact (skel_rowAdd s r).rowsLen
  | rowAddCell r ce => exact (skel_rowAdd s r).rowsLen
  | addRow t r => exact addRow_rows_length s t r
  | addSeparator t => simp [Shape.step, Shape.addSeparator, BuildOp.newRows]
  | _ => rfl

theorem step_tables_length (s : Shape) (op : BuildOp) :
    (s.step op).tables.length = s.tables.length + (match op with | .newTable => 1 | _ => 0) := by
  cases op <;> simp only [Shape.step, Nat.add_zero]
  case newTable => exact tables_length_newTable s
  case addHeaders t items =>
    obtain ⟨cs, _, _, e⟩ := addHeaders_eq s t items.length
    rw [e]; simp [setHeader]
  case addRowItems t items => exact addRowItems_tables_length s t _
  case newRow => rfl
  case zeroRow => rfl
  case appendNewRow t => exact addRowItems_tables_length s t 0
  case rowAdd r i => exact rowAdd_tables_length s r
  case rowAddCell r ce => exact rowAdd_tables_length s r
  case addRow t r => exact addRow_tables_length s t r
  case addSeparator t => simp [Shape.addSeparator]

theorem step_rows (s : Shape) (op : BuildOp) (hok : s.ok op = true) (t : Nat) :
    ((s.step op).table t).rows = (s.table t).rows ++ op.attaches t s.rows.length := by
  cases op <;> simp only [Shape.step, BuildOp.attaches, List.append_nil]
  case newTable => rw [table_newTable]
  case addHeaders t' items =>
    obtain ⟨cs, _, _, e⟩ := addHeaders_eq s t' items.length
    rw [e, rows_setHeader, table_newRow, resizeT_rows]
  case addRowItems t' items => exact addRowItems_rows s t' _ t (of_decide_eq_true hok)
  case newRow => rfl
  case zeroRow => rfl
  case appendNewRow t' => exact addRowItems_rows s t' 0 t (of_decide_eq_true hok)
  case rowAdd r i => exact (skel_rowAdd s r).rows t
  case rowAddCell r ce => exact (skel_rowAdd s r).rows t
  case addRow t' r => exact addRow_rows s t' r t (ok_addRow hok).1
  case addSeparator t' =>
    have ht : t' < s.tables.length := of_decide_eq_true hok
    rw [addSeparator_eq _ _ ht, rows_attach (s.newRow _) _ _ _ ht, table_newRow]

theorem runFrom_rows (s : Shape) (ops : List BuildOp) (hv : s.validFrom ops = true) (t : Nat) :
    ((s.runFrom ops).table t).rows = (s.table t).rows ++ attachedFrom t s.rows.length ops := by
  unfold Shape.runFrom
  induction ops generalizing s with
  | nil => simp [attachedFrom]
  | cons op ops ih =>
    simp only [validFrom, Bool.and_eq_true] at hv
    simp only [List.foldl_cons, attachedFrom]
    rw [ih _ hv.2, step_rows _ _ hv.1, step_rows_length, List.append_assoc]

end Shape

theorem BuildOp.attaches_length (op : BuildOp) (t n : Nat) :
    (op.attaches t n).length = if op.isAttach t then 1 else 0 := by
  cases op with
  | addRowItems t' _ | appendNewRow t' | addSeparator t' | addRow t' _ =>
    simp only [attaches, isAttach, beq_iff_eq]; split <;> rfl
  | _ => rfl

theorem attachedFrom_length (t n : Nat) (ops : List BuildOp) :
    (attachedFrom t n ops).length = attachCount t ops := by
  unfold attachCount
  induction ops generalizing n with
  | nil => rfl
  | cons op ops ih =>
    rw [attachedFrom, List.length_append, ih, List.countP_cons, op.attaches_length, Nat.add_comm]

end Tab
