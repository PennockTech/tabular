/-
  One callback invocation: what a measuring callback preserves (`erase`) and establishes (`KeyMeas`: the
  measured value under a private key), and the invariants of the steps a `LogOnly` pass takes (`StepInv`).
-/
import Tabmodel.Proofs.StableFrame
import Tabmodel.Proofs.Store
import Tabmodel.Proofs.Traverse
namespace Tab
namespace World

theorem erase_modCell (w : World) (r c : Nat) (f : Cell → Cell) (hf : ∀ ce, (f ce).erase = ce.erase) :
    (w.modCell r c f).erase = w.erase := by
  unfold modCell modRow erase
  simp only
  congr 1
  apply map_modify_inv
  intro rw
  unfold Row.erase
  simp only
  congr 1
  cases rw.cells with
  | none => rfl
  | some cs =>
    simp only [Option.map_some]
    congr 1
    exact map_modify_inv Cell.erase f hf cs c

@[simp] theorem item_modCell (w : World) (r c : Nat) (f : Cell → Cell) (i : Nat) :
    (w.modCell r c f).item i = w.item i := rfl

theorem setProp_cell (w : World) (r c : Nat) (k : Key) (v : Option Val) :
    w.setProp (.cell r c) k v = w.modCell r c (fun ce => { ce with props := ce.props.set k v }) := rfl

theorem erase_setProp_priv (w : World) (r c : Nat) {k : Key} (hk : k.isPriv = true) (v : Val) :
    (w.setProp (.cell r c) k (some v)).erase = w.erase := by
  rw [setProp_cell]
  apply erase_modCell
  intro ce
  unfold Cell.erase
  simp only [Chain.user_set_priv ce.props hk v]

theorem mval_frame (dw : Measure) (w w' : World) (ce : Cell) (p : Chain) (h : ∀ i, w'.item i = w.item i) :
    mval dw w' { ce with props := p } = mval dw w ce := by
  funext k
  unfold mval
  cases k <;> simp only [h] <;> rfl

theorem mval_modCell (dw : Measure) (w : World) (r c : Nat) (f : Cell → Cell) (ce : Cell) (p : Chain) :
    mval dw (w.modCell r c f) { ce with props := p } = mval dw w ce :=
  mval_frame dw w (w.modCell r c f) ce p (fun _ => rfl)

theorem mval_erase (dw : Measure) (w : World) (ce : Cell) : mval dw w.erase ce.erase = mval dw w ce :=
  mval_frame dw w w.erase ce _ (fun _ => rfl)

def KeyMeas (dw : Measure) (k : Key) (r j : Nat) (w : World) : Prop :=
  ∀ ce, w.cell? r j = some ce → ce.props.get k = some (mval dw w ce k)

theorem keyMeas_setProp (dw : Measure) (w : World) (r' c' : Nat) (k' : Key) (v : Val)
    (hv : ∀ ce', w.cell? r' c' = some ce' → v = mval dw w ce' k') (k : Key) (r j : Nat)
    (h : KeyMeas dw k r j w ∨ (r' = r ∧ c' = j ∧ k' = k)) :
    KeyMeas dw k r j (w.setProp (.cell r' c') k' (some v)) := by
  intro ce hce
  rw [setProp_cell, cell?_modCell] at hce
  rw [setProp_cell]
  split at hce
  next hsame =>
    obtain ⟨rfl, rfl⟩ := hsame
    obtain ⟨ce0, hc0, rfl⟩ := Option.map_eq_some_iff.mp hce
    rw [mval_modCell, Chain.get_set_some]
    split
    next hk => subst hk; rw [hv ce0 hc0]
    next hk =>
      rcases h with h | ⟨_, _, h⟩
      · exact h ce0 hc0
      · exact absurd h hk
  next hother =>
    rcases h with h | ⟨h1, h2, _⟩
    · rw [h ce hce]
      exact congrArg some (congrFun (mval_modCell dw w r' c' _ ce ce.props) k).symm
    · exact absurd ⟨h1, h2⟩ hother

theorem cell?_setProp_same (w : World) (r c : Nat) (k : Key) (v : Option Val) (ce : Cell)
    (h : w.cell? r c = some ce) :
    (w.setProp (.cell r c) k v).cell? r c = some { ce with props := ce.props.set k v } := by
  rw [setProp_cell, cell?_modCell, h]; simp

/-! ### the two measuring callbacks -/

theorem invokeOne_dim_some (dw : Measure) (w : World) (r c : Nat) (tk : Taker) (ce : Cell)
    (h : w.cell? r c = some ce) :
    invokeOne dw w .dimSetter (.cell r c) tk =
      (w.setProp (.cell r c) .ttDims (some (mval dw w ce .ttDims))).setProp (.cell r c) .ttLines
        (some (mval dw w ce .ttLines)) := by
  unfold invokeOne; simp only [h]; rfl

theorem invokeOne_dim_none (dw : Measure) (w : World) (r c : Nat) (tk : Taker)
    (h : w.cell? r c = none) : invokeOne dw w .dimSetter (.cell r c) tk = w := by
  unfold invokeOne; simp only [h]

theorem invokeOne_wid_some (dw : Measure) (w : World) (r c : Nat) (tk : Taker) (ce : Cell)
    (h : w.cell? r c = some ce) :
    invokeOne dw w .widthSetter (.cell r c) tk =
      w.setProp (.cell r c) .mdWidth (some (mval dw w ce .mdWidth)) := by
  unfold invokeOne; simp only [h]; rfl

theorem invokeOne_wid_none (dw : Measure) (w : World) (r c : Nat) (tk : Taker)
    (h : w.cell? r c = none) : invokeOne dw w .widthSetter (.cell r c) tk = w := by
  unfold invokeOne; simp only [h]

theorem erase_invokeOne_dim (dw : Measure) (w : World) (r c : Nat) (tk : Taker) :
    (invokeOne dw w .dimSetter (.cell r c) tk).erase = w.erase := by
  cases h : w.cell? r c with
  | none => rw [invokeOne_dim_none dw w r c tk h]
  | some ce =>
    rw [invokeOne_dim_some dw w r c tk ce h, erase_setProp_priv _ r c rfl, erase_setProp_priv _ r c rfl]

theorem erase_invokeOne_wid (dw : Measure) (w : World) (r c : Nat) (tk : Taker) :
    (invokeOne dw w .widthSetter (.cell r c) tk).erase = w.erase := by
  cases h : w.cell? r c with
  | none => rw [invokeOne_wid_none dw w r c tk h]
  | some ce => rw [invokeOne_wid_some dw w r c tk ce h, erase_setProp_priv _ r c rfl]

theorem keyMeas_dim (dw : Measure) (w : World) (r' c' : Nat) (tk : Taker) (k : Key) (r j : Nat)
    (h : KeyMeas dw k r j w ∨ (r' = r ∧ c' = j ∧ (k = .ttDims ∨ k = .ttLines))) :
    KeyMeas dw k r j (invokeOne dw w .dimSetter (.cell r' c') tk) := by
  cases hc : w.cell? r' c' with
  | none =>
    rw [invokeOne_dim_none dw w r' c' tk hc]
    rcases h with h | ⟨rfl, rfl, _⟩
    · exact h
    · intro ce hce; rw [hc] at hce; cases hce
  | some ce =>
    rw [invokeOne_dim_some dw w r' c' tk ce hc]
    have hv1 : ∀ ce', w.cell? r' c' = some ce' → mval dw w ce .ttDims = mval dw w ce' .ttDims := by
      intro ce' hce'; rw [hc] at hce'; cases hce'; rfl
    apply keyMeas_setProp
    · intro ce' hce'
      rw [cell?_setProp_same w r' c' _ _ ce hc] at hce'
      cases hce'
      rw [setProp_cell, mval_modCell]
    · rcases h with h | ⟨h1, h2, h3 | h3⟩
      · exact Or.inl (keyMeas_setProp dw w r' c' _ _ hv1 k r j (Or.inl h))
      · exact Or.inl (keyMeas_setProp dw w r' c' _ _ hv1 k r j (Or.inr ⟨h1, h2, h3.symm⟩))
      · exact Or.inr ⟨h1, h2, h3.symm⟩

theorem keyMeas_wid (dw : Measure) (w : World) (r' c' : Nat) (tk : Taker) (k : Key) (r j : Nat)
    (h : KeyMeas dw k r j w ∨ (r' = r ∧ c' = j ∧ k = .mdWidth)) :
    KeyMeas dw k r j (invokeOne dw w .widthSetter (.cell r' c') tk) := by
  cases hc : w.cell? r' c' with
  | none =>
    rw [invokeOne_wid_none dw w r' c' tk hc]
    rcases h with h | ⟨rfl, rfl, _⟩
    · exact h
    · intro ce hce; rw [hc] at hce; cases hce
  | some ce =>
    rw [invokeOne_wid_some dw w r' c' tk ce hc]
    apply keyMeas_setProp
    · intro ce' hce'; rw [hc] at hce'; cases hce'; rfl
    · exact h.imp id (fun ⟨h1, h2, h3⟩ => ⟨h1, h2, h3.symm⟩)

theorem keyMeas_invokeOne_dim (dw : Measure) (w : World) (r' c' : Nat) (tk : Taker) (k : Key) (r j : Nat)
    (h : KeyMeas dw k r j w) : KeyMeas dw k r j (invokeOne dw w .dimSetter (.cell r' c') tk) :=
  keyMeas_dim dw w r' c' tk k r j (Or.inl h)

theorem keyMeas_invokeOne_wid (dw : Measure) (w : World) (r' c' : Nat) (tk : Taker) (k : Key) (r j : Nat)
    (h : KeyMeas dw k r j w) : KeyMeas dw k r j (invokeOne dw w .widthSetter (.cell r' c') tk) :=
  keyMeas_wid dw w r' c' tk k r j (Or.inl h)

theorem keyMeas_dim_est (dw : Measure) (w : World) (r c : Nat) (tk : Taker) :
    KeyMeas dw .ttDims r c (invokeOne dw w .dimSetter (.cell r c) tk) ∧
    KeyMeas dw .ttLines r c (invokeOne dw w .dimSetter (.cell r c) tk) :=
  ⟨keyMeas_dim dw w r c tk _ r c (Or.inr ⟨rfl, rfl, Or.inl rfl⟩),
   keyMeas_dim dw w r c tk _ r c (Or.inr ⟨rfl, rfl, Or.inr rfl⟩)⟩

theorem keyMeas_wid_est (dw : Measure) (w : World) (r c : Nat) (tk : Taker) :
    KeyMeas dw .mdWidth r c (invokeOne dw w .widthSetter (.cell r c) tk) :=
  keyMeas_wid dw w r c tk _ r c (Or.inr ⟨rfl, rfl, rfl⟩)

/-! ### invariants of the allowed steps -/

structure StepInv (dw : Measure) (P : World → Prop) : Prop where
  log : ∀ w id tgt tk, P w → P (invokeOne dw w (.log id) tgt tk)
  dim : ∀ w r c tk, P w → P (invokeOne dw w .dimSetter (.cell r c) tk)
  wid : ∀ w r c tk, P w → P (invokeOne dw w .widthSetter (.cell r c) tk)

theorem StepInv.all {dw : Measure} {ι : Sort _} {P : ι → World → Prop} (hP : ∀ i, StepInv dw (P i)) :
    StepInv dw (fun w => ∀ i, P i w) :=
  { log := fun w id tgt tk h i => (hP i).log w id tgt tk (h i)
    dim := fun w r c tk h i => (hP i).dim w r c tk (h i)
    wid := fun w r c tk h i => (hP i).wid w r c tk (h i) }

theorem StepInv.imp {dw : Measure} {A : Prop} {P : World → Prop} (hP : StepInv dw P) :
    StepInv dw (fun w => A → P w) :=
  { log := fun w id tgt tk h a => hP.log w id tgt tk (h a)
    dim := fun w r c tk h a => hP.dim w r c tk (h a)
    wid := fun w r c tk h a => hP.wid w r c tk (h a) }

theorem stepInv_erase (dw : Measure) (e : World) : StepInv dw (fun w => w.erase = e) :=
  { log := fun _ _ _ _ h => h
    dim := fun w r c tk h => (erase_invokeOne_dim dw w r c tk).trans h
    wid := fun w r c tk h => (erase_invokeOne_wid dw w r c tk).trans h }

end World
end Tab
