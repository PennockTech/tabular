/-
  The spec-level readers of C03m against the model's rune count (Model/Bytes.lean): a byte string
  `cpOfExact` accepts is exactly one rune for Go's decoder (`runeLen`) and is a whole code point at either
  end of itself; a cluster-shaped measure is at most twice the rune count.
-/
import Tabmodel.Proofs.C03mDefs
namespace Tab

theorem cpOfExact_len (g : Bytes) (c : Nat) (h : cpOfExact g = some c) : g.length ∈ [1, 2, 3, 4] := by
  unfold cpOfExact at h
  split at h
  case h_5 => cases h
  all_goals simp only [List.length_cons, List.length_nil]; decide

theorem startsCp_of_exact (p : Nat → Bool) (g : Bytes) (c : Nat) (h : cpOfExact g = some c)
    (hp : p c = true) : startsCp p g = true := by
  unfold startsCp
  rw [List.any_eq_true]
  refine ⟨g.length, cpOfExact_len g c h, ?_⟩
  simp [h, hp]

theorem endsCp_of_exact (p : Nat → Bool) (g : Bytes) (c : Nat) (h : cpOfExact g = some c)
    (hp : p c = true) : endsCp p g = true := by
  unfold endsCp
  rw [List.any_eq_true]
  refine ⟨g.length, cpOfExact_len g c h, ?_⟩
  simp [h, hp]

/-- on a single space both readers evaluate to `p 32 || false` -/
theorem endsCp_sp (p : Nat → Bool) : endsCp p [SP] = p 32 := Bool.or_false _

theorem startsCp_sp (p : Nat → Bool) : startsCp p [SP] = p 32 := Bool.or_false _

theorem u8_not_lt (a b : UInt8) (h : b ≤ a) : ¬ a < b := by
  rw [UInt8.le_iff_toNat_le] at h; rw [UInt8.lt_iff_toNat_lt]; omega

theorem u8_not_le_of_le (a : UInt8) (lo hi : UInt8) (h : lo ≤ a) (hlt : hi.toNat < lo.toNat) : ¬ a ≤ hi := by
  rw [UInt8.le_iff_toNat_le] at h ⊢; omega

theorem cpOfExact_runeLen (s : Bytes) (c : Nat) (h : cpOfExact s = some c) : runeLen s = s.length := by
  rcases s with _ | ⟨b0, _ | ⟨b1, _ | ⟨b2, _ | ⟨b3, _ | ⟨b4, t⟩⟩⟩⟩⟩
  · simp [cpOfExact] at h
  · simp only [cpOfExact] at h
    split at h
    · rename_i hc; simp [runeLen, hc]
    · cases h
  · simp only [cpOfExact] at h
    split at h
    · rename_i hc
      simp only [Bool.and_eq_true, decide_eq_true_eq] at hc
      obtain ⟨⟨h1, h2⟩, h3⟩ := hc
      have a1 : ¬ b0 < 0x80 := u8_not_lt _ _ (UInt8.le_trans (by decide) h1)
      have a2 : ¬ b0 < 0xC2 := u8_not_lt _ _ h1
      simp [runeLen, a1, a2, h2, h3]
    · cases h
  · simp only [cpOfExact] at h
    rw [Option.ite_none_right_eq_some] at h
    obtain ⟨hc, _⟩ := h
    · simp only [Bool.and_eq_true, decide_eq_true_eq] at hc
      obtain ⟨⟨⟨⟨h1, h2⟩, h3⟩, h4⟩, h5⟩ := hc
      have a1 : ¬ b0 < 0x80 := u8_not_lt _ _ (UInt8.le_trans (by decide) h1)
      have a2 : ¬ b0 < 0xC2 := u8_not_lt _ _ (UInt8.le_trans (by decide) h1)
      have a3 : ¬ b0 ≤ 0xDF := u8_not_le_of_le _ _ _ h1 (by decide)
      simp [runeLen, a1, a2, a3, h2, h3, h4, h5]
  · simp only [cpOfExact] at h
    rw [Option.ite_none_right_eq_some] at h
    obtain ⟨hc, _⟩ := h
    · simp only [Bool.and_eq_true, decide_eq_true_eq] at hc
      obtain ⟨⟨⟨⟨⟨h1, h2⟩, h3⟩, h4⟩, h5⟩, h6⟩ := hc
      have a1 : ¬ b0 < 0x80 := u8_not_lt _ _ (UInt8.le_trans (by decide) h1)
      have a2 : ¬ b0 < 0xC2 := u8_not_lt _ _ (UInt8.le_trans (by decide) h1)
      have a3 : ¬ b0 ≤ 0xDF := u8_not_le_of_le _ _ _ h1 (by decide)
      have a4 : ¬ b0 ≤ 0xEF := u8_not_le_of_le _ _ _ h1 (by decide)
      simp [runeLen, a1, a2, a3, a4, h2, h3, h4, h5, h6]
  · simp [cpOfExact] at h

theorem cpOfExact_ne_nil (s : Bytes) (c : Nat) (h : cpOfExact s = some c) : s ≠ [] := by
  rintro rfl; simp [cpOfExact] at h

theorem cpOfExact_runeCount (s : Bytes) (c : Nat) (h : cpOfExact s = some c) : runeCount s = 1 := by
  obtain ⟨b, bs, rfl⟩ := List.exists_cons_of_ne_nil (cpOfExact_ne_nil s c h)
  rw [runeCount_cons, cpOfExact_runeLen _ c h]
  simp [runeCount_nil]

theorem clusterWidth_one_eq (f : Nat) (s : Bytes) :
    clusterWidth (fun _ => 1) (fun _ => 1) f s = runeCountFuel f s := by
  induction f generalizing s with
  | zero => simp [clusterWidth, runeCountFuel]
  | succ n ih =>
    cases s with
    | nil => simp [clusterWidth, runeCountFuel]
    | cons b bs =>
      simp only [clusterWidth, runeCountFuel, dropRunes]
      rw [ih]

theorem runeCount_clusterShaped : ClusterShaped runeCount :=
  ⟨fun _ => 1, fun _ => 1, fun _ => Nat.le_refl 1, fun _ => Nat.le_succ 1,
    fun l => (clusterWidth_one_eq l.length l).symm⟩

theorem clusterShaped_le (dw : Measure) (h : ClusterShaped dw) (l : Bytes) : dw l ≤ 2 * runeCount l := by
  obtain ⟨cr, cw, hcr, hcw, hdw⟩ := h
  rw [hdw l]
  exact clusterWidth_le cr cw hcr hcw l.length l

end Tab
