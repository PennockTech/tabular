/- C11, history level — callbacks never change which callbacks are registered, nor the structure
   that decides which callbacks apply (`Same`): the lists an operation hands to `invoke` can all
   be read off the world in which the operation starts. -/
import Tabmodel.Proofs.Traverse
import Tabmodel.Proofs.WorldObs
namespace Tab

/-- the callback sets of a column / table / row (with its cells') / world -/
def Column.cbv (c : Column) : CbSet × CbSet := (c.cellCbs, c.selfCbs)
def Table.cbv (tb : Table) : CbSet × CbSet × CbSet × List (CbSet × CbSet) :=
  (tb.selfCbs, tb.cellCbs, tb.rowCbs, tb.columns.map Column.cbv)
def Row.cbv (rw : Row) : CbSet × CbSet × Option (List CbSet) :=
  (rw.cellCbs, rw.selfCbs, rw.cells.map (·.map (·.cbs)))
def World.cbv (w : World) := (w.tables.map Table.cbv, w.rows.map Row.cbv)

namespace World

theorem cbv_modTable (w : World) (t : Nat) (f : Table → Table) (hf : ∀ x, (f x).cbv = x.cbv) :
    (w.modTable t f).cbv = w.cbv := by
  simp only [cbv, modTable, map_modify_inv Table.cbv f hf]

theorem cbv_modRow (w : World) (r : Nat) (f : Row → Row) (hf : ∀ x, (f x).cbv = x.cbv) :
    (w.modRow r f).cbv = w.cbv := by
  simp only [cbv, modRow, map_modify_inv Row.cbv f hf]

theorem cbv_setProp (w : World) (tgt : Target) (k : Key) (v : Option Val) :
    (setProp w tgt k v).cbv = w.cbv := by
  cases tgt with
  | table t => exact cbv_modTable _ _ _ (fun _ => rfl)
  | column t n =>
    refine cbv_modTable _ _ _ (fun x => ?_)
    refine congrArg (fun l => (x.selfCbs, x.cellCbs, x.rowCbs, l)) (map_modify_inv Column.cbv _ ?_ _ _)
    intro _; rfl
  | row r => exact cbv_modRow _ _ _ (fun _ => rfl)
  | cell r c =>
    refine cbv_modRow _ _ _ (fun x => ?_)
    simp only [Row.cbv]
    cases x.cells with
    | none => rfl
    | some cs =>
      refine congrArg (fun l => (x.cellCbs, x.selfCbs, some l)) (map_modify_inv Cell.cbs _ ?_ _ _)
      intro _; rfl
  | copy n => rfl

theorem cbv_addErrTo (w : World) (tk : Taker) (e : Nat) : (addErrTo w tk e).cbv = w.cbv := by
  cases tk with
  | drop => rfl
  | table t => exact cbv_modTable _ _ _ (fun _ => rfl)
  | rowOwn r =>
    refine cbv_modRow _ _ _ (fun x => ?_)
    split <;> rfl
  | rowLazy r =>
    simp only [addErrTo]
    split
    · exact cbv_modRow _ _ _ (fun _ => rfl)
    · exact cbv_modRow _ _ _ (fun _ => rfl)
    · exact cbv_modTable _ _ _ (fun _ => rfl)

theorem cbv_invoke (dw : Measure) (w : World) (cbs : List Cb) (tgt : Target) (tk : Taker) :
    (invoke dw w cbs tgt tk).cbv = w.cbv :=
  invoke_frame (P := fun w' => w'.cbv = w.cbv) dw cbs tgt tk
    (fun w' cb _ h => invokeOne_frame dw w' cb tgt tk (fun _ _ h => h)
      (fun w'' k v h => (cbv_setProp w'' tgt k v).trans h) (fun w'' e h => (cbv_addErrTo w'' tk e).trans h) h)
    w rfl

def Same (w w' : World) : Prop := w'.shape = w.shape ∧ w'.cbv = w.cbv

theorem Same.refl (w : World) : Same w w := ⟨rfl, rfl⟩
theorem Same.trans {a b c : World} (h₁ : Same a b) (h₂ : Same b c) : Same a c :=
  ⟨h₂.1.trans h₁.1, h₂.2.trans h₁.2⟩

theorem same_invoke (dw : Measure) (w : World) (cbs : List Cb) (tgt : Target) (tk : Taker) :
    Same w (invoke dw w cbs tgt tk) := ⟨shape_invoke dw w cbs tgt tk, cbv_invoke dw w cbs tgt tk⟩

/-! ### reading through `Same` -/

theorem table_cbv {w w' : World} (h : Same w w') (t : Nat) : (w'.table t).cbv = (w.table t).cbv := by
  have e1 := getD_map_default Table.cbv w'.tables t {}
  have e2 := getD_map_default Table.cbv w.tables t {}
  have : w'.tables.map Table.cbv = w.tables.map Table.cbv := congrArg Prod.fst h.2
  unfold table
  rw [← e1, ← e2, this]

theorem row_cbv {w w' : World} (h : Same w w') (r : Nat) : (w'.row r).cbv = (w.row r).cbv := by
  have e1 := getD_map_default Row.cbv w'.rows r {}
  have e2 := getD_map_default Row.cbv w.rows r {}
  have : w'.rows.map Row.cbv = w.rows.map Row.cbv := congrArg Prod.snd h.2
  unfold row
  rw [← e1, ← e2, this]

theorem same_table_selfCbs {w w' : World} (h : Same w w') (t : Nat) :
    (w'.table t).selfCbs = (w.table t).selfCbs := congrArg (·.1) (table_cbv h t)
theorem same_table_cellCbs {w w' : World} (h : Same w w') (t : Nat) :
    (w'.table t).cellCbs = (w.table t).cellCbs := congrArg (·.2.1) (table_cbv h t)
theorem same_table_rowCbs {w w' : World} (h : Same w w') (t : Nat) :
    (w'.table t).rowCbs = (w.table t).rowCbs := congrArg (·.2.2.1) (table_cbv h t)
theorem same_row_cellCbs {w w' : World} (h : Same w w') (r : Nat) :
    (w'.row r).cellCbs = (w.row r).cellCbs := congrArg (·.1) (row_cbv h r)
theorem same_row_selfCbs {w w' : World} (h : Same w w') (r : Nat) :
    (w'.row r).selfCbs = (w.row r).selfCbs := congrArg (·.2.1) (row_cbv h r)

theorem same_column_cbv {w w' : World} (h : Same w w') (t n : Nat) :
    (w'.column? t n).map Column.cbv = (w.column? t n).map Column.cbv := by
  have : (w'.table t).columns.map Column.cbv = (w.table t).columns.map Column.cbv :=
    congrArg (·.2.2.2) (table_cbv h t)
  unfold column?
  rw [← List.getElem?_map, ← List.getElem?_map, this]

theorem same_column_cellCbs {w w' : World} (h : Same w w') (t n : Nat) (tm : Time) :
    ((w'.column? t n).map (·.cellCbs.at tm)).getD [] = ((w.column? t n).map (·.cellCbs.at tm)).getD [] := by
  have := same_column_cbv h t n
  cases h1 : w'.column? t n <;> cases h2 : w.column? t n <;> simp_all [Column.cbv]

theorem same_column_selfCbs {w w' : World} (h : Same w w') (t n : Nat) (tm : Time) :
    ((w'.column? t n).map (·.selfCbs.at tm)).getD [] = ((w.column? t n).map (·.selfCbs.at tm)).getD [] := by
  have := same_column_cbv h t n
  cases h1 : w'.column? t n <;> cases h2 : w.column? t n <;> simp_all [Column.cbv]

theorem same_colCellCbs {w w' : World} (h : Same w w') (tc : Option (Nat × Nat)) (tm : Time) :
    colCellCbs w' tc tm = colCellCbs w tc tm := by
  cases tc with
  | none => rfl
  | some p => obtain ⟨t, n⟩ := p; exact same_column_cellCbs h t n tm

theorem same_cell_cbs {w w' : World} (h : Same w w') (r i : Nat) :
    (w'.cell? r i).map (·.cbs) = (w.cell? r i).map (·.cbs) := by
  have : (w'.row r).cells.map (·.map Cell.cbs) = (w.row r).cells.map (·.map Cell.cbs) :=
    congrArg (·.2.2) (row_cbv h r)
  have key : ((w'.row r).cells.getD []).map Cell.cbs = ((w.row r).cells.getD []).map Cell.cbs := by
    cases h1 : (w'.row r).cells <;> cases h2 : (w.row r).cells <;> simp_all
  unfold cell? rowCells
  rw [← List.getElem?_map, ← List.getElem?_map, key]

theorem same_cell_render {w w' : World} (h : Same w w') (r i : Nat) :
    ((w'.cell? r i).map (·.cbs.at .render)).getD [] = ((w.cell? r i).map (·.cbs.at .render)).getD [] := by
  have := same_cell_cbs h r i
  cases h1 : w'.cell? r i <;> cases h2 : w.cell? r i <;> simp_all

/-- `columnOf` reads the shape only -/
def _root_.Tab.Shape.columnOf (s : Shape) (r c : Nat) : Option (Nat × Nat) :=
  match ((s.row r).cells.getD [])[c]? with
  | none => none
  | some g =>
    if g.1 < 1 then none else
    match g.2 with
    | none => none
    | some r' =>
      match (s.row r').inTable with
      | none => none
      | some t => if g.1 > (s.table t).nColumns then none else some (t, g.1)

theorem columnOf_shape (w : World) (r c : Nat) : columnOf w r c = w.shape.columnOf r c := by
  unfold columnOf Shape.columnOf cell? rowCells
  rw [shape_row_cells]
  have : (((w.row r).cells.map (·.map Cell.geo)).getD [])[c]? = (((w.row r).cells.getD [])[c]?).map Cell.geo := by
    cases (w.row r).cells <;> simp
  rw [this]
  cases ((w.row r).cells.getD [])[c]? with
  | none => rfl
  | some ce =>
    simp only [Option.map_some, Cell.geo]
    split
    · rfl
    · cases ce.inRow with
      | none => rfl
      | some r' =>
        simp only [shape_row_inTable]
        cases (w.row r').inTable with
        | none => rfl
        | some t => simp only [shape_table_nColumns]

theorem same_columnOf {w w' : World} (h : Same w w') (r c : Nat) : columnOf w' r c = columnOf w r c := by
  rw [columnOf_shape, columnOf_shape, h.1]

theorem same_rowCells_length {w w' : World} (h : Same w w') (r : Nat) :
    (w'.rowCells r).length = (w.rowCells r).length := by
  rw [← shape_width, ← shape_width, h.1]

theorem same_columns_length {w w' : World} (h : Same w w') (t : Nat) :
    (w'.table t).columns.length = (w.table t).columns.length := by
  rw [← shape_table_nColRecs, ← shape_table_nColRecs, h.1]

theorem same_rows {w w' : World} (h : Same w w') (t : Nat) : (w'.table t).rows = (w.table t).rows := by
  rw [← shape_table_rows, ← shape_table_rows, h.1]

theorem same_header {w w' : World} (h : Same w w') (t : Nat) :
    (w'.table t).header = (w.table t).header := by
  rw [← shape_table_header, ← shape_table_header, h.1]

end World
end Tab
