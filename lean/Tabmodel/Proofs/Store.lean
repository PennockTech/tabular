/-
  Reading the world's stores (`tables`, `rows`, cells, columns) after a write.  Every object is an id into a
  list read with a default, so each write has one read-after-write equation: the entry changes iff the id is
  the written one and in range.  The write itself is `List.modify`: how it passes under `map` and `∈` is here too.
-/
import Tabmodel.Model.World
namespace Tab

/-! ### lists read with a default -/

theorem getD_all {α} {P : α → Prop} {d : α} (hd : P d) {l : List α} (h : ∀ a ∈ l, P a) (i : Nat) :
    P (l.getD i d) := by
  rw [List.getD_eq_getElem?_getD]
  cases hi : l[i]? with
  | none => exact hd
  | some a => exact h a (List.mem_of_getElem? hi)

theorem getD_modify {α} (l : List α) (i j : Nat) (f : α → α) (d : α) :
    (l.modify i f).getD j d = if i = j ∧ j < l.length then f (l.getD j d) else l.getD j d := by
  induction l generalizing i j with
  | nil => simp
  | cons a l ih =>
    cases i with
    | zero => cases j <;> simp
    | succ i =>
      cases j with
      | zero => simp
      | succ j => simpa using ih i j

theorem modify_fix {α} (l : List α) (i : Nat) (f : α → α) (h : ∀ a, l[i]? = some a → f a = a) :
    l.modify i f = l := by
  apply List.ext_getElem?
  intro j
  rw [List.getElem?_modify]
  split
  · rename_i e; subst e
    cases hh : l[i]? with
    | none => rfl
    | some a => simp [h a hh]
  · simp

theorem sum_map_modify {α} (l : List α) (i : Nat) (f : α → α) (g : α → Nat) (d : α)
    (h : i < l.length) :
    ((l.modify i f).map g).sum + g (l.getD i d) = (l.map g).sum + g (f (l.getD i d)) := by
  induction l generalizing i with
  | nil => exact absurd h (Nat.not_lt_zero _)
  | cons a l ih =>
    cases i with
    | zero => simp only [List.modify_zero_cons, List.map_cons, List.sum_cons, List.getD_cons_zero]; omega
    | succ i =>
      have := ih i (Nat.lt_of_succ_lt_succ h)
      simp only [List.modify_succ_cons, List.map_cons, List.sum_cons, List.getD_cons_succ] at this ⊢
      omega

theorem all_modify {α} (l : List α) (i : Nat) (f : α → α) (p : α → Bool)
    (hf : ∀ x, p x = true → p (f x) = true) (h : l.all p = true) : (l.modify i f).all p = true := by
  induction l generalizing i with
  | nil => simp
  | cons a l ih =>
    simp only [List.all_cons, Bool.and_eq_true] at h
    cases i with
    | zero => simp [hf a h.1, h.2]
    | succ i => simp [h.1, ih i h.2]

theorem getD_append_length {α} (l : List α) (a d : α) : (l ++ [a]).getD l.length d = a := by
  simp [List.getD_eq_getElem?_getD]

theorem getD_append_ne {α} (l : List α) (a d : α) (i : Nat) (h : i ≠ l.length) :
    (l ++ [a]).getD i d = l.getD i d := by
  rcases Nat.lt_or_gt_of_ne h with h | h
  · simp [List.getD_eq_getElem?_getD, List.getElem?_append_left h]
  · have h2 : (l ++ [a]).length ≤ i := by simp; omega
    simp [List.getD_eq_getElem?_getD, List.getElem?_eq_none (Nat.le_of_lt h), List.getElem?_eq_none h2]

theorem getD_append_lt {α} (l : List α) (a d : α) (i : Nat) (h : i < l.length) :
    (l ++ [a]).getD i d = l.getD i d :=
  getD_append_ne l a d i (Nat.ne_of_lt h)

theorem getD_append_default {α} (l : List α) (d : α) (i : Nat) : (l ++ [d]).getD i d = l.getD i d := by
  by_cases h : i = l.length
  · subst h; rw [getD_append_length]; simp [List.getD_eq_getElem?_getD]
  · exact getD_append_ne l d d i h

/-! ### `List.modify` under `map` and `∈` -/

theorem map_modify_comm {α β} (f : α → β) (g : α → α) (g' : β → β) (h : ∀ a, f (g a) = g' (f a))
    (l : List α) (i : Nat) : (l.modify i g).map f = (l.map f).modify i g' := by
  apply List.ext_getElem?
  intro j
  simp only [List.getElem?_map, List.getElem?_modify]
  cases l[j]? with
  | none => rfl
  | some a =>
    by_cases hij : i = j
    · simp [hij, h]
    · simp [hij]

theorem map_modify_inv {α β} (f : α → β) (g : α → α) (h : ∀ a, f (g a) = f a)
    (l : List α) (i : Nat) : (l.modify i g).map f = l.map f :=
  (map_modify_comm f g id h l i).trans (List.modify_id _ _)

theorem mem_modify {α} (f : α → α) (l : List α) (i : Nat) (a : α) (h : a ∈ l.modify i f) :
    a ∈ l ∨ ∃ b ∈ l, a = f b := by
  obtain ⟨j, hj⟩ := List.getElem?_of_mem h
  rw [List.getElem?_modify] at hj
  cases hl : l[j]? with
  | none => rw [hl] at hj; simp at hj
  | some b =>
    rw [hl] at hj
    have hb : b ∈ l := List.mem_of_getElem? hl
    by_cases hij : i = j
    · simp [hij] at hj; exact .inr ⟨b, hb, hj.symm⟩
    · simp [hij] at hj; exact .inl (hj ▸ hb)

namespace World

theorem table_eq (w : World) (t : Nat) : w.table t = (w.tables[t]?).getD {} := by
  simp [World.table, List.getD_eq_getElem?_getD]

theorem row_eq (w : World) (r : Nat) : w.row r = (w.rows[r]?).getD {} := by
  simp [World.row, List.getD_eq_getElem?_getD]

/-! ### ids outside a store -/

theorem row_oob (w : World) (r : Nat) (h : w.rows.length ≤ r) : w.row r = {} := by
  rw [row_eq, List.getElem?_eq_none h]; rfl

theorem table_oob (w : World) (t : Nat) (h : w.tables.length ≤ t) : w.table t = {} := by
  rw [table_eq, List.getElem?_eq_none h]; rfl

theorem modTable_oob (w : World) (t : Nat) (f : Table → Table) (h : w.tables.length ≤ t) :
    w.modTable t f = w := by
  simp only [modTable, List.modify_eq_self h]

theorem modRow_oob (w : World) (r : Nat) (f : Row → Row) (h : w.rows.length ≤ r) :
    w.modRow r f = w := by
  simp only [modRow, List.modify_eq_self h]

/-! ### `modTable`, `modRow` -/

@[simp] theorem modRow_tables (w : World) (r : Nat) (f : Row → Row) :
    (w.modRow r f).tables = w.tables := rfl
@[simp] theorem modTable_rows (w : World) (t : Nat) (f : Table → Table) :
    (w.modTable t f).rows = w.rows := rfl
@[simp] theorem modRow_rows_length (w : World) (r : Nat) (f : Row → Row) :
    (w.modRow r f).rows.length = w.rows.length := by simp [modRow]
@[simp] theorem modTable_tables_length (w : World) (t : Nat) (f : Table → Table) :
    (w.modTable t f).tables.length = w.tables.length := by simp [modTable]
@[simp] theorem table_modRow (w : World) (r : Nat) (f : Row → Row) (t : Nat) :
    (w.modRow r f).table t = w.table t := rfl
@[simp] theorem row_modTable (w : World) (t : Nat) (f : Table → Table) (r : Nat) :
    (w.modTable t f).row r = w.row r := rfl

theorem row_modRow (w : World) (r : Nat) (f : Row → Row) (r' : Nat) :
    (w.modRow r f).row r' = if r = r' ∧ r' < w.rows.length then f (w.row r') else w.row r' :=
  getD_modify _ _ _ _ _

theorem table_modTable (w : World) (t : Nat) (f : Table → Table) (t' : Nat) :
    (w.modTable t f).table t' =
      if t = t' ∧ t' < w.tables.length then f (w.table t') else w.table t' :=
  getD_modify _ _ _ _ _

theorem row_modRow_self (w : World) (r : Nat) (f : Row → Row) (h : r < w.rows.length) :
    (w.modRow r f).row r = f (w.row r) := by simp [row_modRow, h]

theorem table_modTable_self (w : World) (t : Nat) (f : Table → Table) (h : t < w.tables.length) :
    (w.modTable t f).table t = f (w.table t) := by simp [table_modTable, h]

theorem row_modRow_ne (w : World) (r r' : Nat) (f : Row → Row) (h : r ≠ r') :
    (w.modRow r f).row r' = w.row r' := by simp [row_modRow, h]

theorem table_modTable_ne (w : World) (t t' : Nat) (f : Table → Table) (h : t ≠ t') :
    (w.modTable t f).table t' = w.table t' := by simp [table_modTable, h]

theorem row_modRow_proj {β} (w : World) (r : Nat) (f : Row → Row) (g : Row → β)
    (h : ∀ x, g (f x) = g x) (r' : Nat) : g ((w.modRow r f).row r') = g (w.row r') := by
  rw [row_modRow]; split <;> simp [h]

theorem table_modTable_proj {β} (w : World) (t : Nat) (f : Table → Table) (g : Table → β)
    (h : ∀ x, g (f x) = g x) (t' : Nat) : g ((w.modTable t f).table t') = g (w.table t') := by
  rw [table_modTable]; split <;> simp [h]

/-! ### cells and columns -/

/-- `g [] = []` covers a row without a cell slice or outside the store -/
theorem rowCells_modRow_cells (w : World) (r : Nat) (g : List Cell → List Cell) (hg : g [] = []) (r' : Nat) :
    (w.modRow r (fun rw => { rw with cells := rw.cells.map g })).rowCells r' =
      if r = r' then g (w.rowCells r') else w.rowCells r' := by
  simp only [rowCells, row_modRow]
  by_cases h : r = r'
  · subst h
    by_cases h2 : r < w.rows.length
    · simp only [h2, and_self, if_true]
      cases (w.row r).cells <;> simp [hg]
    · simp [h2, row_oob w r (Nat.le_of_not_lt h2), hg]
  · simp [h]

theorem cell?_modCell (w : World) (r c : Nat) (f : Cell → Cell) (r' c' : Nat) :
    (w.modCell r c f).cell? r' c' = if r = r' ∧ c = c' then (w.cell? r' c').map f else w.cell? r' c' := by
  unfold cell? modCell
  rw [rowCells_modRow_cells w r (fun cs => cs.modify c f) (by simp)]
  by_cases h : r = r'
  · by_cases h2 : c = c' <;> simp [h, h2]
  · simp [h]

theorem column?_modColumn (w : World) (t n : Nat) (f : Column → Column) (t' n' : Nat) :
    (w.modColumn t n f).column? t' n' =
      if t = t' ∧ t' < w.tables.length ∧ n = n' then (w.column? t' n').map f else w.column? t' n' := by
  simp only [column?, modColumn, table_modTable]
  by_cases h : t = t' ∧ t' < w.tables.length
  · by_cases h2 : n = n' <;> simp [h, h2]
  · have : ¬ (t = t' ∧ t' < w.tables.length ∧ n = n') := fun hh => h ⟨hh.1, hh.2.1⟩
    simp [h, this]

/-! ### a write that keeps the cells of every row, or the columns of every table -/

theorem rowCells_modRow_of (w : World) (r : Nat) (f : Row → Row) (hf : ∀ rw, (f rw).cells = rw.cells) (r' : Nat) :
    (w.modRow r f).rowCells r' = w.rowCells r' :=
  row_modRow_proj w r f (fun rw => rw.cells.getD []) (fun rw => by rw [hf]) r'

theorem cell?_modRow_of (w : World) (r : Nat) (f : Row → Row) (hf : ∀ rw, (f rw).cells = rw.cells) (r' c : Nat) :
    (w.modRow r f).cell? r' c = w.cell? r' c := by
  simp only [cell?, rowCells_modRow_of w r f hf]

theorem column?_modTable_of (w : World) (t : Nat) (f : Table → Table) (hf : ∀ tb, (f tb).columns = tb.columns)
    (t' n : Nat) : (w.modTable t f).column? t' n = w.column? t' n :=
  table_modTable_proj w t f (fun tb => tb.columns[n]?) (fun tb => by rw [hf]) t'

/-! ### stores that grow -/

theorem table_newTable (w : World) (t : Nat) : w.newTable.1.table t = w.table t :=
  getD_append_default w.tables {} t

theorem row_newRow_self (w : World) (rw : Row) : (w.newRow rw).1.row w.rows.length = rw :=
  getD_append_length _ _ _

theorem row_newRow_ne (w : World) (rw : Row) (r : Nat) (h : r ≠ w.rows.length) :
    (w.newRow rw).1.row r = w.row r := getD_append_ne w.rows rw {} r h

theorem row_newRow_lt (w : World) (rw : Row) (r : Nat) (h : r < w.rows.length) :
    (w.newRow rw).1.row r = w.row r := row_newRow_ne w rw r (Nat.ne_of_lt h)

theorem columnOf_congr {w' w : World} (r c : Nat)
    (hc : (w'.cell? r c).map (fun ce => (ce.columnNum, ce.inRow)) =
      (w.cell? r c).map (fun ce => (ce.columnNum, ce.inRow)))
    (hr : ∀ r, (w'.row r).inTable = (w.row r).inTable)
    (ht : ∀ t, (w'.table t).nColumns = (w.table t).nColumns) : w'.columnOf r c = w.columnOf r c := by
  unfold columnOf
  cases h' : w'.cell? r c with
  | none =>
    cases h : w.cell? r c with
    | none => rfl
    | some ce => rw [h', h] at hc; cases hc
  | some ce' =>
    cases h : w.cell? r c with
    | none => rw [h', h] at hc; cases hc
    | some ce =>
      rw [h', h] at hc
      have h1 : ce'.columnNum = ce.columnNum := congrArg Prod.fst (Option.some.inj hc)
      have h2 : ce'.inRow = ce.inRow := congrArg Prod.snd (Option.some.inj hc)
      simp only [h1, h2, hr, ht]

end World
end Tab
