/-
  C12h: callback traversals.  C13x proves of each traversal of the model that whatever one invocation of a
  registered callback keeps (`StepInv`) the whole traversal keeps (`C13x.Traversal`).  Two invariants are carried through it: a key that no callback writes reads the same (`Keeps`), and a key that
  callbacks do write reads like the logged invocations replayed as sets (`TracksEs`).  Every operation that sets
  nothing and brings no callback is an update invisible to `CSame` followed by one traversal.
-/
import Tabmodel.Proofs.C12hOwners
import Tabmodel.Proofs.C12hState
import Tabmodel.Proofs.Traverse
namespace Tab
open World
open C13 C13x
namespace C12h

/-! ### a key no callback writes; one link per key -/

theorem allNodup_invokeOne (dw : Measure) {w : World} (h : AllNodup w) (cb : Cb) (tgt : Target) (tk : Taker) :
    AllNodup (invokeOne dw w cb tgt tk) :=
  World.invokeOne_frame (P := AllNodup) dw w cb tgt tk (fun _ _ h o => by rw [chainOf_events]; exact h o)
    (fun _ k v h => allNodup_setProp h tgt k v) (fun _ e h => allNodup_csame (csame_addErrTo _ tk e) h) h

theorem stepInv_nodup (dw : Measure) (w0 : World) : StepInv dw w0 (fun w' _ => AllNodup w') :=
  fun _ _ cb tgt tk _ _ hJ => allNodup_invokeOne dw hJ cb tgt tk

theorem _root_.Tab.C13x.Traversal.allNodup {dw : Measure} {w0 w' : World} {es : List Event} (h : Traversal dw w0 w' es)
    (hn : AllNodup w0) : AllNodup w' :=
  (h _ (stepInv_nodup dw w0) hn).inv

theorem stepInv_val (dw : Measure) {k : Key} {w0 : World} (hq : Quiet k w0) :
    StepInv dw w0 (fun w' _ => ∀ o, w'.getProp o k = w0.getProp o k) := by
  intro w' es cb tgt tk _ ⟨s, tm, hcb⟩ hJ o
  rw [getProp_invokeOne_not_writes dw w' cb tgt tk k (hq s tm cb hcb) o]
  exact hJ o

theorem keeps_of_any (dw : Measure) {k : Key} {w0 w' : World} {es : List Event} (h : Traversal dw w0 w' es) :
    Keeps k w0 w' :=
  ⟨fun hq => (h _ (stepInv_val dw hq) (fun _ => rfl)).inv, h.same.cbs, h.same.ncopies, h.allNodup⟩

/-! ### a key callbacks write: each invocation acts as a set on its target -/

theorem hasObj_events (w : World) (es : List Event) (o : Target) :
    ({ w with events := es } : World).hasObj o = w.hasObj o := by
  cases o <;> rfl

theorem getProp_invokeOne_writer (dw : Measure) {w : World} (hn : AllNodup w) (id : Nat) (k : Key)
    (v : Option Val) (tgt : Target) (tk : Taker) (o : Target) (k' : Key) :
    (invokeOne dw w (.setProp id k v) tgt tk).getProp o k' =
      if (o = tgt ∧ k' = k) ∧ w.hasObj tgt then v else w.getProp o k' := by
  show (World.setProp _ tgt k v).getProp o k' = _
  rw [getProp_setProp (fun o => by rw [chainOf_events]; exact hn o)]
  simp only [hasObj_events, getProp_events]

theorem getProp_invokeOne_writer_self (k : Key) (dw : Measure) {w : World} (hn : AllNodup w) (id : Nat)
    (v : Option Val) (tgt : Target) (tk : Taker) (h : w.hasObj tgt) :
    (invokeOne dw w (.setProp id k v) tgt tk).getProp tgt k = v := by
  rw [getProp_invokeOne_writer dw hn, if_pos ⟨⟨rfl, rfl⟩, h⟩]

theorem getProp_invokeOne_writer_noobj (k : Key) (dw : Measure) (w : World) (id : Nat) (k' : Key) (v : Option Val)
    (tgt : Target) (tk : Taker) (h : ¬ w.hasObj tgt) (o : Target) :
    (invokeOne dw w (.setProp id k' v) tgt tk).getProp o k = w.getProp o k := by
  show (World.setProp _ tgt k' v).getProp o k = _
  rw [setProp_noobj _ tgt k' v (by rw [hasObj_events]; exact h), getProp_events]

theorem agrees_cases {f : Nat → Option (Option Val)} {k : Key} {cb : Cb} (h : cb.agrees f k = true) :
    (cb.writes k = false ∧
      ∀ (has : Target → Bool) (m : Target → Option Val) tgt, (userEvents [cb] tgt).foldl (evApply f has) m = m) ∨
    ∃ id v, cb = .setProp id k v ∧ f id = some v := by
  have silent : ∀ id, f id = none → ∀ (has : Target → Bool) (m : Target → Option Val) (tgt : Target),
      ([⟨id, tgt⟩] : List Event).foldl (evApply f has) m = m := by
    intro id hf has m tgt
    simp only [List.foldl_cons, List.foldl_nil, evApply, hf]
  cases cb with
  | log id => exact .inl ⟨rfl, silent id (by simpa [Cb.agrees] using h)⟩
  | fail id e => exact .inl ⟨rfl, silent id (by simpa [Cb.agrees] using h)⟩
  | setProp id k' v =>
    by_cases hk : k' = k
    · subst hk; exact .inr ⟨id, v, rfl, by simpa [Cb.agrees] using h⟩
    · exact .inl ⟨by simpa [Cb.writes] using hk, silent id (by simpa [Cb.agrees, hk] using h)⟩
  | dimSetter => exact .inl ⟨by simpa [Cb.agrees] using h, fun _ _ _ => rfl⟩
  | widthSetter => exact .inl ⟨by simpa [Cb.agrees] using h, fun _ _ _ => rfl⟩

/-- the invariant carried through a traversal from `w0` -/
def JW (f : Nat → Option (Option Val)) (k : Key) (w0 : World) (w' : World) (es : List Event) : Prop :=
  AllNodup w' ∧ ∀ o, w'.getProp o k = es.foldl (evApply f w0.has) (fun o => w0.getProp o k) o

theorem has_same {w' w : World} (h : SameSkeleton w' w) : w'.has = w.has := by
  funext o
  simp only [World.has]
  exact decide_eq_decide.mpr ⟨hasObj_same (sameSkeleton_symm h) o, hasObj_same h o⟩

theorem stepInv_track (f : Nat → Option (Option Val)) (k : Key) (dw : Measure) {w0 : World}
    (hw : CbsAll (Cb.agrees f k) w0) : StepInv dw w0 (JW f k w0) := by
  intro w' es cb tgt tk hsame ⟨s, tm, hcb⟩ ⟨hn, hv⟩
  refine ⟨allNodup_invokeOne dw hn cb tgt tk, fun o => ?_⟩
  rw [List.foldl_append]
  rcases agrees_cases (hw s tm cb hcb) with ⟨hwr, hfold⟩ | ⟨id, v, rfl, hf⟩
  · rw [hfold, getProp_invokeOne_not_writes dw w' cb tgt tk k hwr o]
    exact hv o
  · rw [getProp_invokeOne_writer dw hn, hv]
    have hh : w0.has tgt = decide (w'.hasObj tgt) := by rw [← has_same hsame]; rfl
    show _ = evApply f w0.has _ ⟨id, tgt⟩ o
    simp only [evApply, hf, hh]
    by_cases hobj : w'.hasObj tgt <;> simp [hobj]

theorem tracks_of_any (f : Nat → Option (Option Val)) (k : Key) (dw : Measure) {w0 w' : World} {es : List Event}
    (h : Traversal dw w0 w' es) : TracksEs f k w0 w' es := by
  refine ⟨h.same.cbs, h.same.ncopies, h.allNodup, h.events, fun hw hn o => ?_⟩
  rw [has_same h.same]
  exact (h _ (stepInv_track f k dw hw) ⟨hn, fun _ => rfl⟩).inv.2 o

theorem silent_of_csame (f : Nat → Option (Option Val)) (k : Key) {w' w : World} (h : CSame w' w) :
    TracksEs f k w w' [] :=
  ⟨h.cbs, h.ncopies, allNodup_csame h, by rw [h.events, List.append_nil],
   fun _ _ o => getProp_of_chain (h.chain o) k⟩

theorem silent_trans (f : Nat → Option (Option Val)) (k : Key) {a b c : World} {es : List Event}
    (h1 : TracksEs f k a b []) (h2 : TracksEs f k b c es) : TracksEs f k a c es :=
  ⟨fun s => (h2.cbs s).trans (h1.cbs s), h2.ncopies.trans h1.ncopies, fun h => h2.nodup (h1.nodup h),
   by rw [h2.events, h1.events, List.append_nil],
   fun hw hn o => by
     rw [h2.val (cbsAll_of_cbs hw h1.cbs) (h1.nodup hn) o,
       show (fun o => b.getProp o k) = (fun o => a.getProp o k) from funext (h1.val hw hn)]⟩

/-- either no cell is created and nothing `CSame` sees changes (missing row; or a row with a nil cell slice, where
    only an error is recorded), or the row held `cs` and the callbacks run in the linked state -/
theorem rowAddCell_cases (dw : Measure) (w : World) (r : Nat) (ce : Cell) :
    (CSame (rowAddCell dw w r ce) w ∧ ¬ (r < w.rows.length ∧ (w.row r).cells.isSome = true)) ∨
    (∃ cs, r < w.rows.length ∧ (w.row r).cells = some cs ∧
      Traversal dw (rowAddLinked w r ce cs) (rowAddCell dw w r ce)
        (userEvents (w.cbsAt (.rowCell r) .add) (.cell r cs.length))) := by
  by_cases hr : r < w.rows.length
  · cases hcs : (w.row r).cells with
    | none =>
      refine .inl ⟨?_, fun h => by simp at h⟩
      rw [rowAddCell_nil dw w r ce hcs]; exact csame_addErrTo w _ _
    | some cs => exact .inr ⟨cs, hr, rfl, rowAddCell_any dw w r ce cs hcs⟩
  · refine .inl ⟨?_, fun h => hr h.1⟩
    have hd := World.row_oob _ _ (Nat.le_of_not_lt hr)
    rw [rowAddCell_eq dw w r ce [] (by rw [hd]), rowAddLinked_noobj (Nat.le_of_not_lt hr), hd]
    exact CSame.refl w

/-! ### the operations that set nothing and bring no callback -/

theorem csame_addRowLinked (w : World) (t r : Nat) : CSame (addRowLinked w t r) w := by
  simp only [addRowLinked]
  refine CSame.trans (csame_modRow_fields _ _ _ (fun _ => rfl) (fun _ => rfl) (fun _ => rfl) (fun _ => rfl)) ?_
  refine CSame.trans (csame_modTable_fields _ _ _ (fun _ => rfl) (fun _ => rfl) (fun _ => rfl) (fun _ => rfl)
    (fun _ => rfl)) ?_
  refine CSame.trans (csame_resize _ _ _) ?_
  refine CSame.trans (csame_modRow_fields _ _ _ (fun _ => rfl) (fun _ => rfl) (fun _ => rfl) (fun _ => rfl)) ?_
  exact csame_modTable_fields _ _ _ (fun _ => rfl) (fun _ => rfl) (fun _ => rfl) (fun _ => rfl) (fun _ => rfl)

theorem csame_newRow_plain (w : World) : CSame (w.newRow {}).1 w := csame_newRow w {} rfl rfl rfl rfl

theorem csame_addSeparator (w : World) (t : Nat) : CSame (w.addSeparator t) w := by
  show CSame (((w.newRow { cells := none, isSep := true }).1.modTable t _).modRow w.rows.length _) w
  refine CSame.trans (csame_modRow_fields _ _ _ (fun _ => rfl) (fun _ => rfl) (fun _ => rfl) (fun _ => rfl)) ?_
  refine CSame.trans (csame_modTable_fields _ _ _ (fun _ => rfl) (fun _ => rfl) (fun _ => rfl) (fun _ => rfl)
    (fun _ => rfl)) ?_
  exact csame_newRow w _ rfl rfl rfl rfl

theorem newCell_props (dw : Measure) (i : Nat) (it : Item) : (newCell dw i it).props = [] := by
  unfold newCell Cell.update; split <;> rfl

theorem csame_updateCell (dw : Measure) (w : World) (r c : Nat) :
    CSame (w.modCell r c (fun ce => ce.update dw (w.item ce.item))) w := by
  refine csame_modCell_fields w r c _ (fun ce => ?_) (fun ce => ?_) <;> (unfold Cell.update; split <;> rfl)

theorem csame_rowAdd_silent (dw : Measure) (w : World) (r i : Nat) (h : (w.row r).cellCbs.add = []) :
    CSame (rowAdd dw w r i) w := by
  unfold World.rowAdd
  cases hcs : (w.row r).cells with
  | none => rw [rowAddCell_nil dw w r _ hcs]; exact csame_addErrTo w _ _
  | some cs =>
    rw [rowAddCell_eq dw w r _ cs hcs, rowAddLinked_row_cbs, show (w.row r).cellCbs.at .add = [] from h]
    exact csame_rowAddLinked_plain hcs _ (newCell_props dw i _) (newCell_cbs dw i _)

theorem csame_rowAddMany_silent (dw : Measure) (r : Nat) (is : List Nat) : ∀ w : World,
    (w.row r).cellCbs.add = [] → CSame (rowAddMany dw r is w) w := by
  induction is with
  | nil => intro w _; exact CSame.refl w
  | cons i is ih =>
    intro w h
    have h1 := csame_rowAdd_silent dw w r i h
    have h2 : ((rowAdd dw w r i).row r).cellCbs = (w.row r).cellCbs := h1.cbs (.rowCell r)
    exact (ih _ (by rw [h2]; exact h)).trans h1

theorem addHeaders_eq (dw : Measure) (w : World) (t : Nat) (items : List Nat) :
    addHeaders dw w t items =
      (let w1 := w.modTable t (fun tb => resizeColumnsAtLeast tb items.length)
       let hr := w1.rows.length
       let w2 := (w1.newRow { ec := .table t }).1
       let w3 := rowAddMany dw hr items w2
       let w4 := w3.modTable t (fun tb => { tb with header := some hr })
       let w5 := invoke dw w4 ((w4.table t).rowCbs.at .add) (.row hr) (.table t)
       addTimeCells dw t hr (fun _ => .table t) (w5.rowCells hr).length 0 w5) := rfl

theorem plain_traversal (dw : Measure) (w : World) (op : BuildOp) (h : plain op = true) :
    ∃ wl es, CSame wl w ∧ Traversal dw wl (applyOp dw w op) es := by
  have still : ∀ {w' : World}, CSame w' w → ∃ wl es, CSame wl w ∧ Traversal dw wl w' es :=
    fun hc => ⟨_, [], hc, Traversal.refl dw _⟩
  have fresh : ∀ (w : World) (rw : Row), rw.cellCbs = {} →
      ((w.newRow rw).1.row w.rows.length).cellCbs.add = [] :=
    fun w rw e => by rw [World.row_newRow_self, e]
  cases op with
  | newTable => exact still (csame_newTable w)
  | newRow => exact still (csame_newRow_plain w)
  | zeroRow => exact still (csame_newRow w { cells := none } rfl rfl rfl rfl)
  | addSeparator t => exact still (csame_addSeparator w t)
  | addErr tk e => exact still (csame_addErrTo w tk e)
  | setItems its => exact still (csame_items w its)
  | updateCell r c => exact still (csame_updateCell dw w r c)
  | render t => exact ⟨w, _, CSame.refl w, invokeRenderCallbacks_any dw w t⟩
  | addRow t r => exact ⟨_, _, csame_addRowLinked w t r, addRow_any dw w t r⟩
  | appendNewRow t =>
    show ∃ wl es, CSame wl w ∧ Traversal dw wl (w.appendNewRow dw t).1 es
    rw [appendNewRow_fst]
    exact ⟨_, _, (csame_addRowLinked _ t _).trans (csame_newRow_plain w), addRow_any dw _ t _⟩
  | addRowItems t items =>
    show ∃ wl es, CSame wl w ∧ Traversal dw wl (w.addRowItems dw t items).1 es
    rw [addRowItems_fst]
    exact ⟨_, _, (csame_addRowLinked _ t _).trans ((csame_rowAddMany_silent dw _ items _ (fresh w {} rfl)).trans
      (csame_newRow_plain w)), addRow_any dw _ t _⟩
  | rowAdd r i =>
    rcases rowAddCell_cases dw w r (newCell dw i (w.item i)) with ⟨hc, _⟩ | ⟨cs, _, hcs, ht⟩
    · exact still hc
    · exact ⟨_, _, csame_rowAddLinked_plain hcs _ (newCell_props dw i _) (newCell_cbs dw i _), ht⟩
  | addHeaders t items =>
    show ∃ wl es, CSame wl w ∧ Traversal dw wl (addHeaders dw w t items) es
    rw [addHeaders_eq]
    extract_lets w1 hr w2 w3 w4 w5
    have h4 : CSame w4 w :=
      (csame_modTable_fields w3 t (fun tb => { tb with header := some hr }) (fun _ => rfl) (fun _ => rfl)
        (fun _ => rfl) (fun _ => rfl) (fun _ => rfl)).trans
      ((csame_rowAddMany_silent dw hr items w2 (fresh w1 _ rfl)).trans
        ((csame_newRow w1 { ec := .table t } rfl rfl rfl rfl).trans (csame_resize w t _)))
    refine ⟨w4, [] ++ userEvents (w4.cbsAt (.tableRow t) .add) (.row hr) ++
      addCellsExpectedAny w4 t hr 0 (w5.rowCells hr).length, h4, fun J hJ h0 => ?_⟩
    have e1 : Ext w4 J w5 ([] ++ userEvents (w4.cbsAt (.tableRow t) .add) (.row hr)) :=
      ext_invoke_slot dw hJ (.init h0) (.tableRow t) .add (fun _ => rfl) _ _
    exact addTimeCells_any dw hJ t hr (fun _ => Taker.table t) _ 0 _ _ e1
  | setProp o k v => simp [plain] at h
  | regCb o tm tg cb => simp [plain] at h
  | copyCell r c => simp [plain] at h
  | rowAddCell r ce => simp [plain] at h

theorem keeps_applyOp (dw : Measure) (k : Key) (w : World) (op : BuildOp) (h : plain op = true) :
    Keeps k w (applyOp dw w op) := by
  obtain ⟨wl, es, hc, ht⟩ := plain_traversal dw w op h
  exact (hc.keeps k).trans (keeps_of_any dw ht)

theorem tracks_applyOp (f : Nat → Option (Option Val)) (k : Key) (dw : Measure) (w : World) (op : BuildOp)
    (h : plain op = true) : Tracks f k w (applyOp dw w op) := by
  obtain ⟨wl, es, hc, ht⟩ := plain_traversal dw w op h
  exact ⟨es, silent_trans f k (silent_of_csame f k hc) (tracks_of_any f k dw ht)⟩

end C12h
end Tab
