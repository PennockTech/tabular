/- For C19: the five sub-package names as byte lists, `goLower` / `asciiLower` and dots, `splitDot`,
   and the branches of `resolveStyle`. -/
import Tabmodel.Proofs.RegOps
namespace Tab
attribute [local instance] lawfulBEq_uint8

def bCsv : Bytes := [99, 115, 118]
def bHtml : Bytes := [104, 116, 109, 108]
def bMarkdown : Bytes := [109, 97, 114, 107, 100, 111, 119, 110]
def bJson : Bytes := [106, 115, 111, 110]
def bTexttable : Bytes := [116, 101, 120, 116, 116, 97, 98, 108, 101]

theorem bytes_csv : bytesOfString "csv" = bCsv :=
  (bytesOfString_eq "csv").trans (by decide +kernel)
theorem bytes_html : bytesOfString "html" = bHtml :=
  (bytesOfString_eq "html").trans (by decide +kernel)
theorem bytes_markdown : bytesOfString "markdown" = bMarkdown :=
  (bytesOfString_eq "markdown").trans (by decide +kernel)
theorem bytes_json : bytesOfString "json" = bJson :=
  (bytesOfString_eq "json").trans (by decide +kernel)
theorem bytes_texttable : bytesOfString "texttable" = bTexttable :=
  (bytesOfString_eq "texttable").trans (by decide +kernel)

theorem subpackage_names :
    ∀ s ∈ [bCsv, bHtml, bMarkdown, bJson, bTexttable],
      (46 : UInt8) ∉ s ∧ splitDot s = [s] ∧ goLower s = s := by decide +kernel

def lowerByte (b : UInt8) : UInt8 := if 65 ≤ b && b ≤ 90 then b + 32 else b

theorem asciiLower_eq_map (s : Bytes) : asciiLower s = s.map lowerByte := rfl
@[simp] theorem asciiLower_nil : asciiLower [] = [] := rfl
theorem asciiLower_cons (b : UInt8) (s : Bytes) : asciiLower (b :: s) = lowerByte b :: asciiLower s := rfl
theorem asciiLower_append (s t : Bytes) : asciiLower (s ++ t) = asciiLower s ++ asciiLower t := by
  simp [asciiLower]

theorem lowerByte_eq_dot (b : UInt8) : lowerByte b = 46 ↔ b = 46 := by
  unfold lowerByte
  split
  next h =>
    simp only [Bool.and_eq_true, decide_eq_true_eq] at h
    have h1 := UInt8.le_iff_toNat_le.mp h.1
    have h2 := UInt8.le_iff_toNat_le.mp h.2
    constructor
    · intro e
      have := congrArg UInt8.toNat e
      rw [UInt8.toNat_add] at this
      simp at this h1 h2
      omega
    · intro e; subst e; simp at h1
  next => exact Iff.rfl

theorem dot_mem_asciiLower (s : Bytes) : (46 : UInt8) ∈ asciiLower s ↔ (46 : UInt8) ∈ s := by
  simp [asciiLower_eq_map, lowerByte_eq_dot]

@[simp] theorem goLower_nil : goLower [] = [] := by rw [goLower]

theorem dot_mem_goLower (s : Bytes) : (46 : UInt8) ∈ goLower s ↔ (46 : UInt8) ∈ s := by
  fun_induction goLower s with
  | case1 rest ih => simp [ih]
  | case2 rest ih => simp [ih]
  | case3 b rest h1 h2 ih =>
    show 46 ∈ lowerByte b :: goLower rest ↔ _
    rw [List.mem_cons, List.mem_cons, ih, eq_comm, lowerByte_eq_dot, eq_comm]
  | case4 => simp

theorem goLower_ascii (s : Bytes) (h : ∀ b ∈ s, b < 128) : goLower s = asciiLower s := by
  fun_induction goLower s with
  | case1 rest ih => exact absurd (h 0xE2 (by simp)) (by decide)
  | case2 rest ih => exact absurd (h 0xC4 (by simp)) (by decide)
  | case3 b rest h1 h2 ih =>
    rw [asciiLower_cons, ih (fun x hx => h x (List.mem_cons_of_mem _ hx))]; rfl
  | case4 => rfl

theorem splitDot_ne_nil (s : Bytes) : splitDot s ≠ [] := by
  fun_cases splitDot s
  all_goals exact List.cons_ne_nil _ _

theorem splitDot_cons_dot (bs : Bytes) : splitDot (46 :: bs) = [] :: splitDot bs := by
  rw [splitDot]; simp

theorem splitDot_cons_ne {b : UInt8} (h : b ≠ 46) (bs : Bytes) :
    splitDot (b :: bs) = (b :: (splitDot bs).headD []) :: (splitDot bs).tail := by
  rw [splitDot]
  simp only [h, if_false]
  cases hs : splitDot bs with
  | nil => exact absurd hs (splitDot_ne_nil bs)
  | cons l ls => rfl

theorem splitDot_nodot {v : Bytes} (h : (46 : UInt8) ∉ v) : splitDot v = [v] := by
  induction v with
  | nil => rfl
  | cons b bs ih =>
    rw [List.mem_cons, not_or] at h
    rw [splitDot_cons_ne (fun e => h.1 e.symm), ih h.2]; rfl

theorem splitDot_append_dot {v : Bytes} (h : (46 : UInt8) ∉ v) (rest : Bytes) :
    splitDot (v ++ [46] ++ rest) = v :: splitDot rest := by
  induction v with
  | nil => exact splitDot_cons_dot rest
  | cons b bs ih =>
    rw [List.mem_cons, not_or] at h
    rw [List.cons_append, List.cons_append, splitDot_cons_ne (fun e => h.1 e.symm), ih h.2]; rfl

/-- an executable copy of `resolveStyle` with literal byte strings, for `decide` on concrete cases -/
def resolveStyleLit (reg : Registry) (heavy : Decoration) (style : Bytes) : Format :=
  let sections := splitDot style
  let first := sections.headD []
  let low := goLower first
  if low = bCsv then .csv
  else if low = bHtml then .html
  else if low = bMarkdown then .markdown
  else if low = bJson then .json
  else if low = bTexttable then
    match sections with
    | _ :: s1 :: _ => .text (reg.named s1)
    | _ => .text heavy
  else .text (reg.named first)

theorem resolveStyle_lit (reg : Registry) (heavy : Decoration) (style : Bytes) :
    resolveStyle reg heavy style = resolveStyleLit reg heavy style := by
  unfold resolveStyle resolveStyleLit
  simp only [bytes_csv, bytes_html, bytes_markdown, bytes_json, bytes_texttable]
  rfl

def listStylesLit (reg : Registry) : List Bytes :=
  Registry.sortBytes (reg.names ++ [bCsv, bHtml, bJson, bMarkdown])

theorem listStyles_lit (reg : Registry) : listStyles reg = listStylesLit reg := by
  unfold listStyles listStylesLit
  simp only [bytes_csv, bytes_html, bytes_markdown, bytes_json]

theorem resolveStyle_of_sections (reg : Registry) (heavy : Decoration) {style first : Bytes}
    {tl : List Bytes} (h : splitDot style = first :: tl) :
    resolveStyle reg heavy style =
      if goLower first = bCsv then .csv
      else if goLower first = bHtml then .html
      else if goLower first = bMarkdown then .markdown
      else if goLower first = bJson then .json
      else if goLower first = bTexttable then
        match tl with
        | s1 :: _ => .text (reg.named s1)
        | [] => .text heavy
      else .text (reg.named first) := by
  simp only [resolveStyle_lit, resolveStyleLit, h, List.headD_cons]
  cases tl <;> rfl

theorem splitDot_cons_exists (style : Bytes) : ∃ first tl, splitDot style = first :: tl := by
  cases h : splitDot style with
  | nil => exact absurd h (splitDot_ne_nil style)
  | cons a l => exact ⟨a, l, rfl⟩

section branches
variable (reg : Registry) (heavy : Decoration) {style first : Bytes} {tl : List Bytes}

theorem resolveStyle_congr {style' first' : Bytes} {tl' : List Bytes}
    (h : splitDot style = first :: tl) (h' : splitDot style' = first' :: tl')
    (hl : goLower first = goLower first') (hs : goLower first ∈ [bCsv, bHtml, bMarkdown, bJson]) :
    resolveStyle reg heavy style = resolveStyle reg heavy style' := by
  rw [resolveStyle_of_sections reg heavy h, resolveStyle_of_sections reg heavy h', ← hl]
  generalize goLower first = s at hs
  simp only [List.mem_cons, List.not_mem_nil, or_false] at hs
  rcases hs with rfl | rfl | rfl | rfl <;> rfl

theorem resolveStyle_tt_nil (h : splitDot style = [first]) (hl : goLower first = bTexttable) :
    resolveStyle reg heavy style = .text heavy := by
  rw [resolveStyle_of_sections reg heavy h, hl]; rfl

theorem resolveStyle_tt_cons {s1 : Bytes} (h : splitDot style = first :: s1 :: tl)
    (hl : goLower first = bTexttable) :
    resolveStyle reg heavy style = .text (reg.named s1) := by
  rw [resolveStyle_of_sections reg heavy h, hl]; rfl

theorem resolveStyle_other (h : splitDot style = first :: tl)
    (hr : goLower first ∉ [bCsv, bHtml, bMarkdown, bJson, bTexttable]) :
    resolveStyle reg heavy style = .text (reg.named first) := by
  simp only [List.mem_cons, List.not_mem_nil, or_false, not_or] at hr
  rw [resolveStyle_of_sections reg heavy h, if_neg hr.1, if_neg hr.2.1, if_neg hr.2.2.1,
    if_neg hr.2.2.2.1, if_neg hr.2.2.2.2]

end branches

theorem nodot_of_goLower {v s : Bytes} (h : goLower v = s) (hs : (46 : UInt8) ∉ s) :
    (46 : UInt8) ∉ v := by
  intro hv; apply hs; rw [← h]; exact (dot_mem_goLower v).mpr hv

theorem nodot_of_goLower_texttable {tt : Bytes} (h : goLower tt = bTexttable) : (46 : UInt8) ∉ tt :=
  nodot_of_goLower h (subpackage_names bTexttable (by simp)).1

end Tab
