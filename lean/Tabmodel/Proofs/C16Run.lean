/-
  C16: allocation, the rendered view, the step language (`Step`, `applyW`, `applyO`) and the per-step theorem
  `apply_both`: every step of the language, called on table `t` with rows in `P`, is framed, keeps `Inv` (the
  fresh row joins the owner set), allocates exactly `nalloc` rows, and commutes with the renaming of row ids:
  made on renamed handles in a similar world it gives a similar world and the renamed return value.  With the
  identity renaming: result and return value depend only on the agreed part of the world (`apply_dep`).
-/
import Tabmodel.Proofs.C16Steps
import Tabmodel.Proofs.Traverse
namespace Tab
namespace C16
open World

variable {ρ : Nat → Nat} {t : Nat} {P I : Nat → Prop}

/-! ### allocation -/

@[simp] theorem newRow_rows (w : World) (rw : Row) : (w.newRow rw).1.rows = w.rows ++ [rw] := rfl
@[simp] theorem newRow_tables (w : World) (rw : Row) : (w.newRow rw).1.tables = w.tables := rfl
@[simp] theorem newRow_items (w : World) (rw : Row) : (w.newRow rw).1.items = w.items := rfl
@[simp] theorem newRow_id (w : World) (rw : Row) : (w.newRow rw).2 = w.rows.length := rfl

theorem frame_newRow (w : World) (rw : Row) : Frame t P w (w.newRow rw).1 :=
  ⟨rfl, fun _ _ => rfl, by simp, fun r _ hl => by simp [List.getElem?_append_left hl], rfl⟩

theorem inv_newRow_grow {w : World} (h : Inv t P I w) {rw : Row} (hrw : RowOK t w.rows.length I rw) :
    Inv t (fun r => P r ∨ r = w.rows.length) I (w.newRow rw).1 := by
  refine ⟨fun r hr => ?_, fun r hr => ?_, fun r hr => .inl (h.foot r hr)⟩
  · rcases hr with hr | rfl
    · simp; exact Nat.lt_succ_of_lt (h.inrange r hr)
    · simp
  · rcases hr with hr | rfl
    · rw [row_newRow_lt w rw r (h.inrange r hr)]; exact h.rowok r hr
    · rw [row_newRow_self]; exact hrw

theorem agree_newRow_same {w : World} (h : Inv t P I w) (rw : Row) : Agree t P I w (w.newRow rw).1 :=
  ⟨rfl, fun r hr => by simp [List.getElem?_append_left (h.inrange r hr)], fun _ _ => rfl⟩

/-! ### renamings that coincide where it matters -/

theorem renRow_congr {ρ ρ' : Nat → Nat} (rw : Row)
    (h : ∀ ce ∈ rw.cells.getD [], ∀ r', ce.inRow = some r' → ρ' r' = ρ r') : renRow ρ' rw = renRow ρ rw := by
  unfold renRow
  cases hc : rw.cells with
  | none => rfl
  | some cs =>
    simp only [Option.map_some]
    congr 2
    apply List.map_congr_left
    intro ce hce
    unfold renCell
    cases hi : ce.inRow with
    | none => rfl
    | some r' =>
      have := h ce (by simp [hc, hce]) r' hi
      simp only [Option.map_some, this]

theorem renTable_congr {ρ ρ' : Nat → Nat} (tb : Table) (h : ∀ r, FootT tb r → ρ' r = ρ r) :
    renTable ρ' tb = renTable ρ tb := by
  unfold renTable
  congr 1
  · cases hh : tb.header with
    | none => rfl
    | some hr => simp [h hr (.inl hh)]
  · apply List.map_congr_left
    intro r hr
    exact h r (.inr hr)

def upd (ρ : Nat → Nat) (L L₂ : Nat) : Nat → Nat := fun r => if r = L then L₂ else ρ r

theorem upd_old {L L₂ r : Nat} (h : r ≠ L) : upd ρ L L₂ r = ρ r := by simp [upd, h]
theorem upd_new (L L₂ : Nat) : upd ρ L L₂ L = L₂ := by simp [upd]

/-- only the values of the renaming on the owned rows matter -/
theorem Sim.congr {ρ' : Nat → Nat} {w w₂ : World} (hi : Inv t P I w) (hs : Sim ρ t P I w w₂)
    (h : ∀ r, P r → ρ' r = ρ r) : Sim ρ' t P I w w₂ := by
  refine ⟨?_, fun r hr => ?_, hs.items, fun r r' hr hr' e => hs.inj r r' hr hr' (by rw [← h r hr, ← h r' hr', e])⟩
  · rw [hs.tab]
    refine Option.map_congr (fun tb ht => (renTable_congr tb (fun r hr => h r (hi.foot r ?_))).symm)
    rw [table_def, ht]; exact hr
  · rw [h r hr, hs.rows r hr]
    refine Option.map_congr (fun rw hw => (renRow_congr rw (fun ce hce r' hr' => ?_)).symm)
    have hc : CellOK r I ce := (hi.rowok r hr).cells ce (by rw [row_def, hw]; exact hce)
    rcases hc.1 with h1 | h1
    · rw [h1] at hr'; cases hr'
    · rw [h1] at hr'; cases hr'; exact h r hr

/-- a row that mentions no row id, allocated on both sides, joins the owned rows under a renaming that maps the
    one fresh id to the other -/
theorem Sim.newRow {w w₂ : World} (hi : Inv t P I w) (hs : Sim ρ t P I w w₂)
    (hρ : ρ w.rows.length = w₂.rows.length) {rw0 : Row} (hrw0 : renRow ρ rw0 = rw0) :
    Sim ρ t (fun r => P r ∨ r = w.rows.length) I (w.newRow rw0).1 (w₂.newRow rw0).1 := by
  have fresh : ∀ r, P r → ρ r ≠ ρ w.rows.length :=
    fun r hr e => Nat.ne_of_lt (hs.inrange hi hr) (e.trans hρ)
  refine ⟨hs.tab, fun r hr => ?_, hs.items, fun r r' hr hr' e => ?_⟩
  · simp only [newRow_rows]
    rcases hr with hr | rfl
    · rw [List.getElem?_append_left (hs.inrange hi hr), List.getElem?_append_left (hi.inrange r hr), hs.rows r hr]
    · rw [hρ, List.getElem?_append_right (Nat.le_refl _), List.getElem?_append_right (Nat.le_refl _)]
      simp [hrw0]
  · rcases hr with hr | rfl
    · rcases hr' with hr' | rfl
      · exact hs.inj r r' hr hr' e
      · exact absurd e (fresh r hr)
    · rcases hr' with hr' | rfl
      · exact absurd e.symm (fresh r' hr')
      · rfl

/-! ### the rendered view and the observers forget row ids -/

theorem rcell_ren {w w₂ : World} (hs : Sim ρ t P I w w₂) {ce : Cell} (hce : I ce.item) :
    w₂.rcell (renCell ρ ce) = w.rcell ce := by
  unfold rcell renCell
  simp only [hs.items _ hce]

theorem rcells_ren {w w₂ : World} (h : Inv t P I w) (hs : Sim ρ t P I w w₂) {r : Nat} (hr : P r) :
    (w₂.rowCells (ρ r)).map w₂.rcell = (w.rowCells r).map w.rcell := by
  have e : w₂.rowCells (ρ r) = (w.rowCells r).map (renCell ρ) := by
    unfold rowCells
    rw [hs.row hr]
    unfold renRow
    cases (w.row r).cells <;> simp
  rw [e, List.map_map]
  apply List.map_congr_left
  intro ce hce
  exact rcell_ren hs ((h.rowok r hr).cells ce hce).2

theorem sim_view {w w₂ : World} (h : Inv t P I w) (hs : Sim ρ t P I w w₂) : w₂.view t = w.view t := by
  unfold view
  simp only [hs.table]
  unfold renTable
  simp only []
  congr 1
  · cases hh : (w.table t).header with
    | none => rfl
    | some hr =>
      simp only [Option.map_some]
      rw [rcells_ren h hs (h.foot hr (.inl hh))]
  · rw [List.map_map]
    apply List.map_congr_left
    intro r hr
    have hP : P r := h.foot r (.inr hr)
    simp only [Function.comp]
    rw [rcells_ren h hs hP, hs.row hP]
    rfl

theorem rd_view : Rd t P I (fun w => w.view t) (fun _ => True) :=
  ⟨fun _ _ => trivial, fun _ _ h ha => (sim_view h (sim_id_iff.2 ha)).symm⟩

theorem sim_cellAt (r c : Int) {w w₂ : World} (h : Inv t P I w) (hs : Sim ρ t P I w w₂) :
    cellAt w₂ t r c = (cellAt w t r c).map (fun p => (ρ p.1, p.2)) := by
  unfold cellAt
  simp only [hs.table]
  unfold renTable
  simp only [List.length_map, List.getElem?_map]
  by_cases hrc : r < 1 ∨ c < 1 ∨ r > (w.table t).rows.length
  · rw [if_pos hrc, if_pos hrc]; rfl
  · rw [if_neg hrc, if_neg hrc]
    cases hk : (w.table t).rows[r.toNat - 1]? with
    | none => rfl
    | some rid =>
      have hP : P rid := h.foot rid (.inr (List.mem_of_getElem? hk))
      simp only [Option.map_some, hs.row hP]
      unfold renRow
      cases (w.row rid).cells with
      | none => rfl
      | some cs =>
        simp only [Option.map_some, List.length_map]
        by_cases hc : c > cs.length
        · rw [if_pos hc, if_pos hc]; rfl
        · rw [if_neg hc, if_neg hc]; rfl

theorem sim_hasColumn (n : Int) {w w₂ : World} (hs : Sim ρ t P I w w₂) : hasColumn w₂ t n = hasColumn w t n := by
  simp only [hasColumn, hs.table]; rfl

/-! ### the step language -/

/-- what the caller of a step gets back -/
inductive Obs
  | unit
  | row (r : Nat)                      -- the `*Row` returned
  | refused                            -- `RegisterPropertyCallback` returned an error
  | rendered (m : Emit Unit)           -- the emitted chunks and result of `RenderTo`
  | cell (c : Option (Nat × Nat))      -- `CellAt`
  | bool (b : Bool)                    -- `Column(n) != nil`
  | errs (es : List Nat)               -- `Errors()`

/-- API calls on tables and rows, at the granularity of `Model/World.lean` and `Model/Render.lean` -/
inductive Step
  | newRow                                           -- `tabular.NewRow()`
  | rowAdd (r item : Nat)                            -- `row.Add(NewCell(item))`
  | addRow (t r : Nat)
  | addSeparator (t : Nat)
  | addHeaders (t : Nat) (items : List Nat)
  | addRowItems (t : Nat) (items : List Nat)
  | appendNewRow (t : Nat)
  | setProp (o : Target) (k : Key) (v : Option Val)
  | registerCb (o : Target) (tm : Time) (tg : CbTarget) (cb : Cb)
  | wrap (k : WKind) (t : Nat)                       -- `X.Wrap(t)`
  | invokeRenderCallbacks (t : Nat)
  | render (wr : Wrapper)                            -- `wr.RenderTo(w)`
  | cellAt (t : Nat) (r c : Int)
  | hasColumn (t : Nat) (n : Int)
  | rowErrors (r : Nat)
  | tableErrors (t : Nat)

/-- does the step allocate a row (always exactly one, independent of the state) -/
def Step.allocs : Step → Bool
  | .newRow | .addSeparator _ | .addHeaders _ _ | .addRowItems _ _ | .appendNewRow _ => true
  | _ => false

/-- the world after the step -/
def applyW (x : Ext) (w : World) : Step → World
  | .newRow => (w.newRow {}).1
  | .rowAdd r i => rowAdd x.dw w r i
  | .addRow t r => addRow x.dw w t r
  | .addSeparator t => addSeparator w t
  | .addHeaders t items => addHeaders x.dw w t items
  | .addRowItems t items => (addRowItems x.dw w t items).1
  | .appendNewRow t => (appendNewRow x.dw w t).1
  | .setProp o k v => setProp w o k v
  | .registerCb o tm tg cb => (registerCb w o tm tg cb).getD w
  | .wrap k t => wrapEffect w k t
  | .invokeRenderCallbacks t => invokeRenderCallbacks x.dw w t
  | .render wr => (renderTo x w wr).1
  | .cellAt _ _ _ | .hasColumn _ _ | .rowErrors _ | .tableErrors _ => w

/-- what the step returns -/
def applyO (x : Ext) (w : World) : Step → Obs
  | .newRow => .row (w.newRow {}).2
  | .addRowItems t items => .row (addRowItems x.dw w t items).2
  | .appendNewRow t => .row (appendNewRow x.dw w t).2
  | .registerCb o tm tg cb => if (registerCb w o tm tg cb).isSome then .unit else .refused
  | .render wr => .rendered (renderTo x w wr).2
  | .cellAt t r c => .cell (cellAt w t r c)
  | .hasColumn t n => .bool (hasColumn w t n)
  | .rowErrors r => .errs (rowErrors w r)
  | .tableErrors t => .errs (w.table t).errs
  | _ => .unit

/-- the step is called on table `t`, on rows in `P`, with items in `I` -/
def StepOn (t : Nat) (P I : Nat → Prop) : Step → Prop
  | .newRow => True
  | .rowAdd r i => P r ∧ I i
  | .addRow t' r => t' = t ∧ P r
  | .addSeparator t' => t' = t
  | .addHeaders t' items => t' = t ∧ ∀ i ∈ items, I i
  | .addRowItems t' items => t' = t ∧ ∀ i ∈ items, I i
  | .appendNewRow t' => t' = t
  | .setProp o _ _ => TgtOK t P o
  | .registerCb o _ _ _ => TgtOK t P o
  | .wrap _ t' => t' = t
  | .invokeRenderCallbacks t' => t' = t
  | .render wr => wr.core = t
  | .cellAt t' _ _ => t' = t
  | .hasColumn t' _ => t' = t
  | .rowErrors r => P r
  | .tableErrors t' => t' = t

/-- the owner's row set after the step: the fresh id `L` joins it when the step allocates -/
def growP (P : Nat → Prop) (L : Nat) (s : Step) : Nat → Prop :=
  if s.allocs then (fun r => P r ∨ r = L) else P

def Step.nalloc (s : Step) : Nat := if s.allocs then 1 else 0

/-- the same API call made on the renamed row handles -/
def renStep (ρ : Nat → Nat) : Step → Step
  | .rowAdd r i => .rowAdd (ρ r) i
  | .addRow t r => .addRow t (ρ r)
  | .setProp o k v => .setProp (renTarget ρ o) k v
  | .registerCb o tm tg cb => .registerCb (renTarget ρ o) tm tg cb
  | .rowErrors r => .rowErrors (ρ r)
  | s => s

/-- the renaming after the step: extended at the fresh id when the step allocates -/
def updS (ρ : Nat → Nat) (L L₂ : Nat) (s : Step) : Nat → Nat := if s.allocs then upd ρ L L₂ else ρ

/-- an observation with its row handles renamed -/
def renObs (ρ : Nat → Nat) : Obs → Obs
  | .row r => .row (ρ r)
  | .cell c => .cell (c.map (fun p => (ρ p.1, p.2)))
  | o => o

/-- an observation with the identity of row handles forgotten -/
def Obs.erase : Obs → Obs
  | .row _ => .row 0
  | .cell c => .cell (c.map (fun p => (0, p.2)))
  | o => o

theorem erase_renObs (ρ : Nat → Nat) (o : Obs) : (renObs ρ o).erase = o.erase := by
  cases o <;> try rfl
  case cell c => cases c <;> rfl

theorem renObs_id (o : Obs) : renObs (fun r => r) o = o := by
  cases o <;> try rfl
  case cell c => cases c <;> rfl

theorem renStep_id (s : Step) : renStep (fun r => r) s = s := by
  cases s <;> simp [renStep, renTarget_id]

theorem updS_id (L : Nat) (s : Step) : updS (fun r => r) L L s = fun r => r := by
  unfold updS upd
  split
  · funext r; split <;> simp_all
  · rfl

/-! ### one step -/

/-- What one API call does at `w`.  `F w` is the world after the call and what the call returns, `n` the number
    of rows it allocates, `P'` the rows owned afterwards.  `F₂ ρ` is the same call on `ρ`-renamed row handles,
    made in a world similar to `w` whose row store has size `L₂`; `R ρ L₂` is the renaming afterwards. -/
structure StepRes (t : Nat) (P P' I : Nat → Prop) (n : Nat) (w : World) (F : World → World × Obs)
    (F₂ : (Nat → Nat) → World → World × Obs) (R : (Nat → Nat) → Nat → Nat → Nat) : Prop where
  frame : Frame t P w (F w).1
  inv : Inv t P' I (F w).1
  len : (F w).1.rows.length = w.rows.length + n
  sim : ∀ ρ w₂, Sim ρ t P I w w₂ →
    Sim (R ρ w₂.rows.length) t P' I (F w).1 (F₂ ρ w₂).1 ∧ (F₂ ρ w₂).2 = renObs (R ρ w₂.rows.length) (F w).2

theorem StepRes.of_both {f : World → World} {f₂ : (Nat → Nat) → World → World} {o : World → Obs}
    {o₂ : (Nat → Nat) → World → Obs} (hf : ∀ ρ, Both ρ t P I f (f₂ ρ)) {w : World} (hi : Inv t P I w)
    (ho : ∀ ρ w₂, Sim ρ t P I w w₂ → o₂ ρ w₂ = renObs ρ (o w)) :
    StepRes t P P I 0 w (fun w => (f w, o w)) (fun ρ w => (f₂ ρ w, o₂ ρ w)) (fun ρ _ => ρ) :=
  have k := (hf (fun r => r)).keeps w hi
  ⟨k.frame, k.inv, k.len, fun ρ w₂ hs => ⟨(hf ρ).sim w w₂ hi hs, ho ρ w₂ hs⟩⟩

/-- a step of the shape `post L (newRow w rw0)` where `L` is the fresh id; it returns `o L` -/
theorem StepRes.alloc {rw0 : Row} {post : Nat → World → World} {o : Nat → Obs}
    (hrw0 : ∀ ρ, renRow ρ rw0 = rw0) (hrow : ∀ L, RowOK t L I rw0)
    (hpost : ∀ ρ L, Both ρ t (fun r => P r ∨ r = L) I (post L) (post (ρ L)))
    (ho : ∀ ρ L, o (ρ L) = renObs ρ (o L)) {w : World} (hi : Inv t P I w) :
    StepRes t P (fun r => P r ∨ r = w.rows.length) I 1 w
      (fun w => (post w.rows.length (w.newRow rw0).1, o w.rows.length))
      (fun _ w => (post w.rows.length (w.newRow rw0).1, o w.rows.length))
      (fun ρ L₂ => upd ρ w.rows.length L₂) := by
  have i2 := inv_newRow_grow hi (hrow w.rows.length)
  have k := (hpost (fun r => r) w.rows.length).keeps _ i2
  refine ⟨?_, k.inv, ?_, fun ρ w₂ hs => ⟨?_, ?_⟩⟩
  · have f := ((frame_newRow w rw0).mono (P' := fun r => P r ∨ r = w.rows.length)
      (fun r _ hr => .inl hr)).trans k.frame
    refine f.mono (fun r hl hr => ?_)
    rcases hr with hr | rfl
    · exact hr
    · exact absurd hl (Nat.lt_irrefl _)
  · rw [k.len]; simp
  · have hs' : Sim (upd ρ w.rows.length w₂.rows.length) t P I w w₂ :=
      hs.congr hi (fun r hr => upd_old (Nat.ne_of_lt (hi.inrange r hr)))
    have := (hpost _ w.rows.length).sim _ _ i2 (hs'.newRow hi (upd_new _ _) (hrw0 _))
    rw [upd_new] at this
    exact this
  · show o w₂.rows.length = _
    rw [← ho, upd_new]

theorem registerCb_isSome_ren (w w₂ : World) (o : Target) (tm : Time) (tg : CbTarget) (cb : Cb) :
    (registerCb w₂ (renTarget ρ o) tm tg cb).isSome = (registerCb w o tm tg cb).isSome := by
  cases o <;> cases tg <;> rfl

theorem rowOK_default (L : Nat) : RowOK t L I {} :=
  ⟨.inl rfl, trivial, fun _ h => by simp at h⟩

theorem renRow_default (ρ' : Nat → Nat) : renRow ρ' {} = {} := rfl

/-- the world after `RenderTo`: the callbacks pass, unless the text wrapper refuses for want of a decoration -/
theorem renderTo_fst (x : Ext) (w : World) (wr : Wrapper) :
    (renderTo x w wr).1 =
      if wr.kind = .text ∧ wr.decor = emptyDecoration then w else invokeRenderCallbacks x.dw w wr.core := by
  unfold renderTo
  split
  · split <;> simp [*]
  all_goals simp [*]

theorem both_renderTo_world (x : Ext) (wr : Wrapper) (hwr : wr.core = t) :
    Both ρ t P I (fun w => (renderTo x w wr).1) (fun w => (renderTo x w wr).1) := by
  subst hwr
  simp only [renderTo_fst]
  split
  · exact Both.id' _ _ _ _
  · exact both_invokeRenderCallbacks x.dw

theorem renderTo_out_agree (x : Ext) (wr : Wrapper) {w w₂ : World}
    (hv : ((invokeRenderCallbacks x.dw w wr.core).view wr.core)
        = ((invokeRenderCallbacks x.dw w₂ wr.core).view wr.core)) :
    (renderTo x w wr).2 = (renderTo x w₂ wr).2 := by
  unfold renderTo
  cases hk : wr.kind
  case text =>
    simp only []
    by_cases hd : wr.decor = emptyDecoration
    · simp only [hd, if_true]
    · simp only [hd, if_false, hv]
  all_goals simp only [hv]

section
/- `addRow` is kept folded: faced with `seq f g w =?= addRow …` the unifier would unfold the larger definition,
   `addRow`, first. -/
attribute [local irreducible] addRow

theorem apply_both (x : Ext) (s : Step) {w : World} (hi : Inv t P I w) (hon : StepOn t P I s) :
    StepRes t P (growP P w.rows.length s) I s.nalloc w (fun w => (applyW x w s, applyO x w s))
      (fun ρ w => (applyW x w (renStep ρ s), applyO x w (renStep ρ s)))
      (fun ρ L₂ => updS ρ w.rows.length L₂ s) := by
  cases s with
  | newRow =>
    exact StepRes.alloc (rw0 := {}) (post := fun _ w => w) (o := Obs.row)
      renRow_default rowOK_default (fun _ _ => Both.id' _ _ _ _)
      (fun _ _ => rfl) hi
  | rowAdd r i => exact StepRes.of_both (fun _ => both_rowAdd x.dw hon.1 hon.2) hi (fun _ _ _ => rfl)
  | addRow t' r =>
    obtain ⟨rfl, hr⟩ := hon
    exact StepRes.of_both (fun _ => both_addRow x.dw hr) hi (fun _ _ _ => rfl)
  | addSeparator t' =>
    obtain rfl : t' = t := hon
    exact StepRes.alloc (rw0 := { cells := none, isSep := true }) (post := addSeparatorC t') (o := fun _ => .unit)
      (fun _ => rfl) (fun L => ⟨.inl rfl, trivial, fun _ hc => by simp at hc⟩)
      (fun _ _ => both_addSeparatorC (.inr rfl)) (fun _ _ => rfl) hi
  | addHeaders t' items =>
    obtain ⟨rfl, hitems⟩ := hon
    simp only [applyW, applyO, renStep, addHeaders_eq]
    exact StepRes.alloc (rw0 := { ec := .table t' }) (post := addHeadersC x.dw t' items) (o := fun _ => .unit)
      (fun _ => rfl) (fun L => ⟨.inl rfl, rfl, fun _ hc => by simp at hc⟩)
      (fun _ _ => both_addHeadersC x.dw hitems (.inr rfl)) (fun _ _ => rfl) hi
  | addRowItems t' items =>
    obtain ⟨rfl, hitems⟩ := hon
    -- `applyW` takes the first component of the pair the call returns; the unifier is slow to see through that
    -- projection, so the call is rewritten with the fresh id written out (also for `appendNewRow`)
    simp only [applyW, applyO, renStep, addRowItems_eq]
    exact StepRes.alloc (rw0 := {})
      (post := fun L => seq (fun w => rowAddMany x.dw L items w) (fun w => addRow x.dw w t' L)) (o := Obs.row)
      renRow_default rowOK_default
      (fun _ L => Both.seq (both_rowAddMany x.dw (.inr rfl) items hitems) (both_addRow x.dw (.inr rfl)))
      (fun _ _ => rfl) hi
  | appendNewRow t' =>
    obtain rfl : t' = t := hon
    simp only [applyW, applyO, renStep, appendNewRow_eq]
    exact StepRes.alloc (rw0 := {}) (post := fun L w => addRow x.dw w t' L) (o := Obs.row)
      renRow_default rowOK_default
      (fun _ L => both_addRow x.dw (.inr rfl)) (fun _ _ => rfl) hi
  | setProp o k v => exact StepRes.of_both (fun _ => both_setProp hon k v) hi (fun _ _ _ => rfl)
  | registerCb o tm tg cb =>
    refine StepRes.of_both (fun _ => both_registerCb hon tm tg cb) hi (fun ρ w₂ _ => ?_)
    show (if (registerCb w₂ (renTarget ρ o) tm tg cb).isSome then Obs.unit else Obs.refused)
      = renObs ρ (if (registerCb w o tm tg cb).isSome then Obs.unit else Obs.refused)
    rw [registerCb_isSome_ren w w₂]
    split <;> rfl
  | wrap k t' =>
    obtain rfl : t' = t := hon
    exact StepRes.of_both (fun _ => both_wrapEffect k) hi (fun _ _ _ => rfl)
  | invokeRenderCallbacks t' =>
    obtain rfl : t' = t := hon
    exact StepRes.of_both (fun _ => both_invokeRenderCallbacks x.dw) hi (fun _ _ _ => rfl)
  | render wr =>
    have hwr : wr.core = t := hon
    refine StepRes.of_both (fun _ => both_renderTo_world x wr hwr) hi (fun ρ w₂ hs => ?_)
    subst hwr
    have b := both_invokeRenderCallbacks (ρ := ρ) (t := wr.core) (P := P) (I := I) x.dw
    exact congrArg Obs.rendered (renderTo_out_agree x wr (sim_view (b.keeps w hi).inv (b.sim w w₂ hi hs)))
  | cellAt t' r c =>
    obtain rfl : t' = t := hon
    exact StepRes.of_both (fun ρ => Both.id' ρ t' P I) hi
      (fun _ _ hs => congrArg Obs.cell (sim_cellAt r c hi hs))
  | hasColumn t' n =>
    obtain rfl : t' = t := hon
    exact StepRes.of_both (fun ρ => Both.id' ρ t' P I) hi
      (fun _ _ hs => congrArg Obs.bool (sim_hasColumn n hs))
  | rowErrors r =>
    exact StepRes.of_both (fun ρ => Both.id' ρ t P I) hi
      (fun _ w₂ hs => congrArg Obs.errs ((reads_rowErrors hon).rel w w₂ hi hs))
  | tableErrors t' =>
    obtain rfl : t' = t := hon
    exact StepRes.of_both (fun ρ => Both.id' ρ t' P I) hi
      (fun _ _ hs => congrArg Obs.errs (by rw [hs.table]; rfl))

end

theorem apply_sim (x : Ext) (s : Step) {w w₂ : World} (hi : Inv t P I w) (hon : StepOn t P I s)
    (hs : Sim ρ t P I w w₂) :
    Sim (updS ρ w.rows.length w₂.rows.length s) t (growP P w.rows.length s) I
      (applyW x w s) (applyW x w₂ (renStep ρ s)) ∧
    applyO x w₂ (renStep ρ s) = renObs (updS ρ w.rows.length w₂.rows.length s) (applyO x w s) :=
  (apply_both x s hi hon).sim ρ w₂ hs

theorem apply_dep (x : Ext) (s : Step) {w w₂ : World} (hi : Inv t P I w) (hon : StepOn t P I s)
    (ha : Agree t P I w w₂) (hl : w₂.rows.length = w.rows.length) :
    Agree t (growP P w.rows.length s) I (applyW x w s) (applyW x w₂ s) ∧ applyO x w s = applyO x w₂ s ∧
    (applyW x w₂ s).rows.length = (applyW x w s).rows.length := by
  have h := apply_sim x s hi hon (sim_id_iff.2 ha)
  rw [hl, updS_id, renStep_id, renObs_id] at h
  refine ⟨sim_id_iff.1 h.1, h.2.symm, ?_⟩
  rw [(apply_both x s hi hon).len, (apply_both x s (hi.of_agree ha) hon).len, hl]

end C16
end Tab
