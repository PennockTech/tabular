/- C11, history level — the counting re-runs equal the static sums: `raisedBy` of the composite operations
   read off the callback lists of one world. -/
import Tabmodel.Proofs.C11hStatic
import Tabmodel.Proofs.C11hAttach
namespace Tab
namespace World

/-- A stretch of a counting re-run from `c` to `c'`: if `c` has the callbacks and the shape of `w0`, so has
    `c'`, and the counter has grown by `n`. -/
def Adds (w0 : World) (c c' : Cnt) (n : Nat) : Prop := Same w0 c.1 → Same w0 c'.1 ∧ c'.2 = c.2 + n

theorem Adds.refl (w0 : World) (c : Cnt) : Adds w0 c c 0 := fun h => ⟨h, rfl⟩

theorem Adds.trans {w0 : World} {a b c : Cnt} {m n : Nat} (h₁ : Adds w0 a b m) (h₂ : Adds w0 b c n) :
    Adds w0 a c (m + n) := fun h =>
  have ⟨s1, n1⟩ := h₁ h
  have ⟨s2, n2⟩ := h₂ s1
  ⟨s2, by rw [n2, n1, Nat.add_assoc]⟩

theorem invokeK_adds {w0 : World} {dw : Measure} {e : Nat} {c : Cnt} (cbs : World → List Cb)
    {tgt : Target} {tk : World → Taker} (hcbs : ∀ w, Same w0 w → cbs w = cbs w0) :
    Adds w0 c (invokeK dw e c cbs tgt tk) (raiseCount tgt e (cbs w0)) := fun h =>
  ⟨h.trans (same_invoke dw c.1 _ tgt _), by rw [invokeK_snd, hcbs c.1 h]⟩

theorem foldl_adds {w0 : World} {α : Type} {f : Cnt → α → Cnt} {g : α → Nat} {l : List α}
    (hf : ∀ a ∈ l, ∀ c, Adds w0 c (f c a) (g a)) {c : Cnt} : Adds w0 c (l.foldl f c) (l.map g).sum := by
  induction l generalizing c with
  | nil => exact Adds.refl w0 c
  | cons a l ih =>
    rw [List.foldl_cons, List.map_cons, List.sum_cons]
    exact (hf a (List.mem_cons_self ..) c).trans (ih fun a' ha' => hf a' (List.mem_cons_of_mem _ ha'))

/-! ### add-time callbacks -/

theorem addTimeCellsK_adds {w0 : World} {dw : Measure} {e t r : Nat} {tkf : World → Taker}
    {n i : Nat} {c : Cnt} : Adds w0 c (addTimeCellsK dw e t r tkf n i c) (addCellsCount w0 e t r n i) := by
  induction n generalizing i c with
  | zero => exact Adds.refl w0 c
  | succ n ih =>
    rw [addTimeCellsK, addCellsCount]
    exact ((invokeK_adds (fun w => colCellCbs w (columnOf w r i) .add) fun w hw => by
        simp only [same_columnOf hw, same_colCellCbs hw]).trans
      (invokeK_adds (fun w => (w.table t).cellCbs.at .add) fun w hw => by
        simp only [same_table_cellCbs hw])).trans ih

theorem addTimeCellsK_row_adds {w0 : World} {dw : Measure} {e t r : Nat} {tkf : World → Taker} {c : Cnt} :
    Adds w0 c (addTimeCellsK dw e t r tkf (c.1.rowCells r).length 0 c)
      (addCellsCount w0 e t r (w0.rowCells r).length 0) := fun h => by
  rw [same_rowCells_length h]; exact addTimeCellsK_adds h

theorem addRowK_adds {w0 : World} {dw : Measure} {e : Nat} {c : Cnt} {t r : Nat} :
    Adds w0 (addRowCore c.1 t r, c.2) (addRowK dw e c t r) (addCbsCount w0 e t r true) := by
  unfold addRowK addCbsCount
  rw [if_pos rfl]
  exact ((invokeK_adds (fun w => (w.row r).selfCbs.at .add) fun w hw => by
      simp only [same_row_selfCbs hw]).trans
    (invokeK_adds (fun w => (w.table t).rowCbs.at .add) fun w hw => by
      simp only [same_table_rowCbs hw])).trans addTimeCellsK_row_adds

theorem addRowK_static (dw : Measure) (e k : Nat) (w : World) (t r : Nat) :
    (addRowK dw e (w, k) t r).2 = k + addCbsCount (addRowCore w t r) e t r true :=
  (addRowK_adds (Same.refl _)).2

/-! ### render -/

theorem cellCalls_frame {w0 : World} (t r i : Nat) (col : Option (Nat × Nat)) :
    ∀ d ∈ cellCalls t r i col, ∀ w, Same w0 w → d.1 w = d.1 w0 := by
  intro d hd w hw
  simp only [cellCalls, List.mem_cons, List.not_mem_nil, or_false] at hd
  rcases hd with h | h | h | h | h | h | h | h <;> subst h <;>
    simp only [same_table_cellCbs hw, same_colCellCbs hw, same_row_cellCbs hw, same_cell_render hw]

theorem renderCellK_adds {w0 : World} {dw : Measure} {e t r i : Nat} {c : Cnt} :
    Adds w0 c (renderCellK dw e t r i c) (cellRenderCount w0 e t r i) := fun h => by
  rw [renderCellK, cellRenderCount, same_columnOf h]
  refine foldl_adds (fun d hd _ => ?_) h
  exact invokeK_adds d.1 (cellCalls_frame t r i _ d hd)

theorem renderCellsK_adds {w0 : World} {dw : Measure} {e t r n i : Nat} {c : Cnt} :
    Adds w0 c (renderCellsK dw e t r n i c) (cellsRenderCount w0 e t r n i) := by
  induction n generalizing i c with
  | zero => exact Adds.refl w0 c
  | succ n ih => rw [renderCellsK, cellsRenderCount]; exact renderCellK_adds.trans ih

theorem renderRowK_adds {w0 : World} {dw : Measure} {e t : Nat} {c : Cnt} {r : Nat} :
    Adds w0 c (renderRowK dw e t c r) (rowRenderCount w0 e t r) := by
  have cells {c : Cnt} : Adds w0 c (renderCellsK dw e t r (c.1.rowCells r).length 0 c)
      (cellsRenderCount w0 e t r (w0.rowCells r).length 0) := fun h => by
    rw [same_rowCells_length h]; exact renderCellsK_adds h
  unfold renderRowK rowRenderCount
  exact ((invokeK_adds (fun w => (w.row r).selfCbs.at .pre) fun w hw => by
      simp only [same_row_selfCbs hw]).trans cells).trans
    (invokeK_adds (fun w => (w.row r).selfCbs.at .post) fun w hw => by simp only [same_row_selfCbs hw])

theorem renderColumnsK_adds {w0 : World} {dw : Measure} {e t : Nat} {tm : Time} {n i : Nat} {c : Cnt} :
    Adds w0 c (renderColumnsK dw e t tm n i c) (colsRenderCount w0 e t tm n i) := by
  induction n generalizing i c with
  | zero => exact Adds.refl w0 c
  | succ n ih =>
    rw [renderColumnsK, colsRenderCount]
    exact (invokeK_adds _ fun w hw => same_column_selfCbs hw t i tm).trans ih

theorem renderHeaderK_adds {w0 : World} {dw : Measure} {e t : Nat} {c : Cnt} :
    Adds w0 c (renderHeaderK dw e t c) (hdrRenderCount w0 e t) := fun h => by
  unfold renderHeaderK hdrRenderCount
  rw [same_header h]
  cases (w0.table t).header with
  | none => exact Adds.refl w0 c h
  | some hr => exact renderRowK_adds h

theorem renderK_adds {w0 : World} {dw : Measure} {e : Nat} {c : Cnt} {t : Nat} :
    Adds w0 c (renderK dw e c t) (renderCount w0 e t) := fun h => by
  have s1 : Same w0 (invokeK dw e c (fun w => (w.table t).selfCbs.at .pre) (.table t)
      (fun _ => .table t)).1 := h.trans (same_invoke ..)
  have rows {c : Cnt} : Adds w0 c ((c.1.table t).rows.foldl (renderRowK dw e t) c)
      ((w0.table t).rows.map (rowRenderCount w0 e t)).sum := fun h => by
    rw [same_rows h]
    exact foldl_adds (f := renderRowK dw e t) (fun _ _ _ => renderRowK_adds) h
  unfold renderK renderCount
  simp only
  rw [same_columns_length s1]
  exact (((((invokeK_adds (fun w => (w.table t).selfCbs.at .pre) fun w hw => by
      simp only [same_table_selfCbs hw]).trans
    renderColumnsK_adds).trans renderHeaderK_adds).trans rows).trans renderColumnsK_adds).trans
    (invokeK_adds (fun w => (w.table t).selfCbs.at .post) fun w hw => by simp only [same_table_selfCbs hw]) h

theorem renderK_static (dw : Measure) (e k : Nat) (w0 : World) (t : Nat) :
    (renderK dw e (w0, k) t).2 = k + renderCount w0 e t :=
  (renderK_adds (Same.refl w0)).2

/-! ### `raisedBy` -/

theorem rowAddCellPre_cells (w : World) (r : Nat) (ce : Cell) (cs : List Cell)
    (hc : (w.row r).cells = some cs) : ∃ cs', ((rowAddCellPre w r ce cs).row r).cells = some cs' := by
  have key : ∃ cs', ((w.modRow r (fun rw =>
      { rw with cells := some (cs ++ [{ ce with inRow := some r, columnNum := cs.length + 1 }]) })).row r).cells
        = some cs' := by
    rw [row_modRow]
    split
    · exact ⟨_, rfl⟩
    · exact ⟨cs, hc⟩
  unfold rowAddCellPre
  simp only
  split
  · rw [row_modTable]; exact key
  · exact key

theorem rowAddManyK_quiet (dw : Measure) (e r : Nat) (is : List Nat) (c : Cnt)
    (hcb : (c.1.row r).cellCbs.at .add = []) (hc : ∃ cs, (c.1.row r).cells = some cs) :
    rowAddManyK dw e r is c = (rowAddMany dw r is c.1, c.2) := by
  refine Prod.ext (rowAddManyK_fst dw e r is c) ?_
  induction is generalizing c with
  | nil => rfl
  | cons i is ih =>
    rw [rowAddManyK]
    obtain ⟨cs, hcs⟩ := hc
    have hpre : ((rowAddCellPre c.1 r (newCell dw i (c.1.item i)) cs).row r).cellCbs.at .add = [] := by
      rw [rowAddCellPre_cellCbs]; exact hcb
    have hstep : rowAddCellK dw e c r (newCell dw i (c.1.item i))
        = (rowAddCellPre c.1 r (newCell dw i (c.1.item i)) cs, c.2) := by
      unfold rowAddCellK
      simp only [hcs]
      exact invokeK_nil dw e _ _ _ _ hpre
    rw [hstep]
    exact ih _ hpre (rowAddCellPre_cells c.1 r _ cs hcs)

theorem raised_addRow (dw : Measure) (w : World) (t r e : Nat) :
    raisedBy dw w (.addRow t r) e = addCbsCount (addRowCore w t r) e t r true := by
  have := addRowK_static dw e 0 w t r
  simpa [raisedBy, applyOpK] using this

theorem raised_render (dw : Measure) (w : World) (t e : Nat) :
    raisedBy dw w (.render t) e = renderCount w e t := by
  have := renderK_static dw e 0 w t
  simpa [raisedBy, applyOpK] using this

theorem raised_appendNewRow (dw : Measure) (w : World) (t e : Nat) :
    raisedBy dw w (.appendNewRow t) e
      = addCbsCount (addRowCore (w.newRow {}).1 t w.rows.length) e t w.rows.length true := by
  have := addRowK_static dw e 0 (w.newRow {}).1 t w.rows.length
  simpa [raisedBy, applyOpK] using this

theorem raised_addRowItems (dw : Measure) (w : World) (t : Nat) (items : List Nat) (e : Nat) :
    raisedBy dw w (.addRowItems t items) e
      = addCbsCount (addRowCore (rowAddMany dw w.rows.length items (w.newRow {}).1) t w.rows.length)
          e t w.rows.length true := by
  have hc := rowAddManyK_quiet dw e w.rows.length items ((w.newRow {}).1, 0)
    (by simp only [row_newRow_self]; rfl) ⟨[], by simp only [row_newRow_self]⟩
  have := addRowK_static dw e 0 (rowAddMany dw w.rows.length items (w.newRow {}).1) t w.rows.length
  simp only [raisedBy, applyOpK, hc]
  simpa using this

/-- the world in which `addHeaders` runs its add-time callbacks: the header row built, and set -/
def hdrW4 (dw : Measure) (w : World) (t : Nat) (items : List Nat) : World :=
  (rowAddMany dw w.rows.length items
    ((w.modTable t (fun tb => resizeColumnsAtLeast tb items.length)).newRow { ec := .table t }).1).modTable t
    (fun tb => { tb with header := some w.rows.length })

theorem hdrCbsK_adds {w0 : World} {dw : Measure} {e t hr : Nat} {c : Cnt} :
    Adds w0 (c.1.modTable t (fun tb => { tb with header := some hr }), c.2) (hdrCbsK dw e t hr c)
      (addCbsCount w0 e t hr false) := by
  unfold hdrCbsK addCbsCount
  rw [if_neg Bool.false_ne_true]
  exact ((Adds.refl w0 _).trans (invokeK_adds (fun w => (w.table t).rowCbs.at .add) fun w hw => by
    simp only [same_table_rowCbs hw])).trans addTimeCellsK_row_adds

theorem hdrCbsK_static (dw : Measure) (e t hr : Nat) (c : Cnt) :
    (hdrCbsK dw e t hr c).2
      = c.2 + addCbsCount (c.1.modTable t (fun tb => { tb with header := some hr })) e t hr false :=
  (hdrCbsK_adds (Same.refl _)).2

theorem raised_addHeaders (dw : Measure) (w : World) (t : Nat) (items : List Nat) (e : Nat) :
    raisedBy dw w (.addHeaders t items) e
      = addCbsCount (hdrW4 dw w t items) e t w.rows.length false := by
  have hc := rowAddManyK_quiet dw e w.rows.length items (hdrW2 w t items.length, 0)
    (by simp only [hdrW2_row_self]; rfl) ⟨[], by simp only [hdrW2_row_self]⟩
  show (addHeadersK dw e (w, 0) t items).2 = _
  rw [addHeadersK_eq, hc, hdrCbsK_static, Nat.zero_add]
  rfl

end World
end Tab
