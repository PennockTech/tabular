/- C11, history level — the counting functions run the model (first components); where a taker's errors
   land (`resolve`) and what each container holds (`cnt`). -/
import Tabmodel.Proofs.C11hDefs
namespace Tab

namespace World

theorem invokeK_fst (dw : Measure) (e : Nat) (c : Cnt) (cbs : World → List Cb) (tgt : Target)
    (tk : World → Taker) : (invokeK dw e c cbs tgt tk).1 = invoke dw c.1 (cbs c.1) tgt (tk c.1) := rfl

theorem invokeK_snd (dw : Measure) (e : Nat) (c : Cnt) (cbs : World → List Cb) (tgt : Target)
    (tk : World → Taker) : (invokeK dw e c cbs tgt tk).2 = c.2 + raiseCount tgt e (cbs c.1) := rfl

theorem rowAddCell_none (dw : Measure) (w : World) (r : Nat) (ce : Cell)
    (hc : (w.row r).cells = none) : rowAddCell dw w r ce = addErrTo w (.rowLazy r) errNonCellRow := by
  simp only [rowAddCell, hc]

theorem rowAddCellK_fst (dw : Measure) (e : Nat) (c : Cnt) (r : Nat) (ce : Cell) :
    (rowAddCellK dw e c r ce).1 = rowAddCell dw c.1 r ce := by
  unfold rowAddCellK
  cases hc : (c.1.row r).cells with
  | none => simp only; rw [rowAddCell_none dw c.1 r ce hc]
  | some cs => simp only; rw [rowAddCell_some dw c.1 r ce cs hc]; rfl

theorem rowAddManyK_fst (dw : Measure) (e : Nat) (r : Nat) (is : List Nat) (c : Cnt) :
    (rowAddManyK dw e r is c).1 = rowAddMany dw r is c.1 := by
  induction is generalizing c with
  | nil => rfl
  | cons i is ih =>
    rw [rowAddManyK, rowAddMany, ih, rowAddCellK_fst]; rfl

theorem addTimeCellsK_fst (dw : Measure) (e : Nat) (t r : Nat) (tkf : World → Taker) (n i : Nat)
    (c : Cnt) : (addTimeCellsK dw e t r tkf n i c).1 = addTimeCells dw t r tkf n i c.1 := by
  induction n generalizing i c with
  | zero => rfl
  | succ n ih => rw [addTimeCellsK, addTimeCells, ih]; rfl

theorem addRowK_fst (dw : Measure) (e : Nat) (c : Cnt) (t r : Nat) :
    (addRowK dw e c t r).1 = addRow dw c.1 t r := by
  rw [addRow_eq]
  simp only [addRowK, addRowCbs, addTimeCellsK_fst, invokeK_fst]

theorem addHeadersK_fst (dw : Measure) (e : Nat) (c : Cnt) (t : Nat) (items : List Nat) :
    (addHeadersK dw e c t items).1 = addHeaders dw c.1 t items := by
  simp only [addHeadersK, addHeaders, addTimeCellsK_fst, invokeK_fst, rowAddManyK_fst, newRow]

theorem foldK_fst (dw : Measure) (e : Nat) (tgt : Target)
    (calls : List ((World → List Cb) × (World → Taker))) (c : Cnt) :
    (calls.foldl (fun c d => invokeK dw e c d.1 tgt d.2) c).1
      = calls.foldl (fun w d => invoke dw w (d.1 w) tgt (d.2 w)) c.1 := by
  induction calls generalizing c with
  | nil => rfl
  | cons d ds ih => simp only [List.foldl_cons, ih, invokeK_fst]

theorem renderCellsK_fst (dw : Measure) (e : Nat) (t r n i : Nat) (c : Cnt) :
    (renderCellsK dw e t r n i c).1 = renderCells dw t r n i c.1 := by
  induction n generalizing i c with
  | zero => rfl
  | succ n ih => rw [renderCellsK, renderCells_succ, ih, renderCellK, foldK_fst]

theorem renderRowK_fst (dw : Measure) (e : Nat) (t : Nat) (c : Cnt) (r : Nat) :
    (renderRowK dw e t c r).1 = renderRow dw t c.1 r := by
  simp only [renderRowK, renderRow, invokeK_fst, renderCellsK_fst]

theorem renderColumnsK_fst (dw : Measure) (e : Nat) (t : Nat) (tm : Time) (n i : Nat) (c : Cnt) :
    (renderColumnsK dw e t tm n i c).1 = renderColumns dw t tm n i c.1 := by
  induction n generalizing i c with
  | zero => rfl
  | succ n ih => rw [renderColumnsK, renderColumns]; exact ih _ _

theorem foldl_renderRowK_fst (dw : Measure) (e : Nat) (t : Nat) (rs : List Nat) (c : Cnt) :
    (rs.foldl (renderRowK dw e t) c).1 = rs.foldl (renderRow dw t) c.1 := by
  induction rs generalizing c with
  | nil => rfl
  | cons r rs ih => simp only [List.foldl_cons, ih, renderRowK_fst]

theorem renderHeaderK_fst (dw : Measure) (e : Nat) (t : Nat) (c : Cnt) :
    (renderHeaderK dw e t c).1 = renderHeader dw t c.1 := by
  cases h : (c.1.table t).header <;> simp [renderHeaderK, renderHeader, h, renderRowK_fst]

theorem renderK_fst (dw : Measure) (e : Nat) (c : Cnt) (t : Nat) :
    (renderK dw e c t).1 = invokeRenderCallbacks dw c.1 t := by
  rw [invokeRenderCallbacks_eq]
  simp only [renderK, invokeK_fst, renderColumnsK_fst, foldl_renderRowK_fst, renderHeaderK_fst]

/-! ### where an `AddError` lands -/

/-- the object whose list an `AddError` through `tk` is appended to (`none`: it is dropped) -/
def resolve (w : World) : Taker → Option Src
  | .drop => none
  | .table t => if t < w.tables.length then some (.table t) else none
  | .rowOwn r => match (w.row r).ec with
    | .own _ => some (.row r)
    | _ => none
  | .rowLazy r =>
    if r < w.rows.length then
      match (w.row r).ec with
      | .table t => if t < w.tables.length then some (.table t) else none
      | _ => some (.row r)
    else none

theorem unattached_iff (w : World) (r : Nat) : unattached w r ↔ ∀ t, (w.row r).ec ≠ .table t := by
  unfold unattached
  cases (w.row r).ec <;> simp

theorem ownerOf_row_table {w : World} {r t : Nat} (h : (w.row r).ec = .table t) :
    w.ownerOf (.row r) = .table t := by simp only [ownerOf, h]

theorem ownerOf_row_unattached {w : World} {r : Nat} (h : unattached w r) :
    w.ownerOf (.row r) = .row r := by
  simp only [ownerOf]
  rcases h with h | ⟨es, h⟩ <;> simp [h]

theorem ownerOf_row_congr {w w' : World} {r : Nat}
    (h : ∀ t, (w.row r).ec = .table t ↔ (w'.row r).ec = .table t) :
    w'.ownerOf (.row r) = w.ownerOf (.row r) := by
  by_cases hex : ∃ t, (w.row r).ec = .table t
  · obtain ⟨t, ht⟩ := hex
    rw [ownerOf_row_table ht, ownerOf_row_table ((h t).mp ht)]
  · rw [ownerOf_row_unattached ((unattached_iff w r).mpr fun t ht => hex ⟨t, ht⟩),
      ownerOf_row_unattached ((unattached_iff w' r).mpr fun t ht => hex ⟨t, (h t).mpr ht⟩)]

theorem ownerOf_congr {w w' : World}
    (h : ∀ r t, (w.row r).ec = .table t ↔ (w'.row r).ec = .table t) (s : Src) :
    w'.ownerOf s = w.ownerOf s := by
  cases s with
  | table t => rfl
  | row r => exact ownerOf_row_congr (h r)

/-- the object an `AddError` through `tk` is raised on -/
def tkDest : Taker → Option Src
  | .drop => none
  | .table t => some (.table t)
  | .rowOwn r => some (.row r)
  | .rowLazy r => some (.row r)

theorem dest_addErr (tk : Taker) (e : Nat) : (BuildOp.addErr tk e).dest = tkDest tk := by
  cases tk <;> rfl

theorem resolve_eq_dest (w : World) (tk : Taker) (g : Src) :
    resolve w tk = some g ↔ (live w tk ∧ (tkDest tk).map w.ownerOf = some g) := by
  cases tk with
  | drop => simp [resolve, live]
  | table t =>
    simp only [resolve, live, tkDest, Option.map_some, ownerOf]
    by_cases ht : t < w.tables.length <;> simp [ht]
  | rowOwn r =>
    simp only [resolve, live, tkDest, Option.map_some, ownerOf]
    cases (w.row r).ec <;> simp
  | rowLazy r =>
    simp only [resolve, live, tkDest, Option.map_some, ownerOf]
    by_cases hr : r < w.rows.length
    · simp only [hr, if_true, true_and]
      cases (w.row r).ec with
      | none => simp
      | own es => simp
      | table t => by_cases ht : t < w.tables.length <;> simp [ht]
    · simp [hr]

theorem live_of_resolve {w : World} {tk : Taker} {g : Src} (h : resolve w tk = some g) : live w tk :=
  ((resolve_eq_dest w tk g).mp h).1

theorem resolve_none_of_dead {w : World} {tk : Taker} (h : ¬ live w tk) : resolve w tk = none := by
  cases hr : resolve w tk with
  | none => rfl
  | some g => exact absurd (live_of_resolve hr) h

theorem resolve_stable {w w' : World} (h : Stable w w') {tk : Taker} {g : Src}
    (hr : resolve w tk = some g) : resolve w' tk = some g := by
  rw [resolve_eq_dest] at hr ⊢
  exact ⟨live_of_stable h tk hr.1, by rw [funext (ownerOf_congr h.ecT)]; exact hr.2⟩

/-! ### errors that stay where they are -/

structure SameErrs (w w' : World) : Prop where
  errs : ∀ t, (w'.table t).errs = (w.table t).errs
  ec : ∀ r, (w'.row r).ec = (w.row r).ec
  mass : ∀ e, mass w' e = mass w e

theorem SameErrs.of_stores {w w' : World} (ht : w'.tables = w.tables) (hr : w'.rows = w.rows) :
    SameErrs w w' :=
  ⟨fun t => by simp only [table, ht], fun r => by simp only [row, hr], fun e => by simp only [World.mass, ht, hr]⟩

theorem SameErrs.trans {a b c : World} (h₁ : SameErrs a b) (h₂ : SameErrs b c) : SameErrs a c :=
  ⟨fun t => (h₂.errs t).trans (h₁.errs t), fun r => (h₂.ec r).trans (h₁.ec r),
   fun e => (h₂.mass e).trans (h₁.mass e)⟩

theorem SameErrs.cnt {w w' : World} (h : SameErrs w w') (e : Nat) (g : Src) : cnt w' e g = cnt w e g := by
  cases g with
  | table t => simp only [World.cnt, h.errs]
  | row r => simp only [World.cnt, ownCount, h.ec]

theorem sameErrs_modTable (w : World) (t : Nat) (f : Table → Table) (hf : ∀ x, (f x).errs = x.errs) :
    SameErrs w (w.modTable t f) :=
  ⟨table_modTable_proj _ _ _ (·.errs) hf, fun _ => rfl, fun _ => mass_modTable_same _ _ _ _ hf⟩

theorem sameErrs_modRow (w : World) (r : Nat) (f : Row → Row) (hf : ∀ x, (f x).ec = x.ec) :
    SameErrs w (w.modRow r f) :=
  ⟨fun _ => rfl, row_modRow_proj _ _ _ (·.ec) hf, fun _ => mass_modRow_same _ _ _ _ hf⟩

theorem sameErrs_events (w : World) (evs : List Event) : SameErrs w { w with events := evs } :=
  .of_stores rfl rfl

theorem sameErrs_setProp (w : World) (tgt : Target) (k : Key) (v : Option Val) :
    SameErrs w (setProp w tgt k v) :=
  ⟨setProp_errs w tgt k v, setProp_ec w tgt k v, mass_setProp w tgt k v⟩

theorem cnt_events (w : World) (evs : List Event) (e : Nat) (g : Src) :
    cnt { w with events := evs } e g = cnt w e g := (sameErrs_events w evs).cnt e g

theorem cnt_setProp (w : World) (tgt : Target) (k : Key) (v : Option Val) (e : Nat) (g : Src) :
    cnt (setProp w tgt k v) e g = cnt w e g := (sameErrs_setProp w tgt k v).cnt e g

theorem resolve_events (w : World) (evs : List Event) (tk : Taker) :
    resolve { w with events := evs } tk = resolve w tk := by cases tk <;> rfl

/-! ### one more error -/

theorem modRow_fix (w : World) (r : Nat) (f : Row → Row) (hf : f (w.row r) = w.row r) :
    w.modRow r f = w := by
  simp only [modRow, modify_fix w.rows r f fun a ha => by rwa [row_eq, ha] at hf]

theorem addErrTo_dead {w : World} {tk : Taker} (e : Nat) (hl : ¬ live w tk) : addErrTo w tk e = w := by
  cases tk with
  | drop => rfl
  | table t => exact modTable_oob w t _ (Nat.le_of_not_lt hl)
  | rowOwn r =>
    refine modRow_fix w r _ ?_
    cases hec : (w.row r).ec with
    | own es => simp [live, hec] at hl
    | none => rfl
    | table t => rfl
  | rowLazy r =>
    simp only [live] at hl
    simp only [addErrTo]
    by_cases hr : r < w.rows.length
    · cases hec : (w.row r).ec with
      | none => simp [hr, hec] at hl
      | own es => simp [hr, hec] at hl
      | table t =>
        simp only [hr, hec, true_and] at hl
        exact modTable_oob w t _ (Nat.le_of_not_lt hl)
    · have hr' := Nat.le_of_not_lt hr
      have hec : (w.row r).ec = .none := by rw [row_oob w r hr']
      simp only [hec, modRow_oob w r _ hr']

theorem mass_addErrTo_gen (w : World) (tk : Taker) (e e' : Nat) :
    mass (addErrTo w tk e) e' = mass w e' + if live w tk ∧ e' = e then 1 else 0 := by
  by_cases hl : live w tk
  · rw [mass_addErrTo w tk e e' hl]; simp [hl]
  · rw [addErrTo_dead e hl]; simp [hl]

theorem cnt_addTable (w : World) (t e e' : Nat) (g : Src) (ht : t < w.tables.length) :
    cnt (w.modTable t (fun tb => { tb with errs := tb.errs ++ [e] })) e' g
      = cnt w e' g + if some (Src.table t) = some g ∧ e' = e then 1 else 0 := by
  cases g with
  | row r => simp [cnt]
  | table t' =>
    simp only [cnt, table_modTable, Option.some.injEq, Src.table.injEq]
    by_cases h : t = t'
    · subst h; simp only [ht, and_self, if_true, count_snoc, true_and]
    · simp [h]

/-- appending one error to the own list `es` of row `r` (`es = []` for a row that has none yet) -/
theorem cnt_pushOwn (w : World) (r : Nat) (f : Row → Row) (es : List Nat) (e e' : Nat) (g : Src)
    (hr : r < w.rows.length) (h0 : ownCount e' (w.row r) = es.count e')
    (hf : (f (w.row r)).ec = .own (es ++ [e])) :
    cnt (w.modRow r f) e' g = cnt w e' g + if some (Src.row r) = some g ∧ e' = e then 1 else 0 := by
  cases g with
  | table t => simp [cnt]
  | row r' =>
    simp only [cnt, Option.some.injEq, Src.row.injEq]
    by_cases h : r = r'
    · subst h; rw [h0]; simp only [row_modRow_self _ _ _ hr, ownCount, hf, count_snoc, true_and]
    · simp [row_modRow_ne _ _ _ _ h, h]

theorem cnt_addErrTo (w : World) (tk : Taker) (e e' : Nat) (g : Src) :
    cnt (addErrTo w tk e) e' g
      = cnt w e' g + if resolve w tk = some g ∧ e' = e then 1 else 0 := by
  by_cases hl : live w tk
  · cases tk with
    | drop => exact absurd hl id
    | table t =>
      have ht : t < w.tables.length := hl
      simp only [addErrTo, resolve, ht, if_true]; exact cnt_addTable w t e e' g ht
    | rowOwn r =>
      cases hec : (w.row r).ec with
      | own es =>
        simp only [addErrTo, resolve, hec]
        exact cnt_pushOwn w r _ es e e' g (row_ec_lt w r (by simp [hec])) (by simp only [ownCount, hec])
          (by simp only [hec])
      | none => simp [live, hec] at hl
      | table t => simp [live, hec] at hl
    | rowLazy r =>
      obtain ⟨hr, ht⟩ := hl
      simp only [addErrTo, resolve, hr, if_true]
      cases hec : (w.row r).ec with
      | none => exact cnt_pushOwn w r _ [] e e' g hr (by simp [ownCount, hec]) rfl
      | own es => exact cnt_pushOwn w r _ es e e' g hr (by simp only [ownCount, hec]) rfl
      | table t =>
        simp only [hec] at ht
        simp only [ht, if_true]; exact cnt_addTable w t e e' g ht
  · rw [addErrTo_dead e hl, resolve_none_of_dead hl]; simp

theorem cnt_invokeOne (dw : Measure) (w : World) (cb : Cb) (tgt : Target) (tk : Taker)
    (e : Nat) (g : Src) :
    cnt (invokeOne dw w cb tgt tk) e g
      = cnt w e g + if resolve w tk = some g ∧ raises tgt cb = some e then 1 else 0 := by
  have hadd : ∀ (w' : World) (e' : Nat), (∀ g, cnt w' e g = cnt w e g) → resolve w' tk = resolve w tk →
      cnt (addErrTo w' tk e') e g = cnt w e g + if resolve w tk = some g ∧ some e' = some e then 1 else 0 := by
    intro w' e' h1 h2
    rw [cnt_addErrTo, h1, h2]
    simp only [Option.some.injEq, eq_comm]
  cases cb with
  | log id => simp only [invokeOne, raises, cnt_events, reduceCtorEq, and_false, if_false, Nat.add_zero]
  | setProp id k v =>
    simp only [invokeOne, raises, cnt_setProp, cnt_events, reduceCtorEq, and_false, if_false, Nat.add_zero]
  | fail id e' =>
    simp only [invokeOne, raises]
    exact hadd _ e' (cnt_events w _ e) (resolve_events w _ tk)
  | dimSetter =>
    cases tgt with
    | cell r c =>
      simp only [invokeOne, raises, reduceCtorEq, and_false, if_false, Nat.add_zero]
      split <;> simp only [cnt_setProp]
    | _ => simp only [invokeOne, raises]; exact hadd w _ (fun _ => rfl) rfl
  | widthSetter =>
    cases tgt with
    | cell r c =>
      simp only [invokeOne, raises, reduceCtorEq, and_false, if_false, Nat.add_zero]
      split <;> simp only [cnt_setProp]
    | _ => simp only [invokeOne, raises]; exact hadd w _ (fun _ => rfl) rfl

theorem cnt_invoke (dw : Measure) (w : World) (cbs : List Cb) (tgt : Target) (tk : Taker)
    (e : Nat) (g g0 : Src) (hr : resolve w tk = some g0) :
    cnt (invoke dw w cbs tgt tk) e g
      = cnt w e g + if g0 = g then raiseCount tgt e cbs else 0 := by
  induction cbs generalizing w with
  | nil => simp [invoke_nil, raiseCount]
  | cons cb cbs ih =>
    rw [invoke_cons, ih _ (resolve_stable (invokeOne_stable dw w cb tgt tk) hr), cnt_invokeOne, hr,
      raiseCount_cons]
    simp only [Option.some.injEq]
    by_cases hg : g0 = g <;> simp [hg, Nat.add_assoc]

end World
open World

/- Stated with `rfl`, the next two would have the unifier compare a projection of a pair with an application
   of `addRow`, which it decides by unfolding `addRow` and everything under it; hence the detour through
   the equation for the whole pair. -/
theorem applyOp_appendNewRow (dw : Measure) (w : World) (t : Nat) :
    applyOp dw w (.appendNewRow t) = addRow dw (w.newRow {}).1 t w.rows.length := by
  show (appendNewRow dw w t).1 = _
  rw [appendNewRow_eq]

theorem applyOp_addRowItems (dw : Measure) (w : World) (t : Nat) (items : List Nat) :
    applyOp dw w (.addRowItems t items)
      = addRow dw (rowAddMany dw w.rows.length items (w.newRow {}).1) t w.rows.length := by
  show (addRowItems dw w t items).1 = _
  rw [addRowItems_eq]

theorem applyOpK_fst (dw : Measure) (e : Nat) (c : Cnt) (op : BuildOp) :
    (applyOpK dw e c op).1 = applyOp dw c.1 op := by
  cases op <;> simp only [applyOpK, applyOp]
  case addHeaders t items => exact addHeadersK_fst dw e c t items
  case addRowItems t items => rw [addRowK_fst, rowAddManyK_fst, addRowItems_eq]
  case appendNewRow t => rw [addRowK_fst, appendNewRow_eq]
  case rowAdd r i => exact rowAddCellK_fst dw e c r _
  case rowAddCell r ce => exact rowAddCellK_fst dw e c r ce
  case addRow t r => exact addRowK_fst dw e c t r
  case render t => exact renderK_fst dw e c t

end Tab
