/-
  The concrete histories used by the non-vacuity examples of `Props/C03h.lean` (`dw := List.length`),
  and the decidable hypotheses of the theorems evaluated on them.
-/
import Tabmodel.Proofs.C03hDefs
import Tabmodel.Proofs.E2EcbExample
namespace Tab
open World hiding CellOK

namespace C03hExample

def strItem (s : Bytes) : Item :=
  { kind := .str s, mString := none, mGoString := none, mError := none, fmtV := s,
    mHeight := none, mWidth := none, json := none }

/-- "name", "ab\ncde", "x", "", and `nil` -/
def plainStore : List Item :=
  [strItem [110, 97, 109, 101], strItem [97, 98, 10, 99, 100, 101], strItem [120], strItem [],
   { strItem [] with kind := .nil }]

/-- the same store after item 2 was mutated to "wider\n!" -/
def plainStore2 : List Item := plainStore.set 2 (strItem [119, 105, 100, 101, 114, 10, 33])

/-- table 0: headers `name | x`; row 1 `"ab\ncde" | x`; a separator; a pre-built row 3 `x`; a
    by-value copy of cell (1,0) -/
def plainPre : List BuildOp :=
  [ .setItems plainStore, .newTable,
    .regCb (.table 0) .render .cell (.setProp 2 (.user 7) (some (.user 70))),
    .regCb (.table 0) .pre .itself (.fail 3 55),
    .addHeaders 0 [0, 2],            -- row id 0
    .addRowItems 0 [1, 2],           -- row id 1
    .addSeparator 0,                 -- row id 2
    .newRow, .rowAdd 3 2, .addRow 0 3,
    .copyCell 1 0 ]

/-- … the copy is added to row 3 (`Row.Add(copy)`); item 2 is mutated: cell (1,1) is `Update`d, the
    header cell (0,1) and cell (3,0) stay stale; a row made of the empty string and `nil`;
    wrapped as text -/
def plainOps : List BuildOp :=
  plainPre ++
  [ .rowAddCell 3 ((run List.length plainPre).copies.getD 0 default),
    .setItems plainStore2, .updateCell 1 1,
    .addRowItems 0 [3, 4],
    .setProp (.column 0 2) .align (some (.align 2)) ] ++ wrapOps .text 0

theorem hv : Valid plainOps = true := by decide +kernel
theorem ht : 0 < (run e2eX.dw plainOps).tables.length := by decide +kernel
theorem hU : (run e2eX.dw plainOps).UserKeysOnly 0 := by decide +kernel
theorem hNt : Needs (run e2eX.dw plainOps) e2eText := by decide +kernel
theorem hNb : Needs (run e2eX.dw plainOps) e2eBoxless := by decide +kernel
theorem ha : AlignOK ((invokeRenderCallbacks e2eX.dw (run e2eX.dw plainOps) 0).view 0) :=
  alignOK_of_alignOKb _ (by decide +kernel)
theorem hn : 1 ≤ ((run e2eX.dw plainOps).table 0).nColumns := by decide +kernel
theorem hP : PlainItems e2eX.dw plainOps := by decide +kernel
theorem hcopy : (run List.length plainPre).copies.getD 0 default ∈ (run List.length plainPre).copies := by
  decide +kernel

/-- items that declare sizes: "abc" declaring width 5; "x" declaring height 3; a nested
    `tabular.Cell` "ab" (a `Cell` value declares both); "-" declaring width −1; "ab\ncd" declaring
    height 1 (smaller than its text); plain "abcdefg" -/
def fitStore : List Item :=
  [{ strItem [97, 98, 99] with mWidth := some 5 }, { strItem [120] with mHeight := some 3 },
   { strItem [97, 98] with kind := .cell [97, 98] 2 1 false, mWidth := some 2, mHeight := some 1 },
   { strItem [45] with mWidth := some (-1) }, { strItem [97, 98, 10, 99, 100] with mHeight := some 1 },
   strItem [97, 98, 99, 100, 101, 102, 103]]

/-- item 0 now declares width 2 and item 5 is shorter; nothing is `Update`d -/
def fitStore2 : List Item :=
  (fitStore.set 0 { strItem [97, 98, 99] with mWidth := some 2 }).set 5 (strItem [97])

def fitOps : List BuildOp :=
  [ .setItems fitStore, .newTable,
    .addHeaders 0 [0, 1, 5], .addRowItems 0 [2, 3, 4], .addRowItems 0 [4, 0],
    .setItems fitStore2 ] ++ wrapOps .text 0

theorem fhv : Valid fitOps = true := by decide +kernel
theorem fht : 0 < (run e2eX.dw fitOps).tables.length := by decide +kernel
theorem fhU : (run e2eX.dw fitOps).UserKeysOnly 0 := by decide +kernel
theorem fhNt : Needs (run e2eX.dw fitOps) e2eText := by decide +kernel
theorem fha : AlignOK ((invokeRenderCallbacks e2eX.dw (run e2eX.dw fitOps) 0).view 0) :=
  alignOK_of_alignOKb _ (by decide +kernel)
theorem fhn : 1 ≤ ((run e2eX.dw fitOps).table 0).nColumns := by decide +kernel
theorem fhF : FitItems e2eX.dw fitOps := by decide +kernel

/-- the documented exception: "ab\ncd" declaring width 1 -/
def badWidthOps : List BuildOp :=
  [ .setItems [{ strItem [97, 98, 10, 99, 100] with mWidth := some 1 }, strItem [120]], .newTable,
    .addHeaders 0 [1], .addRowItems 0 [0] ] ++ wrapOps .text 0

/-- an item id in use stops declaring a width and its cell is not `Update`d: "abcdef" declaring 3,
    replaced by a plain "abcdef" (not reachable in Go: an item's dynamic type is fixed) -/
def badStableOps : List BuildOp :=
  [ .setItems [{ strItem [97, 98, 99, 100, 101, 102] with mWidth := some 3 }, strItem [120]], .newTable,
    .addHeaders 0 [1], .addRowItems 0 [0],
    .setItems [strItem [97, 98, 99, 100, 101, 102], strItem [120]] ] ++ wrapOps .text 0

/-- the other direction: a plain "ab\ncd" whose item starts declaring a width (2) without `Update` -/
def lateDeclOps : List BuildOp :=
  [ .setItems [strItem [97, 98, 10, 99, 100], strItem [120]], .newTable,
    .addHeaders 0 [1], .addRowItems 0 [0],
    .setItems [{ strItem [97, 98, 10, 99, 100] with mWidth := some 2 }, strItem [120]] ] ++ wrapOps .text 0

/-- `NewCell(NewCell("ab\ncde"))`: a nested `tabular.Cell` (which declares both sizes) whose text has
    two lines and whose cached width 3 is its widest line — reachable in Go, renders as a rectangle -/
def nestedOps : List BuildOp :=
  [ .setItems [{ strItem [97, 98, 10, 99, 100, 101] with
                   kind := .cell [97, 98, 10, 99, 100, 101] 3 2 false, mWidth := some 3, mHeight := some 2 },
               strItem [120]], .newTable,
    .addHeaders 0 [1], .addRowItems 0 [0] ] ++ wrapOps .text 0

theorem nhv : Valid nestedOps = true := by decide +kernel
theorem nht : 0 < (run e2eX.dw nestedOps).tables.length := by decide +kernel
theorem nhU : (run e2eX.dw nestedOps).UserKeysOnly 0 := by decide +kernel
theorem nhNt : Needs (run e2eX.dw nestedOps) e2eText := by decide +kernel
theorem nha : AlignOK ((invokeRenderCallbacks e2eX.dw (run e2eX.dw nestedOps) 0).view 0) :=
  alignOK_of_alignOKb _ (by decide +kernel)
theorem nhn : 1 ≤ ((run e2eX.dw nestedOps).table 0).nColumns := by decide +kernel
theorem nhF : FitItemsW e2eX.dw nestedOps := by decide +kernel

end C03hExample
end Tab
