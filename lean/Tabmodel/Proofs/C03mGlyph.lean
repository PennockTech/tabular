/-
  The glyph side of C03m: from the regenerated glyph-width table to `GlyphOK dw` / `BoxlessOK`, the glyph
  fields `Populate` produces, and the junction conditions (`GlyphJunctions`) of decorations whose glyphs are
  single box-drawing code points, as those of the built-in ones are.
-/
import Tabmodel.Props.C03Decor
import Tabmodel.Proofs.TextFinal
import Tabmodel.Proofs.C03mRunes
namespace Tab
open Generated

/-- the table of the library's own glyph measurements agrees with `dw` -/
def TableAgrees (dw : Measure) : Prop := ∀ p ∈ glyphWidths, dw p.1 = p.2

theorem measured_sound (dw : Measure) (hT : TableAgrees dw) (g : Bytes) (k : Nat)
    (h : measured g = some k) : dw g = k := by
  unfold measured at h
  cases hf : glyphWidths.find? (fun p => p.1 == g) with
  | none => rw [hf] at h; cases h
  | some p =>
    rw [hf] at h
    have hk : p.2 = k := by simpa using h
    have hmem : p ∈ glyphWidths := List.mem_of_find?_eq_some hf
    have hp : p.1 = g := by simpa using List.find?_some hf
    rw [← hp, ← hk]
    exact hT p hmem

/-- the 18 glyph fields in the order `GlyphOK` lists them -/
def glyphOKFields (d : Decoration) : List Bytes :=
  [d.topLeft, d.hOuter, d.hTopDown, d.topRight, d.hBLeft, d.hBCross, d.hBRight, d.bTopDown,
   d.bottomLeft, d.bBottomUp, d.bottomRight, d.leftBodyRule, d.hRule, d.crossPiece, d.rightBodyRule,
   d.vHeader, d.vBodyBorder, d.vBodyInner]

/-- `renderGlyphs` lists the same 18 fields in another order -/
theorem forall_renderGlyphs (d : Decoration) (P : Bytes → Prop) :
    (∀ g ∈ renderGlyphs d, P g) ↔ ∀ g ∈ glyphOKFields d, P g := by
  simp only [renderGlyphs, glyphOKFields, List.forall_mem_cons]
  constructor
  · rintro ⟨x, ho, hr, vh, vbb, vbi, tl, tr, bl, br, lb, rb, htd, btd, bbu, hbc, hbl, hbr, h0⟩
    exact ⟨tl, ho, htd, tr, hbl, hbc, hbr, btd, bl, bbu, br, lb, hr, x, rb, vh, vbb, vbi, h0⟩
  · rintro ⟨tl, ho, htd, tr, hbl, hbc, hbr, btd, bl, bbu, br, lb, hr, x, rb, vh, vbb, vbi, h0⟩
    exact ⟨x, ho, hr, vh, vbb, vbi, tl, tr, bl, br, lb, rb, htd, btd, bbu, hbc, hbl, hbr, h0⟩

theorem glyphOK_iff (dw : Measure) (d : Decoration) :
    GlyphOK dw d ↔ d.isBoxless = false ∧ ∀ g ∈ renderGlyphs d, g ≠ [] ∧ dw g = 1 := by
  rw [forall_renderGlyphs]
  exact ⟨fun h => ⟨h.boxed, fun g hg => ⟨h.ne g hg, h.one g hg⟩⟩,
    fun h => ⟨h.1, fun g hg => (h.2 g hg).1, fun g hg => (h.2 g hg).2⟩⟩

theorem glyphOK_of_glyphOKBy (dw : Measure) (hT : TableAgrees dw) (d : Decoration)
    (hb : d.isBoxless = false) (h : glyphOKBy d = true) : GlyphOK dw d := by
  rw [glyphOK_iff]
  refine ⟨hb, fun g hg => ?_⟩
  unfold glyphOKBy at h
  rw [List.all_eq_true] at h
  have := h g hg
  simp only [Bool.and_eq_true, bne_iff_ne, ne_eq, beq_iff_eq] at this
  exact ⟨this.1, measured_sound dw hT g 1 this.2⟩

theorem boxlessOK_of_all_empty (d : Decoration) (hb : d.isBoxless = true)
    (h : (renderGlyphs d).all (· == []) = true) : BoxlessOK d := by
  simp only [renderGlyphs, List.all_cons, Bool.and_eq_true, beq_iff_eq] at h
  exact ⟨hb, h.2.2.2.1, h.2.2.2.2.1, h.2.2.2.2.2.1⟩

/-! ### Populate: where each render glyph comes from -/

theorem dflt_cases (x src : Bytes) : (dflt x src = x ∧ x ≠ []) ∨ (dflt x src = src ∧ x = []) := by
  unfold dflt
  split
  · rename_i h; left; exact ⟨rfl, fun e => by rw [e] at h; simp at h⟩
  · rename_i h; right; exact ⟨rfl, by
      cases x with
      | nil => rfl
      | cons a t => simp at h⟩

/-- every field of the record, as written by the caller -/
def Decoration.fields (d : Decoration) : List Bytes :=
  [d.horizontal, d.vertical, d.crossPiece, d.topDown, d.vBorder, d.hOuter, d.hRule, d.vHeader,
   d.vBodyBorder, d.vBodyInner, d.topLeft, d.topRight, d.bottomLeft, d.bottomRight, d.leftBodyRule,
   d.rightBodyRule, d.hTopDown, d.bTopDown, d.bBottomUp, d.hBCross, d.hBLeft, d.hBRight]

theorem dflt_mem (x src : Bytes) (S : List Bytes) (hx : x ≠ [] → x ∈ S) (hs : src ∈ S) :
    dflt x src ∈ S := by
  rcases dflt_cases x src with ⟨e, hne⟩ | ⟨e, _⟩
  · rw [e]; exact hx hne
  · rw [e]; exact hs

/-- where a render glyph of a populated decoration can come from: a non-empty field the caller
    wrote, or one of the three built-in defaults "H", "V", "X" -/
def populateSources (d : Decoration) : List Bytes :=
  d.fields.filter (fun x => x != []) ++ [[72], [86], [88]]

theorem populate_sources (d : Decoration) : ∀ g ∈ renderGlyphs d.populate, g ∈ populateSources d := by
  have hf : ∀ x ∈ d.fields, x ≠ [] → x ∈ populateSources d := fun x hx hne =>
    List.mem_append_left _ (List.mem_filter.mpr ⟨hx, by simpa using hne⟩)
  have hs : ∀ s ∈ [[72], [86], [88]], s ∈ populateSources d := fun s hs => List.mem_append_right _ hs
  simp only [Decoration.fields, List.forall_mem_cons] at hf hs
  obtain ⟨fH, fV, fX, fTD, fVB, fHO, fHR, fVH, fVBB, fVBI, fTL, fTR, fBL, fBR, fLB, fRB, fHTD, fBTD, fBBU,
    fHBC, fHBL, fHBR, -⟩ := hf
  -- the fields other fields default to, in the order `Populate` fills them
  have hH := dflt_mem _ _ _ fH hs.1
  have hV := dflt_mem _ _ _ fV hs.2.1
  have hX := dflt_mem _ _ _ fX hs.2.2.1
  have hTD := dflt_mem _ _ _ fTD hX
  have hVB := dflt_mem _ _ _ fVB hV
  have hLB := dflt_mem _ _ _ fLB hX
  have hRB := dflt_mem _ _ _ fRB hX
  simp only [renderGlyphs, Decoration.populate, List.forall_mem_cons]
  exact ⟨hX, dflt_mem _ _ _ fHO hH, dflt_mem _ _ _ fHR hH, dflt_mem _ _ _ fVH hVB, dflt_mem _ _ _ fVBB hVB,
    dflt_mem _ _ _ fVBI hV, dflt_mem _ _ _ fTL hX, dflt_mem _ _ _ fTR hX, dflt_mem _ _ _ fBL hX,
    dflt_mem _ _ _ fBR hX, hLB, hRB, dflt_mem _ _ _ fHTD hTD, dflt_mem _ _ _ fBTD hTD,
    dflt_mem _ _ _ fBBU hX, dflt_mem _ _ _ fHBC hX, dflt_mem _ _ _ fHBL hLB, dflt_mem _ _ _ fHBR hRB,
    fun _ h => (List.not_mem_nil h).elim⟩

/-! ### glyph junctions -/

/-- code points that neither attach to a neighbour nor are attached to: space, `+ - |`, and the
    box-drawing block U+2500–U+257F -/
def boxCp (c : Nat) : Bool :=
  c == 32 || c == 43 || c == 45 || c == 124 || (0x2500 ≤ c && c ≤ 0x257F)

def glyphsAreBoxCp (d : Decoration) : Bool :=
  (renderGlyphs d).all (fun g => match cpOfExact g with | some c => boxCp c | none => false)

/-- regenerated fact: every glyph of every boxed built-in is one code point of `boxCp` -/
theorem builtins_boxCp : ∀ p ∈ builtins, p.2.isBoxless = false → glyphsAreBoxCp p.2 = true := by decide

theorem glyphJunctions_of_boxCp (e s : Nat → Bool) (d : Decoration) (hd : glyphsAreBoxCp d = true)
    (hes : ∀ c, boxCp c = true → e c = true ∧ s c = true) : GlyphJunctions (Junction.cps e s) d := by
  -- a string that is one `boxCp` code point may stand on either side of an accepted boundary
  have hcp : ∀ g c, cpOfExact g = some c → boxCp c = true → endsCp e g = true ∧ startsCp s g = true :=
    fun g c hc hb => ⟨endsCp_of_exact e g c hc (hes c hb).1, startsCp_of_exact s g c hc (hes c hb).2⟩
  have ok : ∀ {a b : Bytes}, endsCp e a = true ∧ startsCp s a = true →
      endsCp e b = true ∧ startsCp s b = true → (Junction.cps e s).ok a b := fun ha hb => ⟨ha.1, hb.2⟩
  have sp := hcp [SP] 32 (by decide) (by decide)
  have hG : ∀ g ∈ renderGlyphs d, endsCp e g = true ∧ startsCp s g = true := by
    intro g hg
    have := List.all_eq_true.mp hd g hg
    cases hc : cpOfExact g with
    | none => rw [hc] at this; cases this
    | some c => rw [hc] at this; exact hcp g c hc this
  simp only [renderGlyphs, List.forall_mem_cons] at hG
  obtain ⟨x, ho, hr, vh, vbb, vbi, tl, tr, bl, br, lb, rb, htd, btd, bbu, hbc, hbl, hbr, -⟩ := hG
  refine ⟨ok sp sp, ?_, ?_⟩
  · simp only [List.forall_mem_cons]
    exact ⟨⟨ok vh sp, ok sp vh⟩, ⟨ok vbb sp, ok sp vbb⟩, ⟨ok vbi sp, ok sp vbi⟩,
      fun _ h => (List.not_mem_nil h).elim⟩
  · simp only [ruleGlyphs, List.forall_mem_cons]
    exact ⟨⟨ok tl ho, ok ho ho, ok ho htd, ok htd ho, ok ho tr⟩,
      ⟨ok hbl ho, ok ho ho, ok ho hbc, ok hbc ho, ok ho hbr⟩,
      ⟨ok tl ho, ok ho ho, ok ho btd, ok btd ho, ok ho tr⟩,
      ⟨ok bl ho, ok ho ho, ok ho bbu, ok bbu ho, ok ho br⟩,
      ⟨ok lb hr, ok hr hr, ok hr x, ok x hr, ok hr rb⟩, fun _ h => (List.not_mem_nil h).elim⟩

def rangesAvoidBox (rs : List (Nat × Nat)) : Bool :=
  rs.all (fun r => !(r.1 ≤ 32 && 32 ≤ r.2) && !(r.1 ≤ 43 && 43 ≤ r.2) && !(r.1 ≤ 45 && 45 ≤ r.2) &&
    !(r.1 ≤ 124 && 124 ≤ r.2) && (r.2 < 0x2500 || 0x257F < r.1))

theorem inRanges_box (rs : List (Nat × Nat)) (h : rangesAvoidBox rs = true) (c : Nat)
    (hc : boxCp c = true) : inRanges rs c = false := by
  unfold inRanges
  rw [List.any_eq_false]
  intro r hr
  unfold rangesAvoidBox at h
  rw [List.all_eq_true] at h
  have h' := h r hr
  simp only [boxCp, Bool.or_eq_true, Bool.and_eq_true, beq_iff_eq, decide_eq_true_eq] at hc
  simp only [Bool.and_eq_true, Bool.not_eq_true', Bool.and_eq_false_iff, decide_eq_false_iff_not,
    Bool.or_eq_true, decide_eq_true_eq] at h' ⊢
  omega

theorem boxCp_clusters (jp jn : List (Nat × Nat)) (h1 : rangesAvoidBox jp = true)
    (h2 : rangesAvoidBox jn = true) :
    ∀ c, boxCp c = true → (!inRanges jn c) = true ∧ (!inRanges jp c) = true := by
  intro c hc
  rw [inRanges_box jn h2 c hc, inRanges_box jp h1 c hc]
  exact ⟨rfl, rfl⟩

end Tab
