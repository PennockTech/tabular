/- Helper lemmas about splitLF / joinLF / lines / maxOf / runeCount. -/
import Tabmodel.Model.Bytes
namespace Tab

theorem splitLF_ne_nil (s : Bytes) : splitLF s ≠ [] := by
  fun_cases splitLF s
  all_goals exact List.cons_ne_nil _ _

theorem splitLF_cons_LF (bs : Bytes) : splitLF (LF :: bs) = [] :: splitLF bs := by
  simp [splitLF]

theorem splitLF_cons_ne {b : UInt8} (h : b ≠ LF) (bs : Bytes) :
    ∃ l ls, splitLF bs = l :: ls ∧ splitLF (b :: bs) = (b :: l) :: ls := by
  cases hs : splitLF bs with
  | nil => exact absurd hs (splitLF_ne_nil bs)
  | cons l ls => exact ⟨l, ls, rfl, by simp [splitLF, h, hs]⟩

theorem joinLF_cons_cons (l l' : Bytes) (ls : List Bytes) :
    joinLF (l :: l' :: ls) = l ++ LF :: joinLF (l' :: ls) := rfl

theorem joinLF_cons_of_ne_nil (l : Bytes) {ls : List Bytes} (h : ls ≠ []) :
    joinLF (l :: ls) = l ++ LF :: joinLF ls := by
  cases ls with
  | nil => exact absurd rfl h
  | cons l' ls => rfl

theorem joinLF_splitLF (s : Bytes) : joinLF (splitLF s) = s := by
  fun_induction splitLF s with
  | case1 => rfl
  | case2 bs ih => rw [joinLF_cons_of_ne_nil _ (splitLF_ne_nil bs), ih]; rfl
  | case3 b bs _ hs => exact absurd hs (splitLF_ne_nil bs)
  | case4 b bs _ l ls hs ih =>
    rw [hs] at ih
    rw [← ih]
    cases ls with
    | nil => rfl
    | cons l' ls => rfl

theorem splitLF_noLF (s : Bytes) : ∀ l ∈ splitLF s, LF ∉ l := by
  fun_induction splitLF s with
  | case1 => exact List.forall_mem_cons.mpr ⟨List.not_mem_nil, fun _ h => absurd h List.not_mem_nil⟩
  | case2 bs ih => exact List.forall_mem_cons.mpr ⟨List.not_mem_nil, ih⟩
  | case3 b bs _ hs => exact absurd hs (splitLF_ne_nil bs)
  | case4 b bs hb l ls hs ih =>
    rw [hs] at ih
    obtain ⟨hl, hls⟩ := List.forall_mem_cons.mp ih
    exact List.forall_mem_cons.mpr ⟨fun hm => (List.mem_cons.mp hm).elim (fun e => hb e.symm) hl, hls⟩

theorem joinLF_append_nil_seg {init : List Bytes} (h : init ≠ []) :
    joinLF (init ++ [[]]) = joinLF init ++ [LF] := by
  induction init with
  | nil => exact absurd rfl h
  | cons l ls ih =>
    cases ls with
    | nil => rfl
    | cons l' ls =>
      rw [List.cons_append, List.cons_append, joinLF_cons_cons, joinLF_cons_cons, ← List.cons_append,
        ih (List.cons_ne_nil _ _), List.append_assoc, List.cons_append]

theorem lines_cases (s : Bytes) :
    (lines s = splitLF s ∧ (splitLF s).getLast? ≠ some []) ∨
    (splitLF s = lines s ++ [[]]) := by
  unfold lines
  simp only []
  split
  · next h =>
    obtain ⟨ys, hys⟩ := List.getLast?_eq_some_iff.mp h
    right
    rw [hys, List.dropLast_concat]
  · next h => exact .inl ⟨rfl, h⟩

theorem splitLF_line (l rest : Bytes) (h : LF ∉ l) : splitLF (l ++ LF :: rest) = l :: splitLF rest := by
  induction l with
  | nil => simp [splitLF]
  | cons b l ih =>
    have hb : b ≠ LF := fun e => h (by simp [e])
    have hl : LF ∉ l := fun e => h (by simp [e])
    simp only [List.cons_append]
    rw [splitLF]
    simp [hb, ih hl]

theorem splitLF_lines (ls : List Bytes) (h : ∀ l ∈ ls, LF ∉ l) :
    splitLF ((ls.map (· ++ [LF])).flatten) = ls ++ [[]] := by
  induction ls with
  | nil => simp [splitLF]
  | cons l ls ih =>
    simp only [List.map_cons, List.flatten_cons, List.append_assoc, List.cons_append]
    rw [splitLF_line _ _ (h l (by simp))]
    simp only [List.nil_append]
    rw [ih (fun m hm => h m (by simp [hm]))]

theorem lines_flatten (ls : List Bytes) (h : ∀ l ∈ ls, LF ∉ l) :
    lines ((ls.map (· ++ [LF])).flatten) = ls := by
  unfold lines
  rw [splitLF_lines ls h]
  simp

theorem splitLF_singleton {t l : Bytes} (h : splitLF t = [l]) : l = t := by
  have := joinLF_splitLF t
  rw [h] at this
  exact this

theorem hasSuffixLF_cons_cons (b c : UInt8) (cs : Bytes) :
    hasSuffixLF (b :: c :: cs) = hasSuffixLF (c :: cs) := by
  rw [hasSuffixLF, List.getLast?_cons_cons]; rfl

theorem hasSuffixLF_iff (s : Bytes) (hs : s ≠ []) :
    hasSuffixLF s = true ↔ (splitLF s).getLast? = some [] := by
  induction s with
  | nil => exact absurd rfl hs
  | cons b bs ih =>
    cases bs with
    | nil =>
      by_cases h : b = LF
      · subst h; decide
      · simp [hasSuffixLF, splitLF, h]
    | cons c cs =>
      rw [hasSuffixLF_cons_cons, ih (List.cons_ne_nil c cs)]
      by_cases h : b = LF
      · subst h
        rw [splitLF_cons_LF, List.getLast?_cons_of_ne_nil (splitLF_ne_nil _)]
      · obtain ⟨l, ls, h1, h2⟩ := splitLF_cons_ne h (c :: cs)
        rw [h2, h1]
        cases ls with
        | nil =>
          -- the one segment is all of `c :: cs`, not empty; nor is `b :: c :: cs`
          cases splitLF_singleton h1
          simp
        | cons l' ls' => rw [List.getLast?_cons_cons, List.getLast?_cons_cons]

theorem length_splitLF (s : Bytes) : (splitLF s).length = countLF s + 1 := by
  fun_induction splitLF s with
  | case1 => rfl
  | case2 bs ih => rw [List.length_cons, ih, countLF, countLF, List.count_cons_self]
  | case3 b bs _ hs => exact absurd hs (splitLF_ne_nil bs)
  | case4 b bs hb l ls hs ih =>
    rw [hs] at ih
    rw [countLF, List.count_cons_of_ne hb, ← countLF, ← ih]; rfl

/-- the number of lines is what `Update` computes: 1 + count of LF, minus one for a trailing LF -/
theorem lines_length (s : Bytes) (hs : s ≠ []) :
    (lines s).length = 1 + countLF s - (if hasSuffixLF s then 1 else 0) := by
  have hlen := length_splitLF s
  rcases lines_cases s with ⟨h, hlast⟩ | h
  · have : hasSuffixLF s = false := by
      cases hh : hasSuffixLF s with
      | false => rfl
      | true => exact absurd ((hasSuffixLF_iff s hs).1 hh) hlast
    rw [h, this, hlen, Nat.add_comm]; rfl
  · have : hasSuffixLF s = true := (hasSuffixLF_iff s hs).2 (by rw [h, List.getLast?_concat])
    rw [this, if_pos rfl, Nat.add_comm 1, ← hlen, h, List.length_append]; rfl

/-- `Update`'s line count is at least 1: the LF it subtracts for a trailing newline is one it counted -/
theorem lines_pos (str : Bytes) :
    1 ≤ 1 + countLF str - (if hasSuffixLF str then 1 else 0) := by
  cases hsuf : hasSuffixLF str with
  | false => exact Nat.le_add_right 1 _
  | true =>
    have hm : LF ∈ str := List.mem_of_getLast? (eq_of_beq hsuf)
    rw [if_pos rfl, Nat.add_sub_cancel_left]
    exact List.count_pos_iff.2 hm

/-- The running maximum as the code writes it (`if x > m { m = x }`), started from `a`: it bounds `a`
    and every `f x`, and it is one of these values. -/
theorem foldl_ite_max_spec {α : Type} (f : α → Nat) (xs : List α) (a : Nat) :
    a ≤ xs.foldl (fun m x => if f x > m then f x else m) a ∧
    (∀ x ∈ xs, f x ≤ xs.foldl (fun m x => if f x > m then f x else m) a) ∧
    (xs.foldl (fun m x => if f x > m then f x else m) a = a ∨
      ∃ x ∈ xs, xs.foldl (fun m x => if f x > m then f x else m) a = f x) := by
  induction xs generalizing a with
  | nil => exact ⟨Nat.le_refl a, fun _ h => absurd h List.not_mem_nil, .inl rfl⟩
  | cons x xs ih =>
    rw [List.foldl_cons]
    -- one step yields `a'`, the larger of `a` and `f x`; the rest of the loop starts from `a'`
    have step : ∀ a', (if f x > a then f x else a) = a' → a ≤ a' ∧ f x ≤ a' ∧ (a' = a ∨ a' = f x) := by
      intro a' e
      subst e
      split
      · next h => exact ⟨Nat.le_of_lt h, Nat.le_refl _, .inr rfl⟩
      · next h => exact ⟨Nat.le_refl _, Nat.not_lt.mp h, .inl rfl⟩
    generalize (if f x > a then f x else a) = a' at step
    obtain ⟨ha, hx, hor⟩ := step a' rfl
    obtain ⟨ge, mem, att⟩ := ih a'
    refine ⟨Nat.le_trans ha ge, List.forall_mem_cons.mpr ⟨Nat.le_trans hx ge, mem⟩, ?_⟩
    rcases att with e | ⟨y, hy, e⟩
    · rcases hor with e' | e'
      · exact .inl (e.trans e')
      · exact .inr ⟨x, List.mem_cons_self, e.trans e'⟩
    · exact .inr ⟨y, List.mem_cons_of_mem _ hy, e⟩

private theorem ite_bounds {c : Prop} [Decidable c] {a b lo hi : Nat}
    (ha : lo ≤ a ∧ a ≤ hi) (hb : lo ≤ b ∧ b ≤ hi) :
    lo ≤ (if c then a else b) ∧ (if c then a else b) ≤ hi := by
  split
  · exact ha
  · exact hb

/-- Every leaf of the decoder's decision tree is one of the literals 1, 2, 3, 4: the proof walks
    the tree once, a conditional at a time, and never looks at a condition. -/
theorem runeLen_cons_bounds (b : UInt8) (bs : Bytes) :
    1 ≤ runeLen (b :: bs) ∧ runeLen (b :: bs) ≤ 4 := by
  have one : 1 ≤ 1 ∧ 1 ≤ 4 := by omega
  unfold runeLen
  refine ite_bounds one (ite_bounds one (ite_bounds ?_ (ite_bounds ?_ (ite_bounds ?_ one))))
  · match bs with
    | [] => exact one
    | _ :: _ => exact ite_bounds (by omega) one
  · match bs with
    | [] | [_] => exact one
    | _ :: _ :: _ => exact ite_bounds (by omega) one
  · match bs with
    | [] | [_] | [_, _] => exact one
    | _ :: _ :: _ :: _ => exact ite_bounds (by omega) one

theorem runeLen_pos (b : UInt8) (bs : Bytes) : 1 ≤ runeLen (b :: bs) :=
  (runeLen_cons_bounds b bs).1

theorem runeLen_le_four (s : Bytes) : runeLen s ≤ 4 := by
  cases s with
  | nil => exact Nat.zero_le 4
  | cons b bs => exact (runeLen_cons_bounds b bs).2

theorem length_drop_runeLen (b : UInt8) (bs : Bytes) :
    ((b :: bs).drop (runeLen (b :: bs))).length ≤ bs.length := by
  have := runeLen_pos b bs
  rw [List.length_drop, List.length_cons]; omega

theorem runeCountFuel_le (fuel : Nat) (s : Bytes) : runeCountFuel fuel s ≤ s.length := by
  induction fuel generalizing s with
  | zero => exact Nat.zero_le _
  | succ n ih =>
    cases s with
    | nil => exact Nat.zero_le _
    | cons b bs =>
      have h1 := ih ((b :: bs).drop (runeLen (b :: bs)))
      have h2 := length_drop_runeLen b bs
      rw [runeCountFuel, List.length_cons]; omega

end Tab
