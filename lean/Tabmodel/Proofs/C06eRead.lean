/-
  C06e helpers: what the readers of Proofs/C06eSpec.lean return on the expected token list `skeleton`.
-/
import Tabmodel.Proofs.C06eSpec
namespace Tab
attribute [local instance] lawfulBEq_uint8
namespace C06e

/-! ### classification of the skeleton's tokens -/

/-- a token both row readers skip -/
def Other (t : HTok) : Prop := isTrOpen t = false ∧ isCellOpen t = false

theorem other_text (s : Bytes) : Other (.text s) := ⟨rfl, rfl⟩

/-- the literal tags of the skeleton other than `<th>` and `<td>`; with `other_text` and
    `readGo_cons_other` a rewriting set that passes over the tokens between the cells -/
theorem other_lits :
    Other (.tag (bytesOfString "<caption>")) ∧ Other (.tag (bytesOfString "</caption>")) ∧
    Other (.tag (bytesOfString "<thead>")) ∧ Other (.tag (bytesOfString "</thead>")) ∧
    Other (.tag (bytesOfString "<tbody>")) ∧ Other (.tag (bytesOfString "</tbody>")) ∧
    Other (.tag (bytesOfString "</table>")) ∧ Other (.tag (bytesOfString "</tr>")) ∧
    Other (.tag (bytesOfString "</th>")) ∧ Other (.tag (bytesOfString "</td>")) := by
  simp only [Other, isTrOpen, isCellOpen, html_lits]
  decide

theorem other_tableOpen (cfg : HtmlCfg) : Other (.tag (tableOpenTag cfg)) := by
  have h := tableOpenTag_not_lit cfg
  simp only [fixedLiteralTags, List.mem_cons, not_or] at h
  exact ⟨isTrOpen_tableOpenTag cfg, by simp [isCellOpen, h]⟩

theorem cell_open (tag : String) (htag : tag = "th" ∨ tag = "td") :
    isTrOpen (.tag (bytesOfString ("<" ++ tag ++ ">"))) = false ∧
    isCellOpen (.tag (bytesOfString ("<" ++ tag ++ ">"))) = true := by
  rcases htag with rfl | rfl <;> simp only [cell_tag_lits, isTrOpen, isCellOpen, html_lits] <;> decide

theorem cell_close_other (tag : String) (htag : tag = "th" ∨ tag = "td") :
    Other (.tag (bytesOfString ("</" ++ tag ++ ">"))) := by
  rcases htag with rfl | rfl <;> simp only [cell_tag_lits, other_lits]

/-! ### `readGo` -/

theorem readGo_cons_other {t : HTok} (h : Other t) (rest : List HTok) : readGo (t :: rest) = readGo rest := by
  simp only [readGo, h.1, h.2, Bool.false_eq_true, if_false]

theorem readGo_append_other (A : List HTok) (h : ∀ t ∈ A, Other t) (rest : List HTok) :
    readGo (A ++ rest) = readGo rest := by
  induction A with
  | nil => rfl
  | cons t A ih =>
    rw [List.cons_append, readGo_cons_other (h t (by simp)), ih (fun u hu => h u (by simp [hu]))]

theorem readGo_cons_tr {t : HTok} (h : isTrOpen t = true) (rest : List HTok) :
    readGo (t :: rest) = ([], (readGo rest).1 :: (readGo rest).2) := by
  simp only [readGo, h, if_true]

theorem readGo_cons_cell {t : HTok} (h1 : isTrOpen t = false) (h2 : isCellOpen t = true) (rest : List HTok) :
    readGo (t :: rest) = (nextText rest :: (readGo rest).1, (readGo rest).2) := by
  simp only [readGo, h1, h2, Bool.false_eq_true, if_false, if_true]

theorem readGo_cellToks (tag : String) (htag : tag = "th" ∨ tag = "td") (c : RCell) (rest : List HTok) :
    readGo (cellToks tag c ++ rest) = (htmlEscape c.text :: (readGo rest).1, (readGo rest).2) := by
  obtain ⟨h1, h2⟩ := cell_open tag htag
  have h3 := cell_close_other tag htag
  unfold cellToks textTok
  by_cases he : htmlEscape c.text = []
  · simp only [he, if_true, List.append_nil, List.cons_append, List.nil_append]
    rw [readGo_cons_cell h1 h2, readGo_cons_other h3]
    rfl
  · simp only [he, if_false, List.cons_append, List.nil_append]
    rw [readGo_cons_cell h1 h2, readGo_cons_other (other_text _), readGo_cons_other h3]
    rfl

theorem readGo_cells (tag : String) (htag : tag = "th" ∨ tag = "td") (cells : List RCell) (rest : List HTok) :
    readGo (cells.flatMap (cellToks tag) ++ rest) =
      (cells.map (fun c => htmlEscape c.text) ++ (readGo rest).1, (readGo rest).2) := by
  induction cells with
  | nil => rfl
  | cons c cs ih =>
    rw [List.flatMap_cons, List.append_assoc, readGo_cellToks tag htag, ih]
    rfl

theorem readGo_rowToks (cfg : HtmlCfg) (n : Nat) (tag : String) (htag : tag = "th" ∨ tag = "td")
    (cells : List RCell) (rest : List HTok) :
    readGo (rowToks cfg n tag cells ++ rest) =
      ([], (cells.map (fun c => htmlEscape c.text) ++ (readGo rest).1) :: (readGo rest).2) := by
  unfold rowToks
  simp only [List.append_assoc, List.cons_append, List.nil_append]
  rw [readGo_cons_other (other_text _), readGo_cons_tr (isTrOpen_trOpenTag cfg n), readGo_cells tag htag]
  simp only [readGo_cons_other, other_lits]

theorem readGo_body (cfg : HtmlCfg) (F : Option (List RCell) × Nat → List HTok)
    (hF0 : ∀ i, F (none, i) = []) (hF1 : ∀ cells i, F (some cells, i) = rowToks cfg (i + 1) "td" cells)
    (l : List (Option (List RCell) × Nat)) (rest : List HTok)
    (hrest : (readGo rest).1 = []) :
    readGo (l.flatMap F ++ rest) =
      ([], (l.filterMap (·.1)).map (·.map (fun c => htmlEscape c.text)) ++ (readGo rest).2) := by
  induction l with
  | nil =>
    simp only [List.flatMap_nil, List.nil_append, List.filterMap_nil, List.map_nil]
    rw [← hrest]
  | cons p l ih =>
    obtain ⟨r, i⟩ := p
    cases r with
    | none =>
      simp only [List.flatMap_cons, hF0, List.nil_append, List.filterMap_cons]
      exact ih
    | some cells =>
      simp only [List.flatMap_cons, hF1, List.append_assoc, List.filterMap_cons, List.map_cons, List.cons_append]
      rw [readGo_rowToks cfg (i + 1) "td" (Or.inr rfl), ih]
      simp

theorem readRows_skeleton (cfg : HtmlCfg) (v : RTable) :
    htmlReadRows (skeleton cfg v) =
      ((v.header.getD []) :: v.rows.filterMap id).map (·.map (fun c => htmlEscape c.text)) := by
  have hcap : ∀ t ∈ (if cfg.caption != [] then
      [HTok.text (bytesOfString "\n  "), .tag (bytesOfString "<caption>"),
       .text (htmlEscape cfg.caption), .tag (bytesOfString "</caption>")] else []), Other t := by
    split
    · simp only [List.forall_mem_cons, other_text, other_lits, true_and]
      exact fun _ h => nomatch h
    · exact fun _ h => nomatch h
  have htail : readGo [HTok.text (bytesOfString "\n  "), .tag (bytesOfString "</tbody>"),
      .text (bytesOfString "\n"), .tag (bytesOfString "</table>"), .text (bytesOfString "\n")] = ([], []) := by
    simp only [readGo_cons_other, other_text, other_lits]
    rfl
  unfold htmlReadRows skeleton
  simp only [List.append_assoc, List.cons_append, List.nil_append]
  rw [readGo_cons_other (other_tableOpen cfg), readGo_append_other _ hcap]
  -- the texts and literal tags around the header row are passed over
  simp only [readGo_cons_other, other_text, other_lits, readGo_rowToks cfg 0 "th" (Or.inl rfl)]
  rw [readGo_body cfg _ (fun _ => rfl) (fun _ _ => rfl) _ _ (by rw [htail]), htail, filterMap_fst_zipIdx]
  simp

/-! ### the caption -/

theorem readCaption_of_not_mem (l : List HTok) (h : .tag (bytesOfString "<caption>") ∉ l) :
    htmlReadCaption l = none := by
  induction l with
  | nil => rfl
  | cons t l ih =>
    rw [htmlReadCaption, if_neg (fun e => h (by simp [e])), ih (fun m => h (List.mem_cons_of_mem _ m))]

theorem readCaption_skeleton (cfg : HtmlCfg) (v : RTable) :
    htmlReadCaption (skeleton cfg v) =
      if cfg.caption != [] then some (htmlEscape cfg.caption) else none := by
  have hcap : bytesOfString "<caption>" ∈ fixedLiteralTags := by simp [fixedLiteralTags]
  by_cases hc : cfg.caption = []
  · -- no caption: none of the skeleton's tags is `<caption>`
    rw [readCaption_of_not_mem, if_neg (by simp [hc])]
    intro hm
    rcases tag_mem_skeleton cfg v _ hm with h | ⟨n, _, h⟩ | h | h
    · exact tableOpenTag_not_lit cfg (h ▸ hcap)
    · exact trOpenTag_not_lit cfg n (h ▸ hcap)
    · exact h.1 hc
    · revert h; simp only [fixedLiteralTags, html_lits]; decide
  · -- a caption: `<caption>` is the third token, after the `<table…>` tag and a text
    have hn : HTok.tag (tableOpenTag cfg) ≠ .tag (bytesOfString "<caption>") :=
      fun e => tableOpenTag_not_lit cfg (HTok.tag.inj e ▸ hcap)
    simp [skeleton, hc, htmlReadCaption, hn, nextText]

/-! ### attributes -/

theorem attrsGo_gap_skip (s rest : Bytes) (h : ∀ b ∈ s, b ≠ 32) :
    attrsGo .gap (s ++ rest) = attrsGo .gap rest := by
  induction s with
  | nil => rfl
  | cons b s ih =>
    rw [List.cons_append]
    simp only [attrsGo, if_neg (h b (by simp))]
    exact ih (fun c hc => h c (by simp [hc]))

theorem attrsGo_name (acc s rest : Bytes) (h : ∀ b ∈ s, b ≠ 61) :
    attrsGo (.name acc) (s ++ 61 :: rest) = attrsGo (.eq (acc ++ s)) rest := by
  induction s generalizing acc with
  | nil => simp [attrsGo]
  | cons b s ih =>
    rw [List.cons_append]
    simp only [attrsGo, if_neg (h b (by simp))]
    rw [ih _ (fun c hc => h c (by simp [hc]))]
    simp

theorem attrsGo_val (n acc s rest : Bytes) (h : ∀ b ∈ s, b ≠ 34) :
    attrsGo (.val n acc) (s ++ 34 :: rest) = (n, acc ++ s) :: attrsGo .gap rest := by
  induction s generalizing acc with
  | nil => simp [attrsGo]
  | cons b s ih =>
    rw [List.cons_append]
    simp only [attrsGo, if_neg (h b (by simp))]
    rw [ih _ (fun c hc => h c (by simp [hc]))]
    simp

theorem attrsGo_attr (name val rest : Bytes) (hn : ∀ b ∈ name, b ≠ 61) (hv : ∀ b ∈ val, b ≠ 34) :
    attrsGo .gap (32 :: (name ++ 61 :: 34 :: (val ++ 34 :: rest))) = (name, val) :: attrsGo .gap rest := by
  simp only [attrsGo, if_true]
  rw [attrsGo_name [] name _ hn]
  simp only [attrsGo, if_true]
  rw [attrsGo_val _ [] val rest hv]
  simp

theorem attrsGo_attrBytes (name val : Bytes) (pre : String) (hpre : bytesOfString pre = 32 :: (name ++ [61, 34]))
    (hn : ∀ b ∈ name, b ≠ 61) (rest : Bytes) :
    attrsGo .gap (attrBytes pre val ++ rest) = (name, htmlEscape val) :: attrsGo .gap rest := by
  have := attrsGo_attr name (htmlEscape val) rest hn (fun b hb => (htmlEscape_inert val b hb).2.2.1)
  unfold attrBytes
  simp only [hpre, html_lits]
  simpa using this

theorem attrsGo_optAttr (c : Prop) [Decidable c] (name val : Bytes) (pre : String)
    (hpre : bytesOfString pre = 32 :: (name ++ [61, 34])) (hn : ∀ b ∈ name, b ≠ 61) (rest : Bytes) :
    attrsGo .gap ((if c then attrBytes pre val else []) ++ rest) =
      (if c then [(name, htmlEscape val)] else []) ++ attrsGo .gap rest := by
  split
  · exact attrsGo_attrBytes name val pre hpre hn rest
  · rfl

theorem pre_class : bytesOfString " class=\"" = 32 :: (attrClass ++ [61, 34]) := by simp only [html_lits]; rfl
theorem pre_id : bytesOfString " id=\"" = 32 :: (attrId ++ [61, 34]) := by simp only [html_lits]; rfl

/-- after the tag name (no space in it) the scanner is still waiting; at the closing `>` it stops -/
theorem attrsGo_end : attrsGo .gap (bytesOfString ">") = [] := by simp only [html_lits]; simp [attrsGo]

theorem tagAttrs_tableOpen (cfg : HtmlCfg) :
    tagAttrs (tableOpenTag cfg) =
      (if cfg.cls != [] then [(attrClass, htmlEscape cfg.cls)] else []) ++
      (if cfg.id != [] then [(attrId, htmlEscape cfg.id)] else []) := by
  unfold tagAttrs tableOpenTag
  rw [List.append_assoc, List.append_assoc,
    attrsGo_gap_skip _ _ (by simp only [html_lits]; decide),
    attrsGo_optAttr _ attrClass _ _ pre_class (by decide), attrsGo_optAttr _ attrId _ _ pre_id (by decide),
    attrsGo_end, List.append_nil]

theorem tagAttrs_trOpen (cfg : HtmlCfg) (n : Nat) :
    tagAttrs (trOpenTag cfg n) =
      (match cfg.rowClass with
       | some f => [(attrClass, htmlEscape (f n))]
       | none => []) := by
  unfold tagAttrs trOpenTag
  rw [List.append_assoc, attrsGo_gap_skip _ _ (by simp only [html_lits]; decide)]
  cases cfg.rowClass with
  | none => exact attrsGo_end
  | some f => exact (attrsGo_attrBytes attrClass _ _ pre_class (by decide) _).trans (by rw [attrsGo_end])

theorem readTableAttrs_skeleton (cfg : HtmlCfg) (v : RTable) :
    htmlReadTableAttrs (skeleton cfg v) =
      (if cfg.cls != [] then [(attrClass, htmlEscape cfg.cls)] else []) ++
      (if cfg.id != [] then [(attrId, htmlEscape cfg.id)] else []) := by
  unfold skeleton
  simp only [List.append_assoc, List.cons_append, List.nil_append, htmlReadTableAttrs]
  exact tagAttrs_tableOpen cfg

/-! ### NUL -/

theorem nulToFFFD_length (s : Bytes) : (nulToFFFD s).length = s.length + 2 * s.count 0 := by
  induction s with
  | nil => rfl
  | cons b s ih =>
    unfold nulToFFFD at ih ⊢
    rw [List.flatMap_cons, List.length_append, ih, List.count_cons]
    by_cases hb : b = 0 <;> simp [hb] <;> omega

theorem nulFree_of_nulToFFFD {s : Bytes} (h : nulToFFFD s = s) : NulFree s := by
  have hl := nulToFFFD_length s
  rw [h] at hl
  have hc : s.count 0 = 0 := by omega
  intro b hb e
  subst e
  exact (List.count_eq_zero.mp hc) hb

end C06e
end Tab
