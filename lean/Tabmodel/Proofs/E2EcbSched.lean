/-
  The static schedule of a render pass.

  `passSteps w t` is the list of single callback invocations (callback, target, error taker) that
  `InvokeRenderCallbacks` on table `t` performs, computed from the world BEFORE the pass alone
  (list comprehensions over the world's contents, no traversal code).  `irc_sched`: whatever the
  callbacks are, the pass IS the left fold of `invokeOne` over that list — callbacks cannot change
  which callbacks run, on what, or where their errors go.
-/
import Tabmodel.Proofs.E2EcbCore
import Tabmodel.Proofs.Traverse
namespace Tab

structure Step where
  cb : Cb
  tgt : Target
  tk : Taker
  deriving DecidableEq, Repr

/-- `invokePropertyCallbacks(list, owner, taker)` as steps -/
def stepsOf (cbs : List Cb) (tgt : Target) (tk : Taker) : List Step := cbs.map (fun cb => ⟨cb, tgt, tk⟩)

namespace World

def runSteps (dw : Measure) (w : World) (ss : List Step) : World :=
  ss.foldl (fun w s => invokeOne dw w s.cb s.tgt s.tk) w

/-- the eight calls on cell `i` of row `r`, in the documented order; errors of the column's cell
    callbacks go to the row's container, all others to the table -/
def cellSteps (w : World) (t r i : Nat) : List Step :=
  let tgt := Target.cell r i
  stepsOf ((w.table t).cellCbs.at .pre) tgt (.table t) ++
  stepsOf (colCellCbs w (columnOf w r i) .pre) tgt (rowECTaker w r) ++
  stepsOf ((w.row r).cellCbs.at .pre) tgt (.table t) ++
  stepsOf ((w.table t).cellCbs.at .render) tgt (.table t) ++
  stepsOf (((w.cell? r i).map (·.cbs.at .render)).getD []) tgt (.table t) ++
  stepsOf ((w.row r).cellCbs.at .post) tgt (.table t) ++
  stepsOf (colCellCbs w (columnOf w r i) .post) tgt (rowECTaker w r) ++
  stepsOf ((w.table t).cellCbs.at .post) tgt (.table t)

def rowSteps (w : World) (t r : Nat) : List Step :=
  stepsOf ((w.row r).selfCbs.at .pre) (.row r) (.table t) ++
  (List.range (w.rowCells r).length).flatMap (cellSteps w t r) ++
  stepsOf ((w.row r).selfCbs.at .post) (.row r) (.table t)

def colSteps (w : World) (t : Nat) (tm : Time) (j : Nat) : List Step :=
  stepsOf (((w.column? t j).map (·.selfCbs.at tm)).getD []) (.column t j) (.table t)

/-- every column record itself, the defaults column 0 first -/
def colsSteps (w : World) (t : Nat) (tm : Time) : List Step :=
  (List.range (w.table t).columns.length).flatMap (colSteps w t tm)

def passRows (w : World) (t : Nat) : List Nat := (w.table t).header.toList ++ (w.table t).rows

def passSteps (w : World) (t : Nat) : List Step :=
  stepsOf ((w.table t).selfCbs.at .pre) (.table t) (.table t) ++
  colsSteps w t .pre ++
  (passRows w t).flatMap (rowSteps w t) ++
  colsSteps w t .post ++
  stepsOf ((w.table t).selfCbs.at .post) (.table t) (.table t)

end World

namespace E2Ecb
open World

theorem runSteps_nil (dw : Measure) (w : World) : runSteps dw w [] = w := rfl

theorem runSteps_append (dw : Measure) (w : World) (a b : List Step) :
    runSteps dw w (a ++ b) = runSteps dw (runSteps dw w a) b := by
  unfold runSteps; rw [List.foldl_append]

theorem runSteps_cons (dw : Measure) (w : World) (s : Step) (ss : List Step) :
    runSteps dw w (s :: ss) = runSteps dw (invokeOne dw w s.cb s.tgt s.tk) ss := rfl

theorem invoke_eq_runSteps (dw : Measure) (w : World) (cbs : List Cb) (tgt : Target) (tk : Taker) :
    invoke dw w cbs tgt tk = runSteps dw w (stepsOf cbs tgt tk) := by
  unfold invoke runSteps stepsOf
  rw [List.foldl_map]

theorem runSteps_frame {P : World → Prop} (dw : Measure) (ss : List Step)
    (h : ∀ s ∈ ss, ∀ w, P w → P (invokeOne dw w s.cb s.tgt s.tk)) (w : World) (h0 : P w) :
    P (runSteps dw w ss) := by
  induction ss generalizing w with
  | nil => exact h0
  | cons s ss ih =>
    exact ih (fun s' hs' => h s' (List.mem_cons_of_mem _ hs')) _ (h s List.mem_cons_self w h0)

theorem runSteps_keeps {P : World → Prop} (dw : Measure) (ss : List Step)
    (hev : ∀ w es, P w → P ({ w with events := es } : World))
    (hset : ∀ s ∈ ss, ∀ w k v, P w → P (w.setProp s.tgt k v))
    (herr : ∀ s ∈ ss, ∀ w e, P w → P (w.addErrTo s.tk e)) (w : World) (h0 : P w) : P (runSteps dw w ss) :=
  runSteps_frame dw ss
    (fun s hs w h => invokeOne_frame dw w s.cb s.tgt s.tk hev (hset s hs) (herr s hs) h) w h0

theorem core_runSteps (dw : Measure) (ss : List Step) (w : World) (h : ∀ s ∈ ss, s.tk.eager = true) :
    (runSteps dw w ss).core = w.core :=
  runSteps_keeps (P := fun w' => w'.core = w.core) dw ss (fun _ _ h' => h')
    (fun s _ w' k v h' => (core_setProp w' s.tgt k v).trans h')
    (fun s hs w' e h' => (core_addErrTo w' s.tk e (h s hs)).trans h') w rfl

theorem mem_stepsOf {s : Step} {cbs : List Cb} {tgt : Target} {tk : Taker} (h : s ∈ stepsOf cbs tgt tk) :
    s.tgt = tgt ∧ s.tk = tk ∧ s.cb ∈ cbs := by
  obtain ⟨cb, hcb, rfl⟩ := List.mem_map.mp h
  exact ⟨rfl, rfl, hcb⟩

/-! ### the traversal, top down -/

structure Sch (dw : Measure) (w0 w w' : World) (ss : List Step) : Prop where
  eq : w' = runSteps dw w ss
  core : w'.core = w0.core

theorem sch_refl (dw : Measure) {w0 w : World} (h : w.core = w0.core) : Sch dw w0 w w [] := ⟨rfl, h⟩

theorem Sch.cast {dw : Measure} {w0 w w' : World} {ss ss' : List Step} (h : Sch dw w0 w w' ss) (e : ss = ss') :
    Sch dw w0 w w' ss' := e ▸ h

/-- one `invoke` of the traversal: the callback list and the taker it reads from the world it has reached
    are those of `w0`, because both factor through the core -/
theorem sch_invoke {dw : Measure} {w0 w w1 : World} {ss : List Step} (h : Sch dw w0 w w1 ss)
    (cbs : World → List Cb) (tk : World → Taker) (tgt : Target)
    (hc : ∀ w, cbs w.core = cbs w) (hk : ∀ w, tk w.core = tk w) (hY : (tk w0).eager = true) :
    Sch dw w0 w (invoke dw w1 (cbs w1) tgt (tk w1)) (ss ++ stepsOf (cbs w0) tgt (tk w0)) := by
  rw [of_core_eq cbs hc h.core, of_core_eq tk hk h.core, invoke_eq_runSteps]
  refine ⟨by rw [runSteps_append, ← h.eq], ?_⟩
  rw [core_runSteps dw _ _ (fun s hs => (mem_stepsOf hs).2.1 ▸ hY)]
  exact h.core

theorem renderCells_sch (dw : Measure) (w0 w : World) (t r : Nat) :
    ∀ (n i : Nat) (w1 : World) (ss : List Step), Sch dw w0 w w1 ss →
      Sch dw w0 w (renderCells dw t r n i w1) (ss ++ (List.range' i n).flatMap (cellSteps w0 t r)) := by
  intro n
  induction n with
  | zero => intro i w1 ss h; simpa [renderCells] using h
  | succ n ih =>
    intro i w1 ss h
    rw [List.range'_succ, List.flatMap_cons, ← List.append_assoc]
    simp only [renderCells]
    apply ih
    -- the cell's column is looked up once, in `w1`
    rw [of_core_eq (fun w => w.columnOf r i) (rd_columnOf r i) h.core]
    have h1 := sch_invoke h (fun w => (w.table t).cellCbs.at .pre) (fun _ => .table t) (.cell r i)
      (rd_tableCell t .pre) (fun _ => rfl) rfl
    have h2 := sch_invoke h1 (fun w => colCellCbs w (w0.columnOf r i) .pre) (fun w => rowECTaker w r) (.cell r i)
      (rd_colCellCbs _ .pre) (rd_rowECTaker r) (rowECTaker_eager w0 r)
    have h3 := sch_invoke h2 (fun w => (w.row r).cellCbs.at .pre) (fun _ => .table t) (.cell r i)
      (rd_rowCell r .pre) (fun _ => rfl) rfl
    have h4 := sch_invoke h3 (fun w => (w.table t).cellCbs.at .render) (fun _ => .table t) (.cell r i)
      (rd_tableCell t .render) (fun _ => rfl) rfl
    have h5 := sch_invoke h4 (fun w => ((w.cell? r i).map (·.cbs.at .render)).getD []) (fun _ => .table t)
      (.cell r i) (rd_cellCbs r i .render) (fun _ => rfl) rfl
    have h6 := sch_invoke h5 (fun w => (w.row r).cellCbs.at .post) (fun _ => .table t) (.cell r i)
      (rd_rowCell r .post) (fun _ => rfl) rfl
    have h7 := sch_invoke h6 (fun w => colCellCbs w (w0.columnOf r i) .post) (fun w => rowECTaker w r) (.cell r i)
      (rd_colCellCbs _ .post) (rd_rowECTaker r) (rowECTaker_eager w0 r)
    have h8 := sch_invoke h7 (fun w => (w.table t).cellCbs.at .post) (fun _ => .table t) (.cell r i)
      (rd_tableCell t .post) (fun _ => rfl) rfl
    exact h8.cast (by simp only [cellSteps, List.append_assoc])

theorem renderRow_sch (dw : Measure) (w0 w : World) (t r : Nat) (w1 : World) (ss : List Step)
    (h : Sch dw w0 w w1 ss) : Sch dw w0 w (renderRow dw t w1 r) (ss ++ rowSteps w0 t r) := by
  unfold renderRow
  extract_lets w2 w3
  have h1 : Sch dw w0 w w2 _ := sch_invoke h (fun w => (w.row r).selfCbs.at .pre) (fun _ => .table t) (.row r)
    (rd_rowSelf r .pre) (fun _ => rfl) rfl
  have h2 : Sch dw w0 w w3 _ := renderCells_sch dw w0 w t r (w2.rowCells r).length 0 _ _ h1
  have h3 := sch_invoke h2 (fun w => (w.row r).selfCbs.at .post) (fun _ => .table t) (.row r)
    (rd_rowSelf r .post) (fun _ => rfl) rfl
  refine h3.cast ?_
  rw [of_core_eq (fun w => (w.rowCells r).length) (rd_rowCellsLen r) h1.core]
  simp only [rowSteps, List.range_eq_range', List.append_assoc]

theorem renderRows_sch (dw : Measure) (w0 w : World) (t : Nat) :
    ∀ (rs : List Nat) (w1 : World) (ss : List Step), Sch dw w0 w w1 ss →
      Sch dw w0 w (rs.foldl (renderRow dw t) w1) (ss ++ rs.flatMap (rowSteps w0 t)) := by
  intro rs
  induction rs with
  | nil => intro w1 ss h; simpa using h
  | cons r rs ih =>
    intro w1 ss h
    simp only [List.foldl_cons, List.flatMap_cons, ← List.append_assoc]
    exact ih _ _ (renderRow_sch dw w0 w t r w1 ss h)

theorem renderColumns_sch (dw : Measure) (w0 w : World) (t : Nat) (tm : Time) :
    ∀ (n i : Nat) (w1 : World) (ss : List Step), Sch dw w0 w w1 ss →
      Sch dw w0 w (renderColumns dw t tm n i w1) (ss ++ (List.range' i n).flatMap (colSteps w0 t tm)) := by
  intro n
  induction n with
  | zero => intro i w1 ss h; simpa [renderColumns] using h
  | succ n ih =>
    intro i w1 ss h
    rw [List.range'_succ, List.flatMap_cons, ← List.append_assoc, renderColumns_succ]
    have h1 := sch_invoke h (fun w => ((w.column? t i).map (·.selfCbs.at tm)).getD []) (fun _ => .table t)
      (.column t i) (rd_colSelf t i tm) (fun _ => rfl) rfl
    exact ih _ _ _ h1

theorem renderHeader_sch (dw : Measure) (w0 w : World) (t : Nat) (w1 : World) (ss : List Step)
    (h : Sch dw w0 w w1 ss) :
    Sch dw w0 w (renderHeader dw t w1) (ss ++ (w0.table t).header.toList.flatMap (rowSteps w0 t)) := by
  unfold renderHeader
  rw [of_core_eq (fun w => (w.table t).header) (rd_header t) h.core]
  cases (w0.table t).header with
  | none => simpa using h
  | some hr => simpa using renderRow_sch dw w0 w t hr _ _ h

theorem irc_sch (dw : Measure) (w : World) (t : Nat) :
    Sch dw w w (invokeRenderCallbacks dw w t) (passSteps w t) := by
  rw [invokeRenderCallbacks_eq]
  extract_lets w1 ncol w2 w3 w4 w5
  have e1 : Sch dw w w w1 _ := sch_invoke (sch_refl dw rfl) (fun w => (w.table t).selfCbs.at .pre)
    (fun _ => .table t) (.table t) (rd_tableSelf t .pre) (fun _ => rfl) rfl
  have e2 : Sch dw w w w2 _ := renderColumns_sch dw w w t .pre ncol 0 _ _ e1
  have e3 : Sch dw w w w3 _ := renderHeader_sch dw w w t _ _ e2
  have e4 : Sch dw w w w4 _ := renderRows_sch dw w w t (w3.table t).rows _ _ e3
  have e5 : Sch dw w w w5 _ := renderColumns_sch dw w w t .post ncol 0 _ _ e4
  have e6 := sch_invoke e5 (fun w => (w.table t).selfCbs.at .post) (fun _ => .table t) (.table t)
    (rd_tableSelf t .post) (fun _ => rfl) rfl
  refine e6.cast ?_
  rw [show ncol = (w.table t).columns.length from
      of_core_eq (fun w => (w.table t).columns.length) (rd_ncolrecs t) e1.core,
    of_core_eq (fun w => (w.table t).rows) (rd_rows t) e3.core]
  simp only [passSteps, passRows, colsSteps, List.range_eq_range', List.flatMap_append,
    List.append_assoc, List.nil_append]

theorem irc_sched (dw : Measure) (w : World) (t : Nat) :
    invokeRenderCallbacks dw w t = runSteps dw w (passSteps w t) := (irc_sch dw w t).eq

theorem irc_core (dw : Measure) (w : World) (t : Nat) : (invokeRenderCallbacks dw w t).core = w.core :=
  (irc_sch dw w t).core

end E2Ecb
end Tab
