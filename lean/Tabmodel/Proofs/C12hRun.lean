/-
  C12h: one operation, then whole histories.  The replay theorem (`stepW_refines`: what an owner reads after an
  operation is the operation's direct effect followed by the invocations it logged, replayed as sets) is proved
  for any writer table; with the empty table it says that an operation whose callbacks do not write the key has
  its direct effect only, which is what `PState.step` records (`refines_applyOp`).
-/
import Tabmodel.Proofs.C12hOps
import Tabmodel.Proofs.C12hState
import Tabmodel.Proofs.WorldHist
namespace Tab
open World C13 C13x
namespace C12h

/-! ### callback sets, chains and copies after one operation -/

theorem plain_skeleton (dw : Measure) (w : World) (op : BuildOp) (h : plain op = true) :
    (∀ s, (applyOp dw w op).cbSet s = w.cbSet s) ∧ (applyOp dw w op).copies.length = w.copies.length ∧
      (AllNodup w → AllNodup (applyOp dw w op)) := by
  obtain ⟨wl, es, hc, ht⟩ := plain_traversal dw w op h
  exact ⟨fun s => (ht.same.cbs s).trans (hc.cbs s), ht.same.ncopies.trans hc.ncopies,
    fun hn => ht.allNodup (allNodup_csame hc hn)⟩

theorem regCb_frame (dw : Measure) (w : World) (o : Target) (tm : Time) (tg : CbTarget) (cb : Cb) :
    (∀ o', (applyOp dw w (.regCb o tm tg cb)).chainOf o' = w.chainOf o') ∧
      (applyOp dw w (.regCb o tm tg cb)).copies.length = w.copies.length ∧
      (applyOp dw w (.regCb o tm tg cb)).events = w.events := by
  dsimp only [applyOp]
  cases e : registerCb w o tm tg cb with
  | none => exact ⟨fun _ => rfl, rfl, rfl⟩
  | some w' => exact ⟨chainOf_registerCb e, (registerCb_frame e).2.1, (registerCb_frame e).2.2.1⟩

theorem cbsAll_applyOp (dw : Measure) {P : Cb → Bool} {w : World} (hq : CbsAll P w) (op : BuildOp)
    (hop : op.cbsAll P = true) : CbsAll P (applyOp dw w op) := by
  cases op using plain_cases with
  | plain op hp => exact cbsAll_of_cbs hq (plain_skeleton dw w op hp).1
  | setProp o k' v => exact cbsAll_of_cbs hq (cbSet_setProp w o k' v)
  | regCb o tm tg cb =>
    simp only [applyOp]
    cases e : registerCb w o tm tg cb with
    | none => exact hq
    | some w' => rw [Option.getD_some]; exact cbsAll_registerCb hq hop e
  | copyCell r c =>
    simp only [applyOp]
    cases hce : w.cell? r c with
    | none => exact hq
    | some ce =>
      intro s tm cb hcb
      simp only [World.cbsAt, cbSet_copy] at hcb
      split at hcb
      · refine hq (.cellOwn r c) tm cb ?_
        simpa [World.cbsAt, World.cbSet, hce] using hcb
      · exact hq s tm cb hcb
  | rowAddCell r ce =>
    rcases rowAddCell_cases dw w r ce with ⟨hc, _⟩ | ⟨cs, hlt, hcs, ht⟩
    · exact cbsAll_of_cbs hq hc.cbs
    · exact cbsAll_of_cbs (cbsAll_rowAddLinked hq hlt hcs ce hop) ht.same.cbs

theorem quiet_applyOp (dw : Measure) {k : Key} {w : World} (hq : Quiet k w) (op : BuildOp)
    (hop : op.cbsAll (fun cb => !cb.writes k) = true) : Quiet k (applyOp dw w op) :=
  quiet_iff_cbsAll.mpr (cbsAll_applyOp dw (quiet_iff_cbsAll.mp hq) op hop)

theorem allNodup_applyOp (dw : Measure) {w : World} (hn : AllNodup w) (op : BuildOp) (hc : op.cellOk = true) :
    AllNodup (applyOp dw w op) := by
  cases op using plain_cases with
  | plain op hp => exact (plain_skeleton dw w op hp).2.2 hn
  | setProp o k v => exact allNodup_setProp hn o k v
  | regCb o tm tg cb => intro o'; rw [(regCb_frame dw w o tm tg cb).1]; exact hn o'
  | copyCell r c =>
    simp only [applyOp]
    cases hce : w.cell? r c with
    | none => exact hn
    | some ce =>
      intro o
      simp only [chainOf_copy]
      split
      · have := hn (.cell r c)
        simpa [World.chainOf, hce] using this
      · exact hn o
  | rowAddCell r ce =>
    have hc' : ce.props.keys.Nodup := by simpa [BuildOp.cellOk] using hc
    rcases rowAddCell_cases dw w r ce with ⟨hcs, _⟩ | ⟨cs, hlt, hcs, ht⟩
    · exact allNodup_csame hcs hn
    · exact ht.allNodup (allNodup_rowAddLinked hn hlt hcs ce hc')

theorem cell?_isSome_iff (w : World) (r c : Nat) : (w.cell? r c).isSome = true ↔ c < w.shape.width r := by
  simp [shape_width, World.cell?]

/-- the number of copies follows `PState.step` (whatever values are recorded): only a copy of an existing cell
    is counted -/
theorem copies_applyOp (dw : Measure) (w : World) (op : BuildOp) (v : Target → Key → Option Val) :
    (applyOp dw w op).copies.length = (PState.step ⟨w.shape, w.copies.length, v⟩ op).ncopies := by
  cases op using plain_cases with
  | plain op hp => rw [step_plain _ hp]; exact (plain_skeleton dw w op hp).2.1
  | setProp o k v => simp only [PState.step]; split <;> exact copies_length_setProp w o k v
  | regCb o tm tg cb => exact (regCb_frame dw w o tm tg cb).2.1
  | copyCell r c =>
    simp only [applyOp, PState.step, ← cell?_isSome_iff]
    cases w.cell? r c <;> simp
  | rowAddCell r ce =>
    have : (PState.step ⟨w.shape, w.copies.length, v⟩ (.rowAddCell r ce)).ncopies = w.copies.length := by
      simp only [PState.step]
      split
      · split <;> rfl
      · rfl
    rw [this]
    rcases rowAddCell_cases dw w r ce with ⟨hc, _⟩ | ⟨cs, _, _, ht⟩
    · exact hc.ncopies
    · exact ht.same.ncopies.trans (copies_rowAddLinked w r ce cs)

/-! ### the replay of one operation -/

theorem stepW_snd (f : Nat → Option (Option Val)) (k : Key) (dw : Measure) (w : World) (m : Target → Option Val)
    (op : BuildOp) :
    (stepW f dw k (w, m) op).2 =
      ((applyOp dw w op).events.drop w.events.length).foldl (evApply f (applyOp dw w op).has) (directK k w m op) :=
  rfl

variable (f : Nat → Option (Option Val)) (k : Key) (dw : Measure) in
theorem stepW_fst (w : World) (m : Target → Option Val) (op : BuildOp) :
    (stepW f dw k (w, m) op).1 = applyOp dw w op := rfl

theorem drop_events {w w' : World} {es : List Event} (h : w'.events = w.events ++ es) :
    w'.events.drop w.events.length = es := by
  rw [h, List.drop_left]

theorem directK_plain (k : Key) (w : World) (m : Target → Option Val) (op : BuildOp) (h : plain op = true) :
    directK k w m op = m := by
  cases op <;> first | rfl | cases h

theorem directK_setProp (k : Key) (w : World) (m : Target → Option Val) (o' : Target) (k' : Key) (v : Option Val)
    (o : Target) :
    directK k w m (.setProp o' k' v) o = if (o = o' ∧ k = k') ∧ w.hasObj o' then v else m o := by
  simp only [directK]
  by_cases h : k' = k ∧ w.hasObj o'
  · obtain ⟨rfl, ho⟩ := h
    simp only [ho, and_true, and_self, if_true]
  · rw [if_neg h, if_neg (fun hh => h ⟨hh.1.2.symm, hh.2⟩)]

theorem directK_copyCell (k : Key) (w : World) (m : Target → Option Val) (r c : Nat) (o : Target) :
    directK k w m (.copyCell r c) o =
      if w.hasObj (.cell r c) ∧ o = .copy w.copies.length then m (.cell r c) else m o := by
  simp only [directK]
  by_cases h : w.hasObj (.cell r c)
  · simp only [h, true_and, if_true]
  · simp only [h, false_and, if_false]

theorem directK_rowAddCell (k : Key) (w : World) (m : Target → Option Val) (r : Nat) (ce : Cell) (o : Target) :
    directK k w m (.rowAddCell r ce) o =
      match (w.row r).cells with
      | some cs => if r < w.rows.length ∧ o = .cell r cs.length then ce.props.get k else m o
      | none => m o := by
  simp only [directK]
  cases (w.row r).cells with
  | none => rfl
  | some cs =>
    by_cases h : r < w.rows.length
    · simp only [h, true_and, if_true]
    · simp only [h, false_and, if_false]

theorem stepW_refines (f : Nat → Option (Option Val)) (k : Key) (dw : Measure) {w : World}
    (hw : CbsAll (Cb.agrees f k) w) (hn : AllNodup w) (op : BuildOp) (hop : op.cbsAll (Cb.agrees f k) = true)
    (hc : op.cellOk = true) (o : Target) :
    (applyOp dw w op).getProp o k = (stepW f dw k (w, fun o => w.getProp o k) op).2 o := by
  rw [stepW_snd]
  -- an operation that logs nothing, reading as `m`
  have quiet : ∀ {w' : World} {m : Target → Option Val}, w'.events = w.events → w'.getProp o k = m o →
      w'.getProp o k = ((w'.events.drop w.events.length).foldl (evApply f w'.has) m) o := by
    intro w' m he hm; rw [drop_events (es := []) (by rw [he, List.append_nil])]; exact hm
  cases op using plain_cases with
  | plain op hp =>
    obtain ⟨es, ht⟩ := tracks_applyOp f k dw w op hp
    rw [drop_events ht.events, directK_plain k w _ op hp]
    exact ht.val hw hn o
  | setProp o' k' v =>
    refine quiet (events_setProp w o' k' v) ?_
    rw [directK_setProp]
    exact getProp_setProp hn o' k' v o k
  | regCb o' tm tg cb =>
    exact quiet (regCb_frame dw w o' tm tg cb).2.2 (getProp_of_chain ((regCb_frame dw w o' tm tg cb).1 o) k)
  | copyCell r c =>
    refine quiet (events_copyCell dw w r c) ?_
    rw [directK_copyCell]
    exact getProp_copyCell dw w r c o k
  | rowAddCell r ce =>
    have hc' : ce.props.keys.Nodup := by simpa [BuildOp.cellOk] using hc
    rw [show applyOp dw w (.rowAddCell r ce) = rowAddCell dw w r ce from rfl]
    rcases rowAddCell_cases dw w r ce with ⟨hcs, hno⟩ | ⟨cs, hlt, hcs, ht⟩
    · refine quiet hcs.events ?_
      rw [directK_rowAddCell, getProp_of_chain (hcs.chain o) k]
      cases hcc : (w.row r).cells with
      | none => rfl
      | some cs => exact (if_neg (fun h => hno ⟨h.1, by rw [hcc]; rfl⟩)).symm
    · -- the direct effect is the linked state, which the callbacks then run in
      have hd : ∀ o', directK k w (fun o => w.getProp o k) (.rowAddCell r ce) o' =
          (rowAddLinked w r ce cs).getProp o' k := by
        intro o'
        rw [getProp_rowAddLinked hlt hcs, directK_rowAddCell]
        simp only [hcs, hlt, true_and]
      have ht' := tracks_of_any f k dw ht
      rw [funext hd, drop_events (by rw [ht'.events, rowAddLinked_events])]
      exact ht'.val (cbsAll_rowAddLinked hw hlt hcs ce hop) (allNodup_rowAddLinked hn hlt hcs ce hc') o

/-! ### histories -/

theorem allNodup_runFrom (dw : Measure) (ops : List BuildOp) : ∀ w : World, AllNodup w →
    ops.all BuildOp.cellOk = true → AllNodup (runFrom dw w ops) := by
  induction ops with
  | nil => intro w hn _; exact hn
  | cons op ops ih =>
    intro w hn hc
    simp only [List.all_cons, Bool.and_eq_true] at hc
    exact ih _ (allNodup_applyOp dw hn op hc.1) hc.2

theorem cbsAll_runFrom (dw : Measure) {P : Cb → Bool} (ops : List BuildOp) : ∀ w : World, CbsAll P w →
    ops.all (BuildOp.cbsAll P) = true → CbsAll P (runFrom dw w ops) := by
  induction ops with
  | nil => intro w h _; exact h
  | cons op ops ih =>
    intro w h hop
    simp only [List.all_cons, Bool.and_eq_true] at hop
    exact ih _ (cbsAll_applyOp dw h op hop.1) hop.2

variable (dw : Measure) in
theorem cbsAll_run {P : Cb → Bool} (ops : List BuildOp) (h : ops.all (BuildOp.cbsAll P) = true) :
    CbsAll P (run dw ops) := cbsAll_runFrom dw ops {} (cbsAll_empty P) h

theorem runW_refines (f : Nat → Option (Option Val)) (k : Key) (dw : Measure) (ops : List BuildOp) :
    ∀ (w : World) (m : Target → Option Val),
    (∀ o, w.getProp o k = m o) → CbsAll (Cb.agrees f k) w → AllNodup w →
    ops.all (BuildOp.cbsAll (Cb.agrees f k)) = true → ops.all BuildOp.cellOk = true →
    ∀ o, (runFrom dw w ops).getProp o k = (ops.foldl (stepW f dw k) (w, m)).2 o := by
  induction ops with
  | nil => intro w m hv _ _ _ _; exact hv
  | cons op ops ih =>
    intro w m hv hw hn hop hc
    simp only [List.all_cons, Bool.and_eq_true] at hop hc
    obtain rfl : m = fun o => w.getProp o k := funext (fun o => (hv o).symm)
    exact ih (applyOp dw w op) _ (fun o => stepW_refines f k dw hw hn op hop.1 hc.1 o)
      (cbsAll_applyOp dw hw op hop.1) (allNodup_applyOp dw hn op hc.1) hop.2 hc.2

theorem foldl_stepW_fst (f : Nat → Option (Option Val)) (k : Key) (dw : Measure) (ops : List BuildOp) :
    ∀ (w : World) (m : Target → Option Val), (ops.foldl (stepW f dw k) (w, m)).1 = runFrom dw w ops := by
  induction ops with
  | nil => intro w m; rfl
  | cons op ops ih => intro w m; exact ih _ _

theorem lastSetOnCb_snoc (f : Nat → Option (Option Val)) (k : Key) (dw : Measure) (ops : List BuildOp)
    (op : BuildOp) :
    lastSetOnCb f dw (ops ++ [op]) k = (stepW f dw k (run dw ops, lastSetOnCb f dw ops k) op).2 := by
  funext o
  simp only [lastSetOnCb, List.foldl_append, List.foldl_cons, List.foldl_nil]
  rw [show (ops.foldl (stepW f dw k) ({}, fun _ => none)) = (run dw ops, lastSetOnCb f dw ops k) from
    Prod.ext (foldl_stepW_fst f k dw ops {} _) rfl]

/-! ### a key no callback writes: the recorded state -/

theorem hasOwner_iff (w : World) (o : Target) : w.shape.hasOwner w.copies.length o = true ↔ w.hasObj o := by
  cases o with
  | table t => simp [Shape.hasOwner, World.hasObj]
  | column t n => simp [Shape.hasOwner, World.hasObj, shape_table_nColRecs]
  | row r => simp [Shape.hasOwner, World.hasObj]
  | cell r c => simp [Shape.hasOwner, World.hasObj, shape_width, World.cell?]
  | copy n => simp [Shape.hasOwner, World.hasObj]

theorem step_val_directK {k : Key} {w : World} {p : PState} (hr : Refines k w p) (op : BuildOp) (o : Target) :
    (p.step op).val o k = directK k w (fun o => p.val o k) op o := by
  cases op using plain_cases with
  | plain op hp => rw [step_plain p hp, directK_plain k w _ op hp]
  | regCb o' tm tg cb => rfl
  | setProp o' k' v =>
    have hown : p.shape.hasOwner p.ncopies o' = true ↔ w.hasObj o' := by
      rw [← hr.shape, ← hr.ncopies]; exact hasOwner_iff w o'
    rw [step_val_setProp, directK_setProp]
    exact ite_congr (propext ⟨fun h => ⟨h.2, hown.mp h.1⟩, fun h => ⟨hown.mpr h.2, h.1⟩⟩) (fun _ => rfl) (fun _ => rfl)
  | copyCell r c =>
    have hcell : c < p.shape.width r ↔ w.hasObj (.cell r c) := by
      rw [← hr.shape]; exact (cell?_isSome_iff w r c).symm
    rw [step_val_copyCell, directK_copyCell, hr.ncopies]
    exact ite_congr (propext (and_congr_left' hcell)) (fun _ => rfl) (fun _ => rfl)
  | rowAddCell r ce =>
    rw [step_val_rowAddCell, directK_rowAddCell, ← hr.shape, shape_row_cells, shape_rows_length]
    cases (w.row r).cells with
    | none => rfl
    | some cs => simp only [Option.map_some, List.length_map]

theorem foldl_evApply_none (has : Target → Bool) (m : Target → Option Val) (es : List Event) :
    es.foldl (evApply (fun _ => none) has) m = m := by
  induction es with
  | nil => rfl
  | cons e es ih => exact ih

theorem refines_applyOp (dw : Measure) {k : Key} {w : World} {p : PState} (hr : Refines k w p) (hq : Quiet k w)
    (hn : AllNodup w) (op : BuildOp) (hop : op.cbsAll (fun cb => !cb.writes k) = true) (hc : op.cellOk = true) :
    Refines k (applyOp dw w op) (p.step op) := by
  have e : Cb.agrees (fun _ => none) k = fun cb => !cb.writes k := funext (agrees_none k)
  refine ⟨by rw [shape_applyOp, step_shape, hr.shape],
    by rw [copies_applyOp dw w op p.val, hr.shape, hr.ncopies], fun o => ?_⟩
  rw [stepW_refines (fun _ => none) k dw (by rw [e]; exact quiet_iff_cbsAll.mp hq) hn op (by rw [e]; exact hop) hc,
    stepW_snd, foldl_evApply_none, step_val_directK hr,
    show (fun o => w.getProp o k) = (fun o => p.val o k) from funext hr.val]

theorem refines_empty (k : Key) : Refines k {} {} :=
  ⟨rfl, rfl, fun o => by rw [getProp_eq_get, chainOf_empty]; rfl⟩

theorem refines_runFrom (dw : Measure) (k : Key) (ops : List BuildOp) : ∀ (w : World) (p : PState),
    Refines k w p → Quiet k w → AllNodup w →
    ops.all (BuildOp.cbsAll (fun cb => !cb.writes k)) = true → ops.all BuildOp.cellOk = true →
    Refines k (runFrom dw w ops) (ops.foldl PState.step p) := by
  induction ops with
  | nil => intro w p hr _ _ _ _; exact hr
  | cons op ops ih =>
    intro w p hr hq hn hop hc
    simp only [List.all_cons, Bool.and_eq_true] at hop hc
    exact ih _ _ (refines_applyOp dw hr hq hn op hop.1 hc.1)
      (quiet_applyOp dw hq op hop.1)
      (allNodup_applyOp dw hn op hc.1) hop.2 hc.2

end C12h
end Tab
