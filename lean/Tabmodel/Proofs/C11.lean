/-
  C11 — lemmas behind `Props/C11.lean`.  Three quantities are followed through the operations of the world:
  the error mass (`mass_*`: an `AddError` through a live taker adds exactly one occurrence, everything else
  none), the relation `Stable` (the stores keep their shape, rows keep the table whose container they share,
  error lists only grow — kept by every callback invocation, hence by every traversal), and `attachedAll`
  (kept by `Stable` steps and by the building operations).  The monitored render traversal of
  `Proofs/C11Defs.lean` is the model's (`…C_fst`), and its monitor stays true on an `attachedAll` table
  (`…C_okR`, `…C_ok`).
-/
import Tabmodel.Proofs.C11Defs
import Tabmodel.Proofs.Store
import Tabmodel.Proofs.Traverse
namespace Tab

namespace World

theorem row_ec_lt (w : World) (r : Nat) (h : (w.row r).ec ≠ .none) : r < w.rows.length := by
  refine Nat.lt_of_not_le (fun hn => h ?_)
  rw [row_oob w r hn]

theorem sum_map_le_of_getD {α} (g : α → Nat) (d : α) (l l' : List α) (hlen : l'.length = l.length)
    (h : ∀ i, g (l.getD i d) ≤ g (l'.getD i d)) : (l.map g).sum ≤ (l'.map g).sum := by
  induction l generalizing l' with
  | nil => exact Nat.zero_le _
  | cons a l ih =>
    cases l' with
    | nil => exact nomatch hlen
    | cons a' l' => exact Nat.add_le_add (h 0) (ih l' (Nat.succ.inj hlen) (fun i => h (i + 1)))

/-! ### mass under store updates -/

theorem mass_events (w : World) (evs : List Event) (e : Nat) :
    mass { w with events := evs } e = mass w e := rfl

theorem table_events (w : World) (evs : List Event) (t : Nat) :
    World.table { w with events := evs } t = w.table t := rfl

theorem row_events (w : World) (evs : List Event) (r : Nat) :
    World.row { w with events := evs } r = w.row r := rfl

theorem mass_modTable (w : World) (t : Nat) (f : Table → Table) (e : Nat)
    (h : t < w.tables.length) :
    mass (w.modTable t f) e + (w.table t).errs.count e
      = mass w e + (f (w.table t)).errs.count e := by
  have := sum_map_modify w.tables t f (fun tb => tb.errs.count e) {} h
  simp only [mass, modTable, table] at this ⊢
  omega

theorem mass_modTable_same (w : World) (t : Nat) (f : Table → Table) (e : Nat)
    (h : ∀ x, (f x).errs = x.errs) : mass (w.modTable t f) e = mass w e := by
  simp only [mass, modTable]
  rw [map_modify_inv _ _ (fun x => by rw [h x])]

theorem mass_modRow (w : World) (r : Nat) (f : Row → Row) (e : Nat) (h : r < w.rows.length) :
    mass (w.modRow r f) e + ownCount e (w.row r) = mass w e + ownCount e (f (w.row r)) := by
  have := sum_map_modify w.rows r f (ownCount e) {} h
  simp only [mass, modRow, row] at this ⊢
  omega

theorem mass_modRow_same (w : World) (r : Nat) (f : Row → Row) (e : Nat)
    (h : ∀ x, (f x).ec = x.ec) : mass (w.modRow r f) e = mass w e := by
  simp only [mass, modRow]
  rw [map_modify_inv _ _ (fun x => by simp only [ownCount, h x])]

theorem count_snoc (es : List Nat) (e e' : Nat) :
    (es ++ [e]).count e' = es.count e' + if e' = e then 1 else 0 := by
  simp only [List.count_append, List.count_singleton, beq_iff_eq, eq_comm (a := e)]

theorem mass_addTable (w : World) (t e e' : Nat) (h : t < w.tables.length) :
    mass (w.modTable t (fun tb => { tb with errs := tb.errs ++ [e] })) e'
      = mass w e' + if e' = e then 1 else 0 := by
  have := mass_modTable w t (fun tb => { tb with errs := tb.errs ++ [e] }) e' h
  simp only [count_snoc] at this
  omega

theorem ownCount_unattached {w : World} {r : Nat} (hu : w.unattached r) (e : Nat) :
    ownCount e (w.row r) = (rowErrors w r).count e := by
  rcases hu with hu | ⟨es, hu⟩ <;> simp [ownCount, rowErrors, hu]

theorem mass_own_snoc (w : World) (r : Nat) (f : Row → Row) (e e' : Nat) (hr : r < w.rows.length)
    (hu : w.unattached r) (hf : (f (w.row r)).ec = .own (rowErrors w r ++ [e])) :
    mass (w.modRow r f) e' = mass w e' + if e' = e then 1 else 0 := by
  have := mass_modRow w r f e' hr
  rw [ownCount_unattached hu] at this
  simp only [ownCount, hf, count_snoc] at this
  omega

theorem unattached_or (w : World) (r : Nat) : w.unattached r ∨ ∃ t, (w.row r).ec = .table t := by
  cases h : (w.row r).ec with
  | none => exact Or.inl (Or.inl h)
  | own es => exact Or.inl (Or.inr ⟨es, h⟩)
  | table t => exact Or.inr ⟨t, rfl⟩

theorem addErrTo_rowLazy_unattached (w : World) (r e : Nat) (hu : w.unattached r) :
    addErrTo w (.rowLazy r) e = w.modRow r (fun rw => { rw with ec := .own (rowErrors w r ++ [e]) }) := by
  rcases hu with hu | ⟨es, hu⟩ <;> simp only [addErrTo, rowErrors, hu, List.nil_append]

theorem mass_addErrTo (w : World) (tk : Taker) (e e' : Nat) (h : w.live tk) :
    mass (addErrTo w tk e) e' = mass w e' + if e' = e then 1 else 0 := by
  cases tk with
  | drop => exact h.elim
  | table t => exact mass_addTable w t e e' h
  | rowOwn r =>
    cases hec : (w.row r).ec with
    | own es =>
      exact mass_own_snoc w r _ e e' (row_ec_lt w r (by simp [hec])) (Or.inr ⟨es, hec⟩)
        (by simp only [hec, rowErrors])
    | _ => simp [live, hec] at h
  | rowLazy r =>
    rcases unattached_or w r with hu | ⟨t, hec⟩
    · rw [addErrTo_rowLazy_unattached w r e hu]
      exact mass_own_snoc w r _ e e' h.1 hu rfl
    · have ht := h.2
      simp only [hec] at ht
      simp only [addErrTo, hec]
      exact mass_addTable w t e e' ht

/-! ### what every callback invocation preserves -/

/-- `Stable w w'`: `w'` has the same stores shape as `w`, the same row lists / header per table,
    the same rows sharing a table's container; and every error list (of a table, or owned by a
    row) has only been appended to. -/
structure Stable (w w' : World) : Prop where
  tlen : w'.tables.length = w.tables.length
  rlen : w'.rows.length = w.rows.length
  trows : ∀ t, (w'.table t).rows = (w.table t).rows
  thdr : ∀ t, (w'.table t).header = (w.table t).header
  terrs : ∀ t, ∃ l, (w'.table t).errs = (w.table t).errs ++ l
  ecT : ∀ r t, (w.row r).ec = .table t ↔ (w'.row r).ec = .table t
  ecO : ∀ r es, (w.row r).ec = .own es → ∃ l, (w'.row r).ec = .own (es ++ l)

theorem Stable.of_stores {w w' : World} (ht : w'.tables = w.tables) (hr : w'.rows = w.rows) :
    Stable w w' := by
  have hT : ∀ t, w'.table t = w.table t := fun t => by simp only [table, ht]
  have hR : ∀ r, w'.row r = w.row r := fun r => by simp only [row, hr]
  exact ⟨by rw [ht], by rw [hr], fun t => by rw [hT], fun t => by rw [hT],
    fun t => ⟨[], by rw [hT, List.append_nil]⟩, fun r t => by rw [hR],
    fun r es h => ⟨[], by rw [hR, List.append_nil]; exact h⟩⟩

theorem Stable.refl (w : World) : Stable w w := .of_stores rfl rfl

theorem Stable.trans {w₁ w₂ w₃ : World} (h₁ : Stable w₁ w₂) (h₂ : Stable w₂ w₃) : Stable w₁ w₃ where
  tlen := h₂.tlen.trans h₁.tlen
  rlen := h₂.rlen.trans h₁.rlen
  trows t := (h₂.trows t).trans (h₁.trows t)
  thdr t := (h₂.thdr t).trans (h₁.thdr t)
  terrs t := by
    obtain ⟨l₁, e₁⟩ := h₁.terrs t
    obtain ⟨l₂, e₂⟩ := h₂.terrs t
    exact ⟨l₁ ++ l₂, by rw [e₂, e₁, List.append_assoc]⟩
  ecT r t := (h₁.ecT r t).trans (h₂.ecT r t)
  ecO r es h := by
    obtain ⟨l₁, h'⟩ := h₁.ecO r es h
    obtain ⟨l₂, h''⟩ := h₂.ecO r _ h'
    exact ⟨l₁ ++ l₂, by rw [h'', List.append_assoc]⟩

theorem stable_events (w : World) (evs : List Event) : Stable w { w with events := evs } :=
  .of_stores rfl rfl

theorem stable_copies (w : World) (cs : List Cell) : Stable w { w with copies := cs } :=
  .of_stores rfl rfl

theorem stable_modTable (w : World) (t : Nat) (f : Table → Table)
    (h₁ : ∀ x, (f x).rows = x.rows) (h₂ : ∀ x, (f x).header = x.header)
    (h₃ : ∀ x, ∃ l, (f x).errs = x.errs ++ l) :
    Stable w (w.modTable t f) where
  tlen := by simp
  rlen := rfl
  trows t' := table_modTable_proj w t f (·.rows) h₁ t'
  thdr t' := table_modTable_proj w t f (·.header) h₂ t'
  terrs t' := by
    rw [table_modTable]; split
    · exact h₃ _
    · exact ⟨[], by simp⟩
  ecT _ _ := Iff.rfl
  ecO _ es h := ⟨[], by simpa using h⟩

theorem stable_modTable_same (w : World) (t : Nat) (f : Table → Table)
    (h₁ : ∀ x, (f x).rows = x.rows) (h₂ : ∀ x, (f x).header = x.header)
    (h₃ : ∀ x, (f x).errs = x.errs) : Stable w (w.modTable t f) :=
  stable_modTable w t f h₁ h₂ (fun x => ⟨[], by simp [h₃ x]⟩)

theorem stable_modRow (w : World) (r : Nat) (f : Row → Row)
    (hT : ∀ t, (w.row r).ec = .table t ↔ (f (w.row r)).ec = .table t)
    (hO : ∀ es, (w.row r).ec = .own es → ∃ l, (f (w.row r)).ec = .own (es ++ l)) :
    Stable w (w.modRow r f) where
  tlen := rfl
  rlen := by simp
  trows _ := rfl
  thdr _ := rfl
  terrs _ := ⟨[], by simp⟩
  ecT r' t := by
    rw [row_modRow]; split
    · next h => obtain ⟨rfl, _⟩ := h; exact hT t
    · exact Iff.rfl
  ecO r' es h := by
    rw [row_modRow]; split
    · next h' => obtain ⟨rfl, _⟩ := h'; exact hO es h
    · exact ⟨[], by simpa using h⟩

theorem stable_modRow_same (w : World) (r : Nat) (f : Row → Row) (h : ∀ x, (f x).ec = x.ec) :
    Stable w (w.modRow r f) :=
  stable_modRow w r f (fun t => by rw [h]) (fun es hx => ⟨[], by rw [h]; simpa using hx⟩)

theorem live_of_stable {w w' : World} (h : Stable w w') (tk : Taker) (hl : w.live tk) :
    w'.live tk := by
  cases tk with
  | drop => exact hl
  | table t => exact Nat.lt_of_lt_of_eq hl h.tlen.symm
  | rowOwn r =>
    cases hec : (w.row r).ec with
    | own es =>
      obtain ⟨l, h'⟩ := h.ecO r es hec
      simp [live, h']
    | _ => simp [live, hec] at hl
  | rowLazy r =>
    obtain ⟨hr, ht⟩ := hl
    refine ⟨Nat.lt_of_lt_of_eq hr h.rlen.symm, ?_⟩
    cases hec' : (w'.row r).ec with
    | table t =>
      simp only [(h.ecT r t).mpr hec'] at ht
      exact Nat.lt_of_lt_of_eq ht h.tlen.symm
    | _ => trivial

/-- error lists only grow, so no id's mass ever falls -/
theorem mass_le_of_stable {w w' : World} (h : Stable w w') (e : Nat) : mass w e ≤ mass w' e := by
  refine Nat.add_le_add (sum_map_le_of_getD _ {} _ _ h.tlen (fun t => ?_))
    (sum_map_le_of_getD _ {} _ _ h.rlen (fun r => ?_))
  · obtain ⟨l, hl⟩ := h.terrs t
    show (w.table t).errs.count e ≤ (w'.table t).errs.count e
    rw [hl, List.count_append]; exact Nat.le_add_right _ _
  · show ownCount e (w.row r) ≤ ownCount e (w'.row r)
    cases hec : (w.row r).ec with
    | own es =>
      obtain ⟨l, hl⟩ := h.ecO r es hec
      simp only [ownCount, hec, hl, List.count_append]; exact Nat.le_add_right _ _
    | _ => simp only [ownCount, hec]; exact Nat.zero_le _

/-! ### `setProp` -/

theorem setProp_stable (w : World) (tgt : Target) (k : Key) (v : Option Val) :
    Stable w (setProp w tgt k v) := by
  cases tgt with
  | table t => exact stable_modTable_same _ _ _ (fun _ => rfl) (fun _ => rfl) (fun _ => rfl)
  | column t n => exact stable_modTable_same _ _ _ (fun _ => rfl) (fun _ => rfl) (fun _ => rfl)
  | row r => exact stable_modRow_same _ _ _ (fun _ => rfl)
  | cell r c => exact stable_modRow_same _ _ _ (fun _ => rfl)
  | copy n => exact stable_copies _ _

theorem mass_setProp (w : World) (tgt : Target) (k : Key) (v : Option Val) (e : Nat) :
    mass (setProp w tgt k v) e = mass w e := by
  cases tgt with
  | table t => exact mass_modTable_same _ _ _ _ (fun _ => rfl)
  | column t n => exact mass_modTable_same _ _ _ _ (fun _ => rfl)
  | row r => exact mass_modRow_same _ _ _ _ (fun _ => rfl)
  | cell r c => exact mass_modRow_same _ _ _ _ (fun _ => rfl)
  | copy n => rfl

theorem setProp_errs (w : World) (tgt : Target) (k : Key) (v : Option Val) (t : Nat) :
    ((setProp w tgt k v).table t).errs = (w.table t).errs := by
  cases tgt with
  | table t' => refine table_modTable_proj _ _ _ (·.errs) ?_ _; intro _; rfl
  | column t' n => refine table_modTable_proj _ _ _ (·.errs) ?_ _; intro _; rfl
  | _ => rfl

theorem setProp_ec (w : World) (tgt : Target) (k : Key) (v : Option Val) (r : Nat) :
    ((setProp w tgt k v).row r).ec = (w.row r).ec := by
  cases tgt with
  | row r' => refine row_modRow_proj _ _ _ (·.ec) ?_ _; intro _; rfl
  | cell r' c => refine row_modRow_proj _ _ _ (·.ec) ?_ _; intro _; rfl
  | _ => rfl

/-! ### `addErrTo` -/

theorem stable_addTable (w : World) (t e : Nat) :
    Stable w (w.modTable t (fun tb => { tb with errs := tb.errs ++ [e] })) :=
  stable_modTable _ _ _ (fun _ => rfl) (fun _ => rfl) (fun _ => ⟨[e], rfl⟩)

theorem addErrTo_stable (w : World) (tk : Taker) (e : Nat) : Stable w (addErrTo w tk e) := by
  cases tk with
  | drop => exact Stable.refl w
  | table t => exact stable_addTable w t e
  | rowOwn r =>
    refine stable_modRow _ _ _ (fun t => ?_) (fun es h => ⟨[e], by simp only [h]⟩)
    cases hec : (w.row r).ec <;> simp [hec]
  | rowLazy r =>
    rcases unattached_or w r with hu | ⟨t, hec⟩
    · rw [addErrTo_rowLazy_unattached w r e hu]
      refine stable_modRow _ _ _ (fun t => ?_) (fun es h => ⟨[e], by simp only [rowErrors, h]⟩)
      rcases hu with hu | ⟨es, hu⟩ <;> simp [hu]
    · simp only [addErrTo, hec]
      exact stable_addTable w t e

theorem addErrTo_ec_ne (w : World) (tk : Taker) (e r : Nat) (h1 : tk ≠ .rowOwn r) (h2 : tk ≠ .rowLazy r) :
    ((addErrTo w tk e).row r).ec = (w.row r).ec := by
  cases tk with
  | drop => rfl
  | table t => rfl
  | rowOwn r' =>
    have : r' ≠ r := fun h => h1 (by rw [h])
    simp only [addErrTo]; rw [row_modRow_ne _ _ _ _ this]
  | rowLazy r' =>
    have : r' ≠ r := fun h => h2 (by rw [h])
    simp only [addErrTo]
    split
    · rw [row_modRow_ne _ _ _ _ this]
    · rw [row_modRow_ne _ _ _ _ this]
    · rfl

/-! ### `invokeOne` / `invoke` -/

theorem invokeOne_stable (dw : Measure) (w : World) (cb : Cb) (tgt : Target) (tk : Taker) :
    Stable w (invokeOne dw w cb tgt tk) :=
  invokeOne_frame (P := Stable w) dw w cb tgt tk (fun _ _ h => h.trans (stable_events _ _))
    (fun _ _ _ h => h.trans (setProp_stable _ _ _ _)) (fun _ _ h => h.trans (addErrTo_stable _ _ _))
    (Stable.refl w)

/-- the step of the traversal principle of `Proofs/Traverse.lean` for `P := Stable w₀` -/
theorem Stable.invoke {dw : Measure} {w₀ : World} (w : World) (cbs : List Cb) (tgt : Target)
    (tk : Taker) (h : Stable w₀ w) : Stable w₀ (invoke dw w cbs tgt tk) :=
  invoke_frame dw cbs tgt tk (fun w' cb _ h' => h'.trans (invokeOne_stable dw w' cb tgt tk)) w h

theorem invoke_stable (dw : Measure) (w : World) (cbs : List Cb) (tgt : Target) (tk : Taker) :
    Stable w (invoke dw w cbs tgt tk) :=
  (Stable.refl w).invoke w cbs tgt tk

/-- the callbacks may set properties anywhere, including on `r`: `setProp` touches no container -/
theorem invoke_ec_ne (dw : Measure) (w : World) (cbs : List Cb) (tgt : Target) (tk : Taker) (r : Nat)
    (h1 : tk ≠ .rowOwn r) (h2 : tk ≠ .rowLazy r) :
    ((invoke dw w cbs tgt tk).row r).ec = (w.row r).ec :=
  invoke_frame (P := fun w' => (w'.row r).ec = (w.row r).ec) dw cbs tgt tk
    (fun w' cb _ h => invokeOne_frame (P := fun w' => (w'.row r).ec = (w.row r).ec) dw w' cb tgt tk
      (fun _ _ h => h)
      (fun _ _ _ h => (setProp_ec _ _ _ _ r).trans h)
      (fun _ _ h => (addErrTo_ec_ne _ tk _ r h1 h2).trans h) h) w rfl

theorem mass_raise (w : World) (tk : Taker) (e' e : Nat) (h : w.live tk) :
    mass (addErrTo w tk e') e = mass w e + if some e' = some e then 1 else 0 := by
  rw [mass_addErrTo w tk e' e h]
  simp only [Option.some.injEq, eq_comm]

theorem mass_invokeOne (dw : Measure) (w : World) (cb : Cb) (tgt : Target) (tk : Taker) (e : Nat)
    (h : w.live tk) :
    mass (invokeOne dw w cb tgt tk) e
      = mass w e + if raises tgt cb = some e then 1 else 0 := by
  cases cb with
  | log id => simp only [invokeOne, raises, mass_events, reduceCtorEq, if_false, Nat.add_zero]
  | setProp id k v =>
    simp only [invokeOne, raises, mass_setProp, mass_events, reduceCtorEq, if_false, Nat.add_zero]
  | fail id e' => exact mass_raise _ tk e' e h
  | dimSetter =>
    cases tgt with
    | cell r c =>
      simp only [invokeOne, raises, reduceCtorEq, if_false, Nat.add_zero]
      split <;> simp only [mass_setProp]
    | _ => exact mass_raise w tk _ e h
  | widthSetter =>
    cases tgt with
    | cell r c =>
      simp only [invokeOne, raises, reduceCtorEq, if_false, Nat.add_zero]
      split <;> simp only [mass_setProp]
    | _ => exact mass_raise w tk _ e h

theorem raiseCount_cons (tgt : Target) (e : Nat) (cb : Cb) (cbs : List Cb) :
    raiseCount tgt e (cb :: cbs) = (if raises tgt cb = some e then 1 else 0) + raiseCount tgt e cbs := by
  simp only [raiseCount, List.filter_cons, beq_iff_eq]
  split <;> simp <;> omega

theorem mass_invoke (dw : Measure) (w : World) (cbs : List Cb) (tgt : Target) (tk : Taker) (e : Nat)
    (h : w.live tk) :
    mass (invoke dw w cbs tgt tk) e = mass w e + raiseCount tgt e cbs := by
  induction cbs generalizing w with
  | nil => rfl
  | cons cb cbs ih =>
    rw [invoke_cons, ih _ (live_of_stable (invokeOne_stable dw w cb tgt tk) tk h),
      mass_invokeOne dw w cb tgt tk e h, raiseCount_cons, Nat.add_assoc]

/-! ### log-only callbacks change nothing but the event log -/

theorem invoke_logOnly (dw : Measure) (w : World) (cbs : List Cb) (tgt : Target) (tk : Taker)
    (h : cbs.all isLog = true) : ∃ evs, invoke dw w cbs tgt tk = { w with events := evs } := by
  induction cbs generalizing w with
  | nil => exact ⟨w.events, rfl⟩
  | cons cb cbs ih =>
    simp only [List.all_cons, Bool.and_eq_true] at h
    cases cb with
    | log id => exact ih { w with events := w.events ++ [⟨id, tgt⟩] } h.2
    | _ => exact absurd h.1 Bool.false_ne_true

theorem quietT_table (w : World) (t : Nat) (h : w.tables.all quietT = true) :
    (w.table t).cellCbs.add.all isLog = true ∧
      (w.table t).columns.all (fun c => c.cellCbs.add.all isLog) = true := by
  have : quietT (w.table t) = true :=
    getD_all (P := fun tb => quietT tb = true) rfl (fun tb => List.all_eq_true.mp h tb) t
  simpa only [quietT, Bool.and_eq_true] using this

theorem colCellCbs_quiet (w : World) (tc : Option (Nat × Nat)) (h : w.tables.all quietT = true) :
    (colCellCbs w tc .add).all isLog = true := by
  cases tc with
  | none => rfl
  | some p =>
    obtain ⟨t, n⟩ := p
    simp only [colCellCbs, column?]
    cases hc : (w.table t).columns[n]? with
    | none => rfl
    | some c => exact List.all_eq_true.mp (quietT_table w t h).2 c (List.mem_of_getElem? hc)

theorem addTimeCells_quiet (dw : Measure) (t r : Nat) (tkf : World → Taker) (n i : Nat) (w : World)
    (hq : w.tables.all quietT = true) :
    ∃ evs, addTimeCells dw t r tkf n i w = { w with events := evs } := by
  refine addTimeCells_reads (P := fun w' => ∃ evs, w' = { w with events := evs }) t r tkf
    ?_ ?_ n i w ⟨w.events, rfl⟩
  · rintro _ tc tgt tk ⟨evs, rfl⟩
    exact invoke_logOnly dw _ _ tgt tk (colCellCbs_quiet w tc hq)
  · rintro _ tgt tk ⟨evs, rfl⟩
    exact invoke_logOnly dw _ _ tgt tk (quietT_table w t hq).1

/-! ### `addRow` -/

/-- the part of `addRow` that runs before any callback -/
def addRowCore (w : World) (t r : Nat) : World :=
  let w := w.modTable t (fun tb => { tb with rows := tb.rows ++ [r] })
  let n := (w.table t).rows.length
  let w := w.modRow r (fun rw => { rw with inTable := some t, rowNum := n })
  let w := w.modTable t (fun tb => resizeColumnsAtLeast tb (w.rowCells r).length)
  let es := w.rowErrors r
  let w := w.modTable t (fun tb => { tb with errs := tb.errs ++ es })
  w.modRow r (fun rw => { rw with ec := .table t })

/-- the add-time callbacks of `addRow` -/
def addRowCbs (dw : Measure) (w : World) (t r : Nat) : World :=
  let w := invoke dw w ((w.row r).selfCbs.at .add) (.row r) (.table t)
  let w := invoke dw w ((w.table t).rowCbs.at .add) (.row r) (.table t)
  addTimeCells dw t r (fun w => rowECTaker w r) (w.rowCells r).length 0 w

theorem addRow_eq (dw : Measure) (w : World) (t r : Nat) :
    addRow dw w t r = addRowCbs dw (addRowCore w t r) t r := rfl

theorem resize_errs (tb : Table) (n : Nat) : (resizeColumnsAtLeast tb n).errs = tb.errs := by
  unfold resizeColumnsAtLeast; split <;> rfl
theorem resize_rows (tb : Table) (n : Nat) : (resizeColumnsAtLeast tb n).rows = tb.rows := by
  unfold resizeColumnsAtLeast; split <;> rfl
theorem resize_header (tb : Table) (n : Nat) : (resizeColumnsAtLeast tb n).header = tb.header := by
  unfold resizeColumnsAtLeast; split <;> rfl
theorem resize_rowCbs (tb : Table) (n : Nat) : (resizeColumnsAtLeast tb n).rowCbs = tb.rowCbs := by
  unfold resizeColumnsAtLeast; split <;> rfl
theorem resize_quiet (tb : Table) (n : Nat) (h : quietT tb = true) :
    quietT (resizeColumnsAtLeast tb n) = true := by
  unfold resizeColumnsAtLeast; split
  · exact h
  · simp only [quietT, Bool.and_eq_true, List.all_append] at h ⊢
    refine ⟨h.1, h.2, ?_⟩
    simp [List.all_replicate]

theorem rowErrors_of_own {w : World} {r : Nat} {es : List Nat} (h : (w.row r).ec = .own es) :
    rowErrors w r = es := by
  simp only [rowErrors, h]

theorem unattached_of_ec {w w' : World} {r : Nat} (h : (w'.row r).ec = (w.row r).ec)
    (hu : w.unattached r) : w'.unattached r := by
  unfold unattached; rw [h]; exact hu

theorem rowErrors_of_ec (w w' : World) (r : Nat) (h : (w'.row r).ec = (w.row r).ec)
    (hu : w.unattached r) : rowErrors w' r = rowErrors w r := by
  unfold rowErrors; rw [h]
  rcases hu with hu | ⟨es, hu⟩ <;> simp [hu]

/-- `addRowCore` up to the point where the row's errors are absorbed: the row is listed and numbered and the
    columns are resized; no container and no error list is touched -/
def addRowPre (w : World) (t r : Nat) : World :=
  let w := w.modTable t (fun tb => { tb with rows := tb.rows ++ [r] })
  let n := (w.table t).rows.length
  let w := w.modRow r (fun rw => { rw with inTable := some t, rowNum := n })
  w.modTable t (fun tb => resizeColumnsAtLeast tb (w.rowCells r).length)

theorem addRowCore_eq (w : World) (t r : Nat) :
    addRowCore w t r =
      ((addRowPre w t r).modTable t (fun tb => { tb with errs := tb.errs ++ rowErrors (addRowPre w t r) r })).modRow r
        (fun rw => { rw with ec := .table t }) := rfl

theorem addRowPre_ec (w : World) (t r r' : Nat) : ((addRowPre w t r).row r').ec = (w.row r').ec := by
  simp only [addRowPre, row_modTable]
  refine row_modRow_proj _ _ _ (·.ec) ?_ _
  intro _; rfl

theorem addRowPre_errs (w : World) (t r t' : Nat) :
    ((addRowPre w t r).table t').errs = (w.table t').errs := by
  simp only [addRowPre]
  refine (table_modTable_proj _ _ _ (·.errs) (fun x => resize_errs x _) _).trans ?_
  rw [table_modRow]
  refine table_modTable_proj _ _ _ (·.errs) ?_ _
  intro _; rfl

theorem addRowPre_mass (w : World) (t r e : Nat) : mass (addRowPre w t r) e = mass w e := by
  simp only [addRowPre]
  refine (mass_modTable_same _ _ _ _ (fun x => resize_errs x _)).trans
    ((mass_modRow_same _ _ _ _ ?_).trans (mass_modTable_same _ _ _ _ ?_)) <;> intro _ <;> rfl

theorem addRowCore_tables_length (w : World) (t r : Nat) :
    (addRowCore w t r).tables.length = w.tables.length := by simp [addRowCore]

theorem addRowCore_rows_length (w : World) (t r : Nat) :
    (addRowCore w t r).rows.length = w.rows.length := by simp [addRowCore]

theorem addRowCore_ec (w : World) (t r : Nat) (hr : r < w.rows.length) :
    ((addRowCore w t r).row r).ec = .table t := by
  rw [addRowCore_eq, row_modRow_self _ _ _ (by simpa [addRowPre] using hr)]

theorem addRowCore_ec_ne (w : World) (t r r' : Nat) (h : r ≠ r') :
    ((addRowCore w t r).row r').ec = (w.row r').ec := by
  rw [addRowCore_eq, row_modRow_ne _ _ _ _ h, row_modTable, addRowPre_ec]

theorem addRowPre_rowErrors (w : World) (t r r' : Nat) : rowErrors (addRowPre w t r) r' = rowErrors w r' := by
  simp only [rowErrors, addRowPre_ec, addRowPre_errs]

theorem addRowCore_errs (w : World) (t r : Nat) (ht : t < w.tables.length) :
    ((addRowCore w t r).table t).errs = (w.table t).errs ++ rowErrors w r := by
  rw [addRowCore_eq, table_modRow, table_modTable_self _ _ _ (by simpa [addRowPre] using ht)]
  simp only [addRowPre_errs, addRowPre_rowErrors]

theorem addRowCore_table_ne (w : World) (t r t' : Nat) (h : t ≠ t') :
    (addRowCore w t r).table t' = w.table t' := by
  simp only [addRowCore, table_modRow]
  rw [table_modTable_ne _ _ _ _ h, table_modTable_ne _ _ _ _ h]
  simp only [table_modRow]
  rw [table_modTable_ne _ _ _ _ h]

theorem addRowCore_errs_ne (w : World) (t r t' : Nat) (h : t ≠ t') :
    ((addRowCore w t r).table t').errs = (w.table t').errs :=
  congrArg Table.errs (addRowCore_table_ne w t r t' h)

theorem mass_absorb (w : World) (t r : Nat) (ht : t < w.tables.length) (hr : r < w.rows.length)
    (hu : w.unattached r) (e : Nat) :
    mass ((w.modTable t (fun tb => { tb with errs := tb.errs ++ rowErrors w r })).modRow r
      (fun rw => { rw with ec := .table t })) e = mass w e := by
  have h1 := mass_modTable w t (fun tb => { tb with errs := tb.errs ++ rowErrors w r }) e ht
  have h2 := mass_modRow (w.modTable t (fun tb => { tb with errs := tb.errs ++ rowErrors w r })) r
    (fun rw => { rw with ec := .table t }) e (by simpa using hr)
  rw [row_modTable, ownCount_unattached hu] at h2
  simp only [ownCount, List.count_append] at h1 h2
  omega

theorem addRowCore_mass (w : World) (t r : Nat) (ht : t < w.tables.length) (hr : r < w.rows.length)
    (hu : w.unattached r) (e : Nat) : mass (addRowCore w t r) e = mass w e := by
  rw [addRowCore_eq, mass_absorb _ t r (by simpa [addRowPre] using ht) (by simpa [addRowPre] using hr)
    (unattached_of_ec (addRowPre_ec w t r r) hu), addRowPre_mass]

theorem addRowCore_quiet (w : World) (t r : Nat) (h : w.tables.all quietT = true) :
    (addRowCore w t r).tables.all quietT = true := by
  simp only [addRowCore, modRow_tables]
  refine all_modify _ _ _ _ (fun _ hx => hx) ?_
  refine all_modify _ _ _ _ (fun x hx => resize_quiet x _ hx) ?_
  simp only [modRow_tables]
  exact all_modify _ _ _ _ (fun _ hx => hx) h

theorem addRowCore_selfCbs (w : World) (t r : Nat) :
    ((addRowCore w t r).row r).selfCbs = (w.row r).selfCbs := by
  simp only [addRowCore]
  refine (row_modRow_proj _ _ _ (·.selfCbs) ?_ _).trans ?_
  · intro _; rfl
  simp only [row_modTable]
  refine (row_modRow_proj _ _ _ (·.selfCbs) ?_ _).trans rfl
  intro _; rfl

/-- a field of a table that appending a row, resizing the columns and extending the error list keep -/
theorem addRowCore_table_proj {β} (g : Table → β) (w : World) (t r t' : Nat)
    (hrows : ∀ tb l, g { tb with rows := l } = g tb) (hres : ∀ tb n, g (resizeColumnsAtLeast tb n) = g tb)
    (herrs : ∀ tb l, g { tb with errs := l } = g tb) :
    g ((addRowCore w t r).table t') = g (w.table t') := by
  simp only [addRowCore, table_modRow]
  refine (table_modTable_proj _ _ _ g (fun _ => herrs _ _) _).trans ?_
  refine (table_modTable_proj _ _ _ g (fun _ => hres _ _) _).trans ?_
  simp only [table_modRow]
  exact table_modTable_proj _ _ _ g (fun _ => hrows _ _) _

theorem addRowCore_rowCbs (w : World) (t r : Nat) :
    ((addRowCore w t r).table t).rowCbs = (w.table t).rowCbs :=
  addRowCore_table_proj (·.rowCbs) w t r t (fun _ _ => rfl) resize_rowCbs (fun _ _ => rfl)

theorem addRowCore_header (w : World) (t r t' : Nat) :
    ((addRowCore w t r).table t').header = (w.table t').header :=
  addRowCore_table_proj (·.header) w t r t' (fun _ _ => rfl) resize_header (fun _ _ => rfl)

theorem addRowCbs_quiet (dw : Measure) (w : World) (t r : Nat)
    (h₁ : ((w.row r).selfCbs.add).all isLog = true)
    (h₂ : ((w.table t).rowCbs.add).all isLog = true)
    (h₃ : w.tables.all quietT = true) :
    ∃ evs, addRowCbs dw w t r = { w with events := evs } := by
  simp only [addRowCbs]
  obtain ⟨ev1, e1⟩ := invoke_logOnly dw w ((w.row r).selfCbs.at .add) (.row r) (.table t) h₁
  rw [e1]
  obtain ⟨ev2, e2⟩ := invoke_logOnly dw { w with events := ev1 }
    ((World.table { w with events := ev1 } t).rowCbs.at .add) (.row r) (.table t) h₂
  rw [e2]
  exact addTimeCells_quiet dw t r (fun w => rowECTaker w r)
    (World.rowCells { w with events := ev2 } r).length 0 { w with events := ev2 } h₃

theorem addRow_quiet (dw : Measure) (w : World) (t r : Nat) (h : addQuiet w t r = true) :
    ∃ evs, addRow dw w t r = { addRowCore w t r with events := evs } := by
  simp only [addQuiet, Bool.and_eq_true] at h
  rw [addRow_eq]
  apply addRowCbs_quiet
  · rw [addRowCore_selfCbs]; exact h.1.1
  · rw [addRowCore_rowCbs]; exact h.1.2
  · exact addRowCore_quiet w t r h.2

/-! ### the monitored render traversal -/

theorem invokeC_fst (dw : Measure) (c : Chk) (cbs : World → List Cb) (tgt : Target)
    (tk : World → Taker) : (invokeC dw c cbs tgt tk).1 = invoke dw c.1 (cbs c.1) tgt (tk c.1) := rfl

theorem foldC_fst (dw : Measure) (tgt : Target)
    (calls : List ((World → List Cb) × (World → Taker))) (c : Chk) :
    (calls.foldl (fun c d => invokeC dw c d.1 tgt d.2) c).1
      = calls.foldl (fun w d => invoke dw w (d.1 w) tgt (d.2 w)) c.1 := by
  induction calls generalizing c with
  | nil => rfl
  | cons d ds ih => simp only [List.foldl_cons, ih, invokeC_fst]

theorem renderCellsC_fst (dw : Measure) (t r n i : Nat) (c : Chk) :
    (renderCellsC dw t r n i c).1 = renderCells dw t r n i c.1 := by
  induction n generalizing i c with
  | zero => rfl
  | succ n ih =>
    rw [renderCellsC, renderCells_succ, ih, renderCellC, foldC_fst]

theorem renderRowC_fst (dw : Measure) (t : Nat) (c : Chk) (r : Nat) :
    (renderRowC dw t c r).1 = renderRow dw t c.1 r := by
  simp only [renderRowC, renderRow, invokeC_fst, renderCellsC_fst]

theorem renderColumnsC_fst (dw : Measure) (t : Nat) (tm : Time) (n i : Nat) (c : Chk) :
    (renderColumnsC dw t tm n i c).1 = renderColumns dw t tm n i c.1 := by
  induction n generalizing i c with
  | zero => rfl
  | succ n ih =>
    rw [renderColumnsC, renderColumns]
    exact ih _ _

theorem foldl_renderRowC_fst (dw : Measure) (t : Nat) (rs : List Nat) (c : Chk) :
    (rs.foldl (renderRowC dw t) c).1 = rs.foldl (renderRow dw t) c.1 := by
  induction rs generalizing c with
  | nil => rfl
  | cons r rs ih => simp only [List.foldl_cons, ih, renderRowC_fst]

theorem renderHeaderC_fst (dw : Measure) (t : Nat) (c : Chk) :
    (renderHeaderC dw t c).1 = renderHeader dw t c.1 := by
  cases h : (c.1.table t).header <;> simp [renderHeaderC, renderHeader, h, renderRowC_fst]

theorem invokeRenderCallbacksC_fst (dw : Measure) (c : Chk) (t : Nat) :
    (invokeRenderCallbacksC dw c t).1 = invokeRenderCallbacks dw c.1 t := by
  rw [invokeRenderCallbacks_eq]
  simp only [invokeRenderCallbacksC, invokeC_fst, renderColumnsC_fst,
    foldl_renderRowC_fst, renderHeaderC_fst]

/-! ### `Stable` through the traversals -/

theorem invokeRenderCallbacks_stable (dw : Measure) (w : World) (t : Nat) :
    Stable w (invokeRenderCallbacks dw w t) :=
  invokeRenderCallbacks_keeps (P := Stable w) Stable.invoke t w (Stable.refl w)

theorem addTimeCells_stable (dw : Measure) (t r : Nat) (tkf : World → Taker) (n i : Nat)
    (w : World) : Stable w (addTimeCells dw t r tkf n i w) :=
  addTimeCells_keeps (P := Stable w) Stable.invoke t r tkf n i w (Stable.refl w)

/-! ### the monitor stays true when all rows are attached -/

theorem attachedAll_stable {w w' : World} (h : Stable w w') (t : Nat) (ha : attachedAll w t) :
    attachedAll w' t := by
  obtain ⟨ht, hr, hh⟩ := ha
  refine ⟨by rw [h.tlen]; exact ht, ?_, ?_⟩
  · intro r hmem; rw [h.trows] at hmem; exact (h.ecT r t).mp (hr r hmem)
  · intro r hmem; rw [h.thdr] at hmem; exact (h.ecT r t).mp (hh r hmem)

theorem live_of_attached {w : World} {t r : Nat} {tk : Taker} (ht : t < w.tables.length)
    (hec : (w.row r).ec = .table t) (htk : tk = .table t ∨ tk = rowECTaker w r) : live w tk := by
  rcases htk with rfl | rfl
  · exact ht
  · simp only [rowECTaker, hec]; exact ht

def OkR (t r : Nat) (c : Chk) : Prop :=
  c.2 ∧ t < c.1.tables.length ∧ (c.1.row r).ec = .table t

theorem invokeC_okR (dw : Measure) (t r : Nat) (c : Chk) (cbs : World → List Cb) (tgt : Target)
    (tk : World → Taker) (hk : OkR t r c)
    (htk : tk c.1 = .table t ∨ tk c.1 = rowECTaker c.1 r) :
    OkR t r (invokeC dw c cbs tgt tk) :=
  have hs := invoke_stable dw c.1 (cbs c.1) tgt (tk c.1)
  ⟨⟨hk.1, live_of_attached hk.2.1 hk.2.2 htk⟩, hs.tlen ▸ hk.2.1, (hs.ecT r t).mp hk.2.2⟩

theorem foldC_okR (dw : Measure) (t r : Nat) (tgt : Target)
    (calls : List ((World → List Cb) × (World → Taker))) (c : Chk)
    (hcalls : ∀ d ∈ calls, ∀ w, d.2 w = .table t ∨ d.2 w = rowECTaker w r)
    (hk : OkR t r c) : OkR t r (calls.foldl (fun c d => invokeC dw c d.1 tgt d.2) c) := by
  induction calls generalizing c with
  | nil => exact hk
  | cons d ds ih =>
    exact ih _ (fun d' hd' => hcalls d' (List.mem_cons_of_mem _ hd'))
      (invokeC_okR dw t r c d.1 tgt d.2 hk (hcalls d List.mem_cons_self c.1))

theorem cellCalls_takers (t r i : Nat) (col : Option (Nat × Nat)) :
    ∀ d ∈ cellCalls t r i col, ∀ w, d.2 w = .table t ∨ d.2 w = rowECTaker w r := by
  intro d hd w
  simp only [cellCalls, List.mem_cons, List.not_mem_nil, or_false] at hd
  rcases hd with h | h | h | h | h | h | h | h <;> subst h <;> simp

theorem renderCellsC_okR (dw : Measure) (t r n i : Nat) (c : Chk) (hk : OkR t r c) :
    OkR t r (renderCellsC dw t r n i c) := by
  induction n generalizing i c with
  | zero => exact hk
  | succ n ih => exact ih _ _ (foldC_okR dw t r _ _ c (cellCalls_takers t r i _) hk)

theorem renderRowC_okR (dw : Measure) (t r : Nat) (c : Chk) (hk : OkR t r c) :
    OkR t r (renderRowC dw t c r) := by
  unfold renderRowC
  exact invokeC_okR _ _ _ _ _ _ _ (renderCellsC_okR _ _ _ _ _ _ (invokeC_okR _ _ _ _ _ _ _ hk (Or.inl rfl)))
    (Or.inl rfl)

def Ok (t : Nat) (c : Chk) : Prop := c.2 ∧ attachedAll c.1 t

theorem invokeC_ok (dw : Measure) (t : Nat) (c : Chk) (cbs : World → List Cb) (tgt : Target)
    (hk : Ok t c) : Ok t (invokeC dw c cbs tgt (fun _ => .table t)) :=
  ⟨⟨hk.1, hk.2.1⟩, attachedAll_stable (invoke_stable dw c.1 _ tgt _) t hk.2⟩

theorem renderRowC_stable (dw : Measure) (t : Nat) (c : Chk) (r : Nat) :
    Stable c.1 (renderRowC dw t c r).1 := by
  rw [renderRowC_fst]
  exact renderRow_keeps (P := Stable c.1) Stable.invoke t c.1 r (Stable.refl c.1)

theorem renderRowC_ok (dw : Measure) (t r : Nat) (c : Chk) (hk : Ok t c)
    (hr : (c.1.row r).ec = .table t) : Ok t (renderRowC dw t c r) :=
  ⟨(renderRowC_okR dw t r c ⟨hk.1, hk.2.1, hr⟩).1, attachedAll_stable (renderRowC_stable dw t c r) t hk.2⟩

theorem renderColumnsC_ok (dw : Measure) (t : Nat) (tm : Time) (n i : Nat) (c : Chk)
    (hk : Ok t c) : Ok t (renderColumnsC dw t tm n i c) := by
  induction n generalizing i c with
  | zero => exact hk
  | succ n ih => exact ih _ _ (invokeC_ok dw t c _ _ hk)

theorem foldl_renderRowC_ok (dw : Measure) (t : Nat) (rs : List Nat) (c : Chk) (hk : Ok t c)
    (hrs : ∀ r ∈ rs, r ∈ (c.1.table t).rows) : Ok t (rs.foldl (renderRowC dw t) c) := by
  induction rs generalizing c with
  | nil => exact hk
  | cons r rs ih =>
    rw [List.foldl_cons]
    refine ih _ (renderRowC_ok dw t r c hk (hk.2.2.1 r (hrs r List.mem_cons_self))) (fun r' hr' => ?_)
    rw [(renderRowC_stable dw t c r).trows]
    exact hrs r' (List.mem_cons_of_mem _ hr')

theorem renderHeaderC_ok (dw : Measure) (t : Nat) (c : Chk) (hk : Ok t c) :
    Ok t (renderHeaderC dw t c) := by
  unfold renderHeaderC
  split
  · next hr h => exact renderRowC_ok dw t hr c hk (hk.2.2.2 hr h)
  · exact hk

theorem invokeRenderCallbacksC_ok (dw : Measure) (t : Nat) (c : Chk) (hk : Ok t c) :
    Ok t (invokeRenderCallbacksC dw c t) := by
  unfold invokeRenderCallbacksC
  exact invokeC_ok dw t _ _ _ (renderColumnsC_ok dw t _ _ _ _ (foldl_renderRowC_ok dw t _ _
    (renderHeaderC_ok dw t _ (renderColumnsC_ok dw t _ _ _ _ (invokeC_ok dw t c _ _ hk)))
    (fun _ h => h)))

/-! ### `rowAddCell` on a cell row -/

/-- `rowAddCell` up to (not including) the add-time cell callbacks -/
def rowAddCellPre (w : World) (r : Nat) (ce : Cell) (cs : List Cell) : World :=
  let col := cs.length + 1
  let w := w.modRow r (fun rw =>
    { rw with cells := some (cs ++ [{ ce with inRow := some r, columnNum := col }]) })
  match (w.row r).inTable with
  | some t => w.modTable t (fun tb => resizeColumnsAtLeast tb col)
  | none => w

theorem rowAddCell_some (dw : Measure) (w : World) (r : Nat) (ce : Cell) (cs : List Cell)
    (hc : (w.row r).cells = some cs) :
    rowAddCell dw w r ce = invoke dw (rowAddCellPre w r ce cs)
      (((rowAddCellPre w r ce cs).row r).cellCbs.at .add) (.cell r cs.length) (.rowLazy r) := by
  simp only [rowAddCell, hc, rowAddCellPre, Nat.add_sub_cancel]
  rfl

theorem stable_resize (w : World) (t n : Nat) :
    Stable w (w.modTable t (fun tb => resizeColumnsAtLeast tb n)) :=
  stable_modTable_same _ _ _ (fun x => resize_rows x n) (fun x => resize_header x n)
    (fun x => resize_errs x n)

theorem rowAddCellPre_stable (w : World) (r : Nat) (ce : Cell) (cs : List Cell) :
    Stable w (rowAddCellPre w r ce cs) := by
  unfold rowAddCellPre
  simp only
  split
  · refine Stable.trans (stable_modRow_same _ _ _ ?_) (stable_resize _ _ _); intro _; rfl
  · refine stable_modRow_same _ _ _ ?_; intro _; rfl

theorem rowAddCellPre_mass (w : World) (r : Nat) (ce : Cell) (cs : List Cell) (e : Nat) :
    mass (rowAddCellPre w r ce cs) e = mass w e := by
  unfold rowAddCellPre
  simp only
  split
  · rw [mass_modTable_same _ _ _ _ (fun x => resize_errs x _)]
    refine mass_modRow_same _ _ _ _ ?_; intro _; rfl
  · refine mass_modRow_same _ _ _ _ ?_; intro _; rfl

theorem rowAddCellPre_cellCbs (w : World) (r : Nat) (ce : Cell) (cs : List Cell) :
    ((rowAddCellPre w r ce cs).row r).cellCbs = (w.row r).cellCbs := by
  unfold rowAddCellPre
  simp only
  split
  · rw [row_modTable]
    refine row_modRow_proj _ _ _ (·.cellCbs) ?_ _; intro _; rfl
  · refine row_modRow_proj _ _ _ (·.cellCbs) ?_ _; intro _; rfl

/-! ### `Stable` through the building operations -/

theorem rowAddCell_stable (dw : Measure) (w : World) (r : Nat) (ce : Cell) :
    Stable w (rowAddCell dw w r ce) := by
  cases hc : (w.row r).cells with
  | none => simp only [rowAddCell, hc]; exact addErrTo_stable _ _ _
  | some cs => rw [rowAddCell_some dw w r ce cs hc]; exact (rowAddCellPre_stable w r ce cs).invoke _ _ _ _

theorem rowAddMany_stable (dw : Measure) (r : Nat) (is : List Nat) (w : World) :
    Stable w (rowAddMany dw r is w) := by
  induction is generalizing w with
  | nil => exact Stable.refl w
  | cons i is ih =>
    rw [rowAddMany]
    exact (rowAddCell_stable dw w r _).trans (ih _)

theorem addRowCbs_stable (dw : Measure) (w : World) (t r : Nat) :
    Stable w (addRowCbs dw w t r) := by
  unfold addRowCbs
  exact ((invoke_stable dw w _ _ _).trans (invoke_stable dw _ _ _ _)).trans
    (addTimeCells_stable dw t r _ _ _ _)

/-- a table's or a column's callbacks live in a table, a row's or a cell's in a row, a copy's in `copies` -/
theorem registerCb_stable (w w' : World) (owner : Target) (tm : Time) (tg : CbTarget) (cb : Cb)
    (h : registerCb w owner tm tg cb = some w') : Stable w w' := by
  cases owner with
  | table t =>
    cases tg <;> simp only [registerCb, Option.some.injEq] at h <;> subst h <;>
      exact stable_modTable_same _ _ _ (fun _ => rfl) (fun _ => rfl) (fun _ => rfl)
  | column t n =>
    cases tg <;> simp only [registerCb, Option.some.injEq, reduceCtorEq] at h <;> subst h <;>
      exact stable_modTable_same _ _ _ (fun _ => rfl) (fun _ => rfl) (fun _ => rfl)
  | row r =>
    cases tg <;> simp only [registerCb, Option.some.injEq] at h <;> subst h <;>
      exact stable_modRow_same _ _ _ (fun _ => rfl)
  | cell r c =>
    cases tg <;> simp only [registerCb, Option.some.injEq, reduceCtorEq] at h <;> subst h <;>
      exact stable_modRow_same _ _ _ (fun _ => rfl)
  | copy n =>
    cases tg <;> simp only [registerCb, Option.some.injEq, reduceCtorEq] at h <;> subst h <;>
      exact stable_copies _ _

/-! ### `attachedAll` is an invariant of the building operations -/

theorem attachedAll_of {w w' : World} {t' : Nat}
    (hlen : w.tables.length ≤ w'.tables.length)
    (hec : ∀ r', (w.row r').ec = .table t' → (w'.row r').ec = .table t')
    (hrows : ∀ r' ∈ (w'.table t').rows, r' ∈ (w.table t').rows ∨ (w'.row r').ec = .table t')
    (hhdr : ∀ r' ∈ (w'.table t').header, r' ∈ (w.table t').header ∨ (w'.row r').ec = .table t')
    (h : attachedAll w t') : attachedAll w' t' := by
  obtain ⟨ht, hr, hh⟩ := h
  exact ⟨Nat.lt_of_lt_of_le ht hlen, fun r' hm => (hrows r' hm).elim (fun h' => hec r' (hr r' h')) id,
    fun r' hm => (hhdr r' hm).elim (fun h' => hec r' (hh r' h')) id⟩

/-- the shape `addRow` and `addSeparator` share: headers are kept, and the only change to a row list is that
    table `t` gains row `r`, which shares `t`'s container -/
theorem attachedAll_append {w w' : World} {t r t' : Nat}
    (hlen : w.tables.length ≤ w'.tables.length)
    (hec : ∀ r', (w.row r').ec = .table t' → (w'.row r').ec = .table t')
    (hnew : (w'.row r).ec = .table t)
    (hrows : (w'.table t').rows = (w.table t').rows ∨
      t = t' ∧ (w'.table t').rows = (w.table t').rows ++ [r])
    (hhdr : (w'.table t').header = (w.table t').header)
    (h : attachedAll w t') : attachedAll w' t' := by
  refine attachedAll_of hlen hec (fun r' hm => ?_) (fun r' hm => Or.inl (hhdr ▸ hm)) h
  rcases hrows with hrows | ⟨rfl, hrows⟩
  · exact Or.inl (hrows ▸ hm)
  · rw [hrows] at hm
    rcases List.mem_append.mp hm with hm | hm
    · exact Or.inl hm
    · exact Or.inr (List.mem_singleton.mp hm ▸ hnew)

theorem addRowCore_rows (w : World) (t r : Nat) (ht : t < w.tables.length) :
    ((addRowCore w t r).table t).rows = (w.table t).rows ++ [r] := by
  simp only [addRowCore, table_modRow]
  refine (table_modTable_proj _ _ _ (·.rows) ?_ _).trans ?_
  · intro _; rfl
  refine (table_modTable_proj _ _ _ (·.rows) (fun x => resize_rows x _) _).trans ?_
  simp only [table_modRow]
  rw [table_modTable_self _ _ _ ht]

theorem addRowCore_rows_ne (w : World) (t r t' : Nat) (h : t ≠ t') :
    ((addRowCore w t r).table t').rows = (w.table t').rows :=
  congrArg Table.rows (addRowCore_table_ne w t r t' h)

theorem attachedAll_addRow (dw : Measure) (w : World) (t r t' : Nat) (ht : t < w.tables.length)
    (hr : r < w.rows.length) (hu : unattached w r) (h : attachedAll w t') :
    attachedAll (addRow dw w t r) t' := by
  rw [addRow_eq]
  apply attachedAll_stable (addRowCbs_stable dw _ t r)
  refine attachedAll_append (Nat.le_of_eq (addRowCore_tables_length w t r).symm) (fun r' h' => ?_)
    (addRowCore_ec w t r hr) ?_ (addRowCore_header w t r t') h
  · -- an attached row is not the unattached `r`
    have hne : r ≠ r' := by
      rintro rfl
      rcases hu with hu | ⟨es, hu⟩ <;> simp [hu] at h'
    rw [addRowCore_ec_ne w t r r' hne]; exact h'
  · by_cases htt : t = t'
    · subst htt; exact Or.inr ⟨rfl, addRowCore_rows w t r ht⟩
    · exact Or.inl (addRowCore_rows_ne w t r t' htt)

theorem attachedAll_newRow (w : World) (rw : Row) (t' : Nat) (h : attachedAll w t') :
    attachedAll (w.newRow rw).1 t' := by
  refine attachedAll_of (w := w) (Nat.le_refl _) ?_ (fun _ hm => Or.inl hm) (fun _ hm => Or.inl hm) h
  intro r' h'
  rw [row_newRow_lt w rw r' (row_ec_lt w r' (by simp [h']))]; exact h'

theorem attachedAll_newTable (w : World) (t' : Nat) (h : attachedAll w t') :
    attachedAll w.newTable.1 t' ∧ attachedAll w.newTable.1 w.tables.length := by
  have hfresh : w.newTable.1.table w.tables.length = {} := getD_append_length _ _ _
  refine ⟨?_, ?_, ?_, ?_⟩
  · have hsame : w.newTable.1.table t' = w.table t' := table_newTable w t'
    refine attachedAll_of (w := w) (by simp [newTable]) (fun _ h' => h') ?_ ?_ h
    · intro r' hm; rw [hsame] at hm; exact Or.inl hm
    · intro r' hm; rw [hsame] at hm; exact Or.inl hm
  · simp [newTable]
  · intro r' hm; rw [hfresh] at hm; simp at hm
  · intro r' hm; rw [hfresh] at hm; simp at hm

theorem addSeparator_ec (w : World) (t : Nat) : ((addSeparator w t).row w.rows.length).ec = .table t := by
  simp only [addSeparator, newRow]
  rw [row_modRow_self _ _ _ (by simp)]

theorem attachedAll_addSeparator (w : World) (t t' : Nat)
    (h : attachedAll w t') : attachedAll (addSeparator w t) t' := by
  refine attachedAll_append (by simp [addSeparator, newRow]) (fun r' h' => ?_) (addSeparator_ec w t) ?_ ?_ h
  · have hlt := row_ec_lt w r' (by simp [h'])
    simp only [addSeparator, newRow]
    rw [row_modRow_ne _ _ _ _ (Nat.ne_of_gt hlt), row_modTable]
    exact (congrArg Row.ec (getD_append_lt w.rows _ _ r' hlt)).trans h'
  · simp only [addSeparator, table_modRow]
    rw [table_modTable]; split
    · next hc => exact Or.inr ⟨hc.1, rfl⟩
    · exact Or.inl rfl
  · simp only [addSeparator, table_modRow]
    refine table_modTable_proj _ _ _ (·.header) ?_ _
    intro _; rfl

theorem rowAddMany_newRow_ec (dw : Measure) (w : World) (rw : Row) (items : List Nat) (t : Nat)
    (h : rw.ec = .table t) :
    ((rowAddMany dw w.rows.length items (w.newRow rw).1).row w.rows.length).ec = .table t :=
  ((rowAddMany_stable dw _ items _).ecT _ t).mp ((congrArg Row.ec (row_newRow_self w rw)).trans h)

/-- making an attached row the header -/
theorem attachedAll_setHeader {w : World} {t hr t' : Nat} (hec : (w.row hr).ec = .table t)
    (h : attachedAll w t') : attachedAll (w.modTable t (fun tb => { tb with header := some hr })) t' := by
  refine attachedAll_of (w := w) (by simp) (fun _ h' => h') (fun r' hm => Or.inl ?_) (fun r' hm => ?_) h
  · refine (congrArg (r' ∈ ·) (table_modTable_proj _ _ _ (·.rows) ?_ _)).mp hm
    intro _; rfl
  · rw [table_modTable] at hm
    split at hm
    · next hc => cases hm; exact Or.inr (hc.1 ▸ hec)
    · exact Or.inl hm

theorem attachedAll_addHeaders (dw : Measure) (w : World) (t t' : Nat) (items : List Nat)
    (h : attachedAll w t') :
    attachedAll (addHeaders dw w t items) t' := by
  refine attachedAll_stable ((invoke_stable dw _ _ _ _).trans (addTimeCells_stable dw t _ _ _ _ _)) t'
    (attachedAll_setHeader (t := t) (hr := w.rows.length) ?_ ?_)
  · exact rowAddMany_newRow_ec dw (w.modTable t (fun tb => resizeColumnsAtLeast tb items.length))
      { ec := .table t } items t rfl
  · exact attachedAll_stable (rowAddMany_stable dw w.rows.length items _) t'
      (attachedAll_newRow _ { ec := .table t } t' (attachedAll_stable (stable_resize w t items.length) t' h))

end World
end Tab
