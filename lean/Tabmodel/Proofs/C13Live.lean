/- Property chains read through the world (`chainOf`, `getProp`) after a write: each primitive update touches the
   chain of one owner at most, an update addressed to an owner that does not exist is a no-op, and `setProp` has
   one formula for every owner's chain afterwards. -/
import Tabmodel.Proofs.C13World
import Tabmodel.Proofs.Chain
namespace Tab
open World
namespace C13

theorem getProp_eq_get (w : World) (o : Target) (k : Key) : w.getProp o k = (w.chainOf o).get k := by
  cases o with
  | table t => rfl
  | row r => rfl
  | column t n => simp only [World.getProp, World.chainOf]; cases w.column? t n <;> rfl
  | cell r c => simp only [World.getProp, World.chainOf]; cases w.cell? r c <;> rfl
  | copy n => simp only [World.getProp, World.chainOf]; cases w.copies[n]? <;> rfl

theorem chainOf_setProp_self (w : World) (o : Target) (k : Key) (v : Option Val) (h : w.hasObj o) :
    (w.setProp o k v).chainOf o = (w.chainOf o).set k v := by
  cases o with
  | table t => exact congrArg Table.props (table_modTable_self w t _ h)
  | row r => exact congrArg Row.props (row_modRow_self w r _ h)
  | column t n =>
    obtain ⟨c, hc⟩ : ∃ c, w.column? t n = some c := ⟨_, List.getElem?_eq_getElem h.2⟩
    simp [World.chainOf, World.setProp, column?_modColumn, h.1, hc]
  | cell r i =>
    obtain ⟨c, hc⟩ := Option.isSome_iff_exists.mp h
    simp [World.chainOf, World.setProp, cell?_modCell, hc]
  | copy n =>
    simp [World.chainOf, World.setProp, List.getElem?_eq_getElem h]

theorem getProp_setProp_self (w : World) (o : Target) (k : Key) (v : Option Val) (h : w.hasObj o) :
    (w.setProp o k v).getProp o k = ((w.chainOf o).set k v).get k := by
  rw [getProp_eq_get, chainOf_setProp_self w o k v h]

theorem chainOf_modTable_of (w : World) (t : Nat) (f : Table → Table) (o : Target)
    (h1 : o = .table t → ∀ tb, (f tb).props = tb.props)
    (h2 : ∀ n, o = .column t n → ∀ tb : Table,
      (((f tb).columns[n]?).map Column.props).getD [] = ((tb.columns[n]?).map Column.props).getD []) :
    (w.modTable t f).chainOf o = w.chainOf o := by
  cases o with
  | table t' =>
    simp only [World.chainOf, World.table_modTable]
    split
    · rename_i hh; obtain ⟨rfl, _⟩ := hh; exact h1 rfl _
    · rfl
  | column t' n =>
    simp only [World.chainOf, World.column?, World.table_modTable]
    split
    · rename_i hh; obtain ⟨rfl, _⟩ := hh; exact h2 n rfl _
    · rfl
  | row r => rfl
  | cell r c => rfl
  | copy n => rfl

theorem chainOf_modRow_of (w : World) (r : Nat) (f : Row → Row) (o : Target)
    (h1 : o = .row r → ∀ rw, (f rw).props = rw.props) (h3 : ∀ rw, (f rw).cells = rw.cells) :
    (w.modRow r f).chainOf o = w.chainOf o := by
  cases o with
  | row r' =>
    simp only [World.chainOf, World.row_modRow]
    split
    · rename_i hh; obtain ⟨rfl, _⟩ := hh; exact h1 rfl _
    · rfl
  | cell r' c => simp only [World.chainOf, cell?_modRow_of w r f h3]
  | table t => rfl
  | column t n => rfl
  | copy n => rfl

theorem chainOf_modCell_of (w : World) (r c : Nat) (f : Cell → Cell) (o : Target)
    (h : o = .cell r c → ∀ ce, (f ce).props = ce.props) : (w.modCell r c f).chainOf o = w.chainOf o := by
  cases o with
  | cell r' c' =>
    simp only [World.chainOf, World.cell?_modCell]
    split
    · rename_i hh; obtain ⟨rfl, rfl⟩ := hh
      cases w.cell? r c <;> simp [h rfl]
    · rfl
  | row r' => simp only [World.chainOf, World.modCell, World.row_modRow]; split <;> rfl
  | table t => rfl
  | column t n => rfl
  | copy n => rfl

theorem chainOf_modColumn_of (w : World) (t n : Nat) (f : Column → Column) (o : Target)
    (h : o = .column t n → ∀ c, (f c).props = c.props) : (w.modColumn t n f).chainOf o = w.chainOf o := by
  refine chainOf_modTable_of w t _ o (fun _ _ => rfl) (fun m e tb => ?_)
  simp only [List.getElem?_modify]
  split
  · rename_i hh; subst hh
    cases tb.columns[n]? <;> simp [h e]
  · simp

theorem chainOf_modCopy_of (w : World) (n : Nat) (f : Cell → Cell) (o : Target)
    (h : o = .copy n → ∀ ce, (f ce).props = ce.props) :
    ({ w with copies := w.copies.modify n f } : World).chainOf o = w.chainOf o := by
  cases o with
  | copy n' =>
    simp only [World.chainOf, List.getElem?_modify]
    split
    · rename_i hh; subst hh
      cases w.copies[n]? <;> simp [h rfl]
    · simp
  | table t => rfl
  | column t n => rfl
  | row r => rfl
  | cell r c => rfl

theorem modColumn_noobj (w : World) (t n : Nat) (f : Column → Column) (h : ¬ w.hasObj (.column t n)) :
    w.modColumn t n f = w := by
  unfold World.modColumn World.modTable
  rw [modify_fix]
  intro tb htb
  have ht : t < w.tables.length := (List.getElem?_eq_some_iff.mp htb).1
  have e : w.table t = tb := by rw [table_eq, htb]; rfl
  have hn : tb.columns.length ≤ n := by
    rw [← e]
    apply Nat.le_of_not_lt
    intro hn; exact h ⟨ht, hn⟩
  rw [List.modify_eq_self hn]

theorem modCell_noobj (w : World) (r c : Nat) (f : Cell → Cell) (h : ¬ w.hasObj (.cell r c)) :
    w.modCell r c f = w := by
  unfold World.modCell World.modRow
  rw [modify_fix]
  intro rw hrw
  have e : w.row r = rw := by rw [row_eq, hrw]; rfl
  have hc : w.cell? r c = none := by
    cases hh : w.cell? r c with
    | none => rfl
    | some ce => exact absurd (show w.hasObj (.cell r c) by simp [World.hasObj, hh]) h
  cases hcs : rw.cells with
  | none => cases rw; simp only at hcs; subst hcs; rfl
  | some cs =>
    have hlen : cs.length ≤ c := by
      simp only [World.cell?, World.rowCells, e, hcs, Option.getD_some] at hc
      exact List.getElem?_eq_none_iff.mp hc
    cases rw; simp only at hcs; subst hcs
    simp only [Option.map_some, List.modify_eq_self hlen]

theorem modCopy_noobj (w : World) (n : Nat) (f : Cell → Cell) (h : w.copies.length ≤ n) :
    ({ w with copies := w.copies.modify n f } : World) = w := by
  rw [List.modify_eq_self h]

theorem setProp_noobj (w : World) (o : Target) (k : Key) (v : Option Val) (h : ¬ w.hasObj o) :
    w.setProp o k v = w := by
  cases o with
  | table t => exact World.modTable_oob w t _ (Nat.le_of_not_lt h)
  | column t n => exact modColumn_noobj w t n _ h
  | row r => exact World.modRow_oob w r _ (Nat.le_of_not_lt h)
  | cell r c => exact modCell_noobj w r c _ h
  | copy n => exact modCopy_noobj w n _ (Nat.le_of_not_lt h)

theorem chainOf_setProp_ne (w : World) (o : Target) (k : Key) (v : Option Val) (o' : Target) (h : o ≠ o') :
    (w.setProp o k v).chainOf o' = w.chainOf o' := by
  cases o with
  | table t => exact chainOf_modTable_of w t _ o' (fun e => absurd e.symm h) (fun _ _ _ => rfl)
  | column t n => exact chainOf_modColumn_of w t n _ o' (fun e => absurd e.symm h)
  | row r => exact chainOf_modRow_of w r _ o' (fun e => absurd e.symm h) (fun _ => rfl)
  | cell r c => exact chainOf_modCell_of w r c _ o' (fun e => absurd e.symm h)
  | copy n => exact chainOf_modCopy_of w n _ o' (fun e => absurd e.symm h)

theorem chainOf_setProp (w : World) (o : Target) (k : Key) (v : Option Val) (o' : Target) :
    (w.setProp o k v).chainOf o' = if o' = o ∧ w.hasObj o then (w.chainOf o).set k v else w.chainOf o' := by
  by_cases ho : w.hasObj o
  · by_cases e : o' = o
    · subst e; simp only [ho, and_self, if_true]; exact chainOf_setProp_self w o' k v ho
    · rw [if_neg (fun hh => e hh.1)]; exact chainOf_setProp_ne w o k v o' (fun e' => e e'.symm)
  · rw [if_neg (fun hh => ho hh.2), setProp_noobj w o k v ho]

theorem getProp_setProp_frame (w : World) (o : Target) (k' : Key) (v : Option Val) (tgt0 : Target) (k : Key)
    (h : o ≠ tgt0 ∨ k' ≠ k) : (w.setProp o k' v).getProp tgt0 k = w.getProp tgt0 k := by
  rw [getProp_eq_get, getProp_eq_get, chainOf_setProp]
  split
  · rename_i hh
    obtain ⟨rfl, _⟩ := hh
    exact Chain.get_set_ne _ v (h.resolve_left (fun hne => hne rfl))
  · rfl

end C13
end Tab
