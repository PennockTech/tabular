/-
  History-level side conditions (no declared widths, safe texts) carried to the view the text renderer
  reads after its callbacks pass.
-/
import Tabmodel.Proofs.E2EcbMeas
import Tabmodel.Proofs.C03mDefs
namespace Tab
open World

/-- no item shown in table `t` declares a display width (`TerminalCellWidther`): every laid-out
    line width is then the measure of its own text -/
def World.NoDeclaredWidth (w : World) (t : Nat) : Prop :=
  ∀ r ∈ (w.table t).header.toList ++ (w.table t).rows, ∀ ce ∈ w.rowCells r,
    (w.item ce.item).mWidth = none

instance (w : World) (t : Nat) : Decidable (w.NoDeclaredWidth t) := by
  unfold World.NoDeclaredWidth; infer_instance

/-- every text line of every cell of table `t` may stand between two spaces -/
def World.TextsSafe (J : Junction) (w : World) (t : Nat) : Prop :=
  ∀ r ∈ (w.table t).header.toList ++ (w.table t).rows, ∀ ce ∈ w.rowCells r,
    ∀ l ∈ lines ce.str, TextSafe J l

instance (e s : Nat → Bool) (w : World) (t : Nat) : Decidable (w.TextsSafe (Junction.cps e s) t) := by
  unfold World.TextsSafe; infer_instance

instance (jp jn : List (Nat × Nat)) (w : World) (t : Nat) :
    Decidable (w.TextsSafe (Junction.clusters jp jn) t) := by
  unfold Junction.clusters; infer_instance

theorem cellMeasured_cb (dw : Measure) (w : World) (t : Nat) (hU : w.UserKeysOnly t)
    (hcb : Cb.dimSetter ∈ (w.table t).cellCbs.render) (h0 : dw [] = 0) (hD : w.NoDeclaredWidth t) :
    ∀ c ∈ ((invokeRenderCallbacks dw w t).view t).allCells, CellMeasured dw c := by
  intro c hc
  obtain ⟨r, hr, ce', hce', e, _, h2⟩ := E2Ecb.cell_measured_cb dw w t hU hcb c hc
  obtain ⟨ce, hce, hee⟩ := E2Ecb.irc_cell_src_cb dw w t r ce' hce'
  have hit : (invokeRenderCallbacks dw w t).item ce'.item = w.item ce.item := by
    rw [← (E2Ecb.core_eq_fields hee).1]; unfold World.item; rw [E2Ecb.irc_items]
  have hnone : ((invokeRenderCallbacks dw w t).item ce'.item).mWidth = none := by
    rw [hit]; exact hD r hr ce hce
  have hl : ((invokeRenderCallbacks dw w t).rcell ce').lws =
      (ce'.lines.map (fun l => ({ s := l, w := dimLineW dw ((invokeRenderCallbacks dw w t).item ce'.item) ce' l } : WidthString)))
        ++ List.replicate (max ce'.hgt.toNat ce'.lines.length - ce'.lines.length) blankWS := by
    unfold World.rcell; rw [h2, dimProps_eq]
  rw [e]
  intro x hx
  rw [hl] at hx
  rcases List.mem_append.mp hx with hx | hx
  · obtain ⟨l, _, rfl⟩ := List.mem_map.mp hx
    simp [dimLineW, hnone]
  · rw [List.eq_of_mem_replicate hx]; simp [blankWS, h0]

theorem textsSafe_cb (dw : Measure) (J : Junction) (w : World) (t : Nat) (hU : w.UserKeysOnly t)
    (hcb : Cb.dimSetter ∈ (w.table t).cellCbs.render) (hS : w.TextsSafe J t) :
    ∀ c ∈ ((invokeRenderCallbacks dw w t).view t).allCells, ∀ l ∈ lines c.text, TextSafe J l := by
  intro c hc l hl
  obtain ⟨r, hr, ce, hce, ht, _, _⟩ := E2Ecb.cell_src_cb dw w t hU hcb c hc
  rw [ht] at hl
  exact hS r hr ce hce l hl

end Tab
