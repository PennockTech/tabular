/-
  The history of `Proofs/E2EcbExample.lean` re-evaluated with the non-additive measure `toyDw` and the
  built-in heavy decoration (for the end-to-end non-vacuity examples).
-/
import Tabmodel.Proofs.E2EcbExample
import Tabmodel.Proofs.C03mExample
import Tabmodel.Proofs.C03mHist
namespace Tab
open World hiding CellOK

def toyX : Ext := ⟨toyDw, c07JsQ⟩

namespace C03mHistExample

theorem hv : Valid cbOps = true := by decide +kernel
theorem ht : e2eHeavy.core < (run toyX.dw cbOps).tables.length := by decide +kernel
theorem hU : (run toyX.dw cbOps).UserKeysOnly e2eHeavy.core := by decide +kernel
theorem hN : Needs (run toyX.dw cbOps) e2eHeavy := by decide +kernel
theorem ha : AlignOK ((invokeRenderCallbacks toyX.dw (run toyX.dw cbOps) e2eHeavy.core).view e2eHeavy.core) :=
  alignOK_of_alignOKb _ (by decide +kernel)
theorem hn : 1 ≤ ((run toyX.dw cbOps).table e2eHeavy.core).nColumns := by decide +kernel
theorem hF : TableFits toyX.dw (run toyX.dw cbOps) e2eHeavy.core := by decide +kernel
theorem hD : (run toyX.dw cbOps).NoDeclaredWidth e2eHeavy.core := by decide +kernel
theorem hS : (run toyX.dw cbOps).TextsSafe toyJ e2eHeavy.core := by decide +kernel
theorem hd : e2eHeavy.decor ∈ Generated.builtins.map (·.2) := by decide +kernel

theorem hcw : ((invokeRenderCallbacks toyX.dw (run toyX.dw cbOps) e2eHeavy.core).view e2eHeavy.core).colWidths
    = [1, 1] := by decide +kernel

end C03mHistExample
end Tab
