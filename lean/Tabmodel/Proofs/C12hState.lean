/-
  C12h: the recorded state `PState` by itself (no worlds) — operations are plain or one of the four that give a
  value or a callback; the value equations of `PState.step`, one per value-giving operation; which keys can be set
  after a history; the plain reading of `lastSetOn` as the last of the sets addressed to an owner; and how the
  hypotheses on histories imply one another.
-/
import Tabmodel.Proofs.C12hDefs
import Tabmodel.Proofs.Chain
namespace Tab
namespace C12h

/-- the operations that set nothing and bring no callback -/
def plain : BuildOp → Bool
  | .setProp _ _ _ => false
  | .regCb _ _ _ _ => false
  | .copyCell _ _ => false
  | .rowAddCell _ _ => false
  | _ => true

/-- an operation is plain, or one of the four that give an owner a value or a callback -/
theorem plain_cases {motive : BuildOp → Prop} (plain : ∀ op, plain op = true → motive op)
    (setProp : ∀ o k v, motive (.setProp o k v)) (regCb : ∀ o tm tg cb, motive (.regCb o tm tg cb))
    (copyCell : ∀ r c, motive (.copyCell r c)) (rowAddCell : ∀ r ce, motive (.rowAddCell r ce)) (op : BuildOp) :
    motive op := by
  cases op with
  | setProp o k v => exact setProp o k v
  | regCb o tm tg cb => exact regCb o tm tg cb
  | copyCell r c => exact copyCell r c
  | rowAddCell r ce => exact rowAddCell r ce
  | _ => exact plain _ rfl

theorem step_plain (p : PState) {op : BuildOp} (h : plain op = true) :
    p.step op = { p with shape := p.shape.step op } := by
  cases op <;> first | rfl | cases h

theorem step_val_setProp (p : PState) (o' : Target) (k' : Key) (v : Option Val) (o : Target) (k : Key) :
    (p.step (.setProp o' k' v)).val o k =
      if p.shape.hasOwner p.ncopies o' = true ∧ o = o' ∧ k = k' then v else p.val o k := by
  simp only [PState.step]
  by_cases h : p.shape.hasOwner p.ncopies o' = true
  · simp only [h, if_true, true_and]
  · simp only [h, Bool.false_eq_true, if_false, false_and]

theorem step_val_copyCell (p : PState) (r c : Nat) (o : Target) (k : Key) :
    (p.step (.copyCell r c)).val o k =
      if c < p.shape.width r ∧ o = .copy p.ncopies then p.val (.cell r c) k else p.val o k := by
  simp only [PState.step]
  by_cases h : c < p.shape.width r
  · simp only [h, if_true, true_and]
  · simp only [h, if_false, false_and]

theorem step_val_rowAddCell (p : PState) (r : Nat) (ce : Cell) (o : Target) (k : Key) :
    (p.step (.rowAddCell r ce)).val o k =
      match (p.shape.row r).cells with
      | some cs => if r < p.shape.rows.length ∧ o = .cell r cs.length then ce.props.get k else p.val o k
      | none => p.val o k := by
  simp only [PState.step]
  by_cases h : r < p.shape.rows.length
  · simp only [h, if_true, true_and]
    cases (p.shape.row r).cells <;> rfl
  · simp only [h, if_false, false_and]
    cases (p.shape.row r).cells <;> rfl

theorem step_shape (p : PState) (op : BuildOp) : (p.step op).shape = p.shape.step op := by
  cases op using plain_cases with
  | plain op hp => rw [step_plain p hp]
  | regCb o tm tg cb => rfl
  | setProp o k v => simp only [PState.step]; split <;> rfl
  | copyCell r c => simp only [PState.step]; split <;> rfl
  | rowAddCell r ce =>
    simp only [PState.step]
    split
    · split <;> rfl
    · rfl

theorem after_snoc (ops : List BuildOp) (op : BuildOp) : PState.after (ops ++ [op]) = (PState.after ops).step op := by
  simp only [PState.after, List.foldl_append, List.foldl_cons, List.foldl_nil]

theorem foldl_step_shape (ops : List BuildOp) (p : PState) :
    (ops.foldl PState.step p).shape = p.shape.runFrom ops := by
  induction ops generalizing p with
  | nil => rfl
  | cons op ops ih => simp only [List.foldl_cons, Shape.runFrom]; rw [ih, step_shape]; rfl

theorem after_shape (ops : List BuildOp) : (PState.after ops).shape = Shape.runFrom {} ops :=
  foldl_step_shape ops {}

/-! ### a value that is set was set by an operation of the history -/

theorem mem_keys_of_get {c : Chain} {k : Key} (h : c.get k ≠ none) : k ∈ c.keys :=
  Classical.byContradiction fun hn => h (Chain.get_eq_none_of_not_mem c k hn)

theorem get_ne_none_of_mem {c : Chain} {k : Key} (h : k ∈ c.keys) : c.get k ≠ none := by
  induction c with
  | nil => simp [Chain.keys] at h
  | cons p c ih =>
    obtain ⟨a, v⟩ := p
    simp only [Chain.get_cons]
    split
    · simp
    · rename_i hne
      simp only [Chain.keys, List.map_cons, List.mem_cons] at h
      rcases h with h | h
      · exact absurd h.symm hne
      · exact ih h

theorem step_val_keys (p : PState) (op : BuildOp) (K : List Key) (h : ∀ o k, p.val o k ≠ none → k ∈ K) :
    ∀ o k, (p.step op).val o k ≠ none → k ∈ K ++ BuildOp.setKeys op := by
  intro o k hv
  rw [List.mem_append]
  cases op using plain_cases with
  | plain op hp => rw [step_plain p hp] at hv; exact .inl (h o k hv)
  | regCb o' tm tg cb => exact .inl (h o k hv)
  | setProp o' k' v =>
    rw [step_val_setProp] at hv
    split at hv
    · rename_i hh; exact .inr (by simp [BuildOp.setKeys, hh.2.2])
    · exact .inl (h o k hv)
  | copyCell r c =>
    rw [step_val_copyCell] at hv
    split at hv
    · exact .inl (h _ k hv)
    · exact .inl (h o k hv)
  | rowAddCell r ce =>
    rw [step_val_rowAddCell] at hv
    split at hv
    · split at hv
      · exact .inr (mem_keys_of_get hv)
      · exact .inl (h o k hv)
    · exact .inl (h o k hv)

theorem foldl_val_keys (ops : List BuildOp) : ∀ (p : PState) (K : List Key), (∀ o k, p.val o k ≠ none → k ∈ K) →
    ∀ o k, (ops.foldl PState.step p).val o k ≠ none → k ∈ K ++ ops.flatMap BuildOp.setKeys := by
  induction ops with
  | nil => intro p K h o k hv; simpa using h o k hv
  | cons op ops ih =>
    intro p K h o k hv
    have := ih (p.step op) (K ++ BuildOp.setKeys op) (step_val_keys p op K h) o k hv
    simpa [List.flatMap_cons, List.append_assoc] using this

theorem lastSetOn_keys (ops : List BuildOp) (o : Target) (k : Key) (h : lastSetOn ops o k ≠ none) :
    k ∈ ops.flatMap BuildOp.setKeys := by
  have := foldl_val_keys ops {} [] (fun _ _ hv => absurd rfl hv) o k h
  simpa using this

theorem filter_links_le (c : Chain) (P : Key → Bool) (ks : List Key) (hn : c.keys.Nodup)
    (h : ∀ k, P k = true → c.get k ≠ none → k ∈ ks) : (c.filter (fun l => P l.1)).length ≤ ks.length := by
  have h1 : ((c.filter (fun l => P l.1)).map Prod.fst).Nodup :=
    List.Nodup.sublist ((List.filter_sublist (l := c)).map Prod.fst) hn
  have h2 : (c.filter (fun l => P l.1)).map Prod.fst ⊆ ks := by
    intro k hk
    obtain ⟨l, hl, rfl⟩ := List.mem_map.mp hk
    have hl' := List.mem_filter.mp hl
    exact h l.1 hl'.2 (get_ne_none_of_mem (List.mem_map.mpr ⟨l, hl'.1, rfl⟩))
  have := List.Nodup.length_le_of_subset h1 h2
  simpa using this

/-! ### owners that never inherit: the recorded value is the last of the sets addressed to the owner -/

theorem step_val_noInherit (p : PState) (op : BuildOp) (o : Target) (k : Key)
    (h1 : ∀ o' k' v, op ≠ .setProp o' k' v) (h2 : ∀ n, o ≠ .copy n)
    (h3 : op.isRowAddCell = true → ∀ r c, o ≠ .cell r c) : (p.step op).val o k = p.val o k := by
  cases op with
  | setProp o' k' v => exact absurd rfl (h1 o' k' v)
  | copyCell r c => rw [step_val_copyCell, if_neg (fun hh => h2 _ hh.2)]
  | rowAddCell r ce =>
    rw [step_val_rowAddCell]
    split
    · rw [if_neg (fun hh => h3 rfl _ _ hh.2)]
    · rfl
  | _ => rfl

theorem noInherit_tail {op : BuildOp} {ops : List BuildOp} {o : Target} (h : NoInherit (op :: ops) o = true) :
    NoInherit ops o = true ∧ (∀ n, o ≠ .copy n) ∧ (op.isRowAddCell = true → ∀ r c, o ≠ .cell r c) := by
  cases o with
  | copy n => simp [NoInherit] at h
  | cell r c =>
    simp only [NoInherit, List.all_cons, Bool.and_eq_true, Bool.not_eq_true'] at h
    exact ⟨h.2, fun _ => by simp, fun hh => by rw [h.1] at hh; cases hh⟩
  | table t => exact ⟨rfl, fun _ => by simp, fun _ _ _ => by simp⟩
  | column t n => exact ⟨rfl, fun _ => by simp, fun _ _ _ => by simp⟩
  | row r => exact ⟨rfl, fun _ => by simp, fun _ _ _ => by simp⟩

theorem setsOn_cons_other (op : BuildOp) (ops : List BuildOp) (o : Target) (h : ∀ o' k' v, op ≠ .setProp o' k' v) :
    setsOn (op :: ops) o = setsOn ops o := by
  cases op with
  | setProp o' k' v => exact absurd rfl (h o' k' v)
  | _ => rfl

theorem setsOn_cons_setProp (o' : Target) (k' : Key) (v : Option Val) (ops : List BuildOp) (o : Target) :
    setsOn (.setProp o' k' v :: ops) o = if o' = o then (k', v) :: setsOn ops o else setsOn ops o := by
  unfold setsOn
  rw [List.filterMap_cons]
  by_cases h : o' = o
  · simp only [h, if_true]
  · simp only [h, if_false]

theorem foldl_val_sets (o : Target) (k : Key) (ops : List BuildOp) : ∀ p : PState,
    p.addressedFrom ops = true → NoInherit ops o = true →
    (ops.foldl PState.step p).val o k =
      (match (setsOn ops o).reverse.find? (fun q => q.1 = k) with
       | some q => q.2
       | none => p.val o k) := by
  induction ops with
  | nil => intro p _ _; rfl
  | cons op ops ih =>
    intro p ha hn
    obtain ⟨hn', hcopy, hcell⟩ := noInherit_tail hn
    simp only [PState.addressedFrom, Bool.and_eq_true] at ha
    rw [List.foldl_cons, ih (p.step op) ha.2 hn']
    by_cases hs : ∃ o' k' v, op = .setProp o' k' v
    · obtain ⟨o', k', v, rfl⟩ := hs
      rw [setsOn_cons_setProp, step_val_setProp]
      by_cases ho : o' = o
      · subst ho
        rw [if_pos rfl, List.reverse_cons, List.find?_append]
        -- a later set on the key wins; otherwise this one decides, and it is addressed to an existing owner
        cases (setsOn ops o').reverse.find? (fun q => q.1 = k) with
        | some q => rfl
        | none =>
          have hown : p.shape.hasOwner p.ncopies o' = true := ha.1
          by_cases hk : k = k'
          · subst hk; simp [hown]
          · have : ¬ k' = k := fun e => hk e.symm
            simp [hk, this]
      · rw [if_neg ho, if_neg (fun hh => ho hh.2.1.symm)]
    · have h1 : ∀ o' k' v, op ≠ .setProp o' k' v := fun o' k' v e => hs ⟨o', k', v, e⟩
      rw [setsOn_cons_other op ops o h1, step_val_noInherit p op o k h1 hcopy hcell]

theorem cbSet_all_mono {s : CbSet} {p q : Cb → Bool} (h : ∀ cb, p cb = true → q cb = true) (hs : s.all p = true) :
    s.all q = true := by
  simp only [CbSet.all, Bool.and_eq_true, List.all_eq_true] at hs ⊢
  exact ⟨⟨⟨fun c hc => h c (hs.1.1.1 c hc), fun c hc => h c (hs.1.1.2 c hc)⟩, fun c hc => h c (hs.1.2 c hc)⟩,
    fun c hc => h c (hs.2 c hc)⟩

theorem cbsAll_mono {op : BuildOp} {p q : Cb → Bool} (h : ∀ cb, p cb = true → q cb = true)
    (hs : op.cbsAll p = true) : op.cbsAll q = true := by
  cases op <;> first | rfl | skip
  case regCb o tm tg cb => exact h cb hs
  case rowAddCell r ce => exact cbSet_all_mono h hs

theorem all_cbsAll_mono {ops : List BuildOp} {p q : Cb → Bool} (h : ∀ cb, p cb = true → q cb = true)
    (hs : ops.all (BuildOp.cbsAll p) = true) : ops.all (BuildOp.cbsAll q) = true := by
  rw [List.all_eq_true] at hs ⊢
  exact fun op hop => cbsAll_mono h (hs op hop)

theorem writes_false_of_user {cb : Cb} {k : Key} (h1 : cb.isSetProp = false) (h2 : k.isUser = true) :
    cb.writes k = false := by
  have hk : k ≠ .ttDims ∧ k ≠ .ttLines ∧ k ≠ .mdWidth := by cases k <;> simp [Key.isUser] at h2 ⊢
  cases cb with
  | setProp id k' v => simp [Cb.isSetProp] at h1
  | dimSetter => simp [Cb.writes, hk.1, hk.2.1]
  | widthSetter => simp [Cb.writes, hk.2.2]
  | _ => rfl

theorem quietFor_of_noSetCbs {ops : List BuildOp} (h : NoSetCbs ops) {k : Key} (hk : k.isUser = true) :
    QuietFor k ops := by
  refine all_cbsAll_mono (fun cb hcb => ?_) h
  rw [writes_false_of_user (by simpa using hcb) hk]; rfl

theorem quietFor_of_passive {ops : List BuildOp} (h : Passive ops) (k : Key) : QuietFor k ops := by
  refine all_cbsAll_mono (fun cb hcb => ?_) h
  cases cb <;> simp_all [Cb.isPassive, Cb.writes]

theorem agrees_none (k : Key) (cb : Cb) : cb.agrees (fun _ => none) k = !cb.writes k := by
  cases cb with
  | setProp id k' v => by_cases h : k' = k <;> simp [Cb.agrees, Cb.writes, h]
  | log id => simp [Cb.agrees, Cb.writes]
  | fail id e => simp [Cb.agrees, Cb.writes]
  | dimSetter => rfl
  | widthSetter => rfl

theorem writersOk_none (k : Key) {ops : List BuildOp} (h : QuietFor k ops) : WritersOk (fun _ => none) k ops := by
  unfold WritersOk
  rw [show Cb.agrees (fun _ => none) k = fun cb => !cb.writes k from funext (agrees_none k)]
  exact h

end C12h
end Tab
