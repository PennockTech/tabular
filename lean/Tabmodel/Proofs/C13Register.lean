/-
  Writes and callback slots.  A write to one stored object, read back through `cbSet`, leaves every slot that is
  not a slot of that object, and every slot whose field it keeps (`cbSet_mod*_at`, `cbSet_mod*_of`).
  `registerCb` is one such write, `modCbSet`, on the slot that `slotFor` names: it applies a function to the
  callback set in that slot, so it changes that slot (when its owner exists) and no other.
-/
import Tabmodel.Proofs.C13World
namespace Tab
open World
namespace C13

theorem CbSet.push_at (s : CbSet) (tm : Time) (cb : Cb) (tm' : Time) :
    (s.push tm cb).at tm' = if tm' = tm then s.at tm' ++ [cb] else s.at tm' := by
  cases tm <;> cases tm' <;> rfl

/-! A write to one stored object changes the slot `s` only if `s` is a slot of that object and reads a field
the write changes: the lemmas below ask for each field's preservation at such a slot alone. -/

theorem table_modTable_proj_at {β} (w : World) (t : Nat) (f : Table → Table) (g : Table → β) (t' : Nat)
    (h : t' = t → ∀ tb, g (f tb) = g tb) : g ((w.modTable t f).table t') = g (w.table t') := by
  by_cases e : t' = t
  · exact table_modTable_proj w t f g (h e) t'
  · rw [table_modTable_ne w t t' f (Ne.symm e)]

theorem row_modRow_proj_at {β} (w : World) (r : Nat) (f : Row → Row) (g : Row → β) (r' : Nat)
    (h : r' = r → ∀ rw, g (f rw) = g rw) : g ((w.modRow r f).row r') = g (w.row r') := by
  by_cases e : r' = r
  · exact row_modRow_proj w r f g (h e) r'
  · rw [row_modRow_ne w r r' f (Ne.symm e)]

theorem cbSet_modTable_at (w : World) (t : Nat) (f : Table → Table) (s : CbSlot)
    (h1 : s = .tableSelf t → ∀ tb, (f tb).selfCbs = tb.selfCbs)
    (h2 : s = .tableCell t → ∀ tb, (f tb).cellCbs = tb.cellCbs)
    (h3 : s = .tableRow t → ∀ tb, (f tb).rowCbs = tb.rowCbs)
    (h4 : ∀ n, s = .colSelf t n → ∀ tb : Table,
      (((f tb).columns[n]?).map Column.selfCbs).getD {} = ((tb.columns[n]?).map Column.selfCbs).getD {})
    (h5 : ∀ n, s = .colCell t n → ∀ tb : Table,
      (((f tb).columns[n]?).map Column.cellCbs).getD {} = ((tb.columns[n]?).map Column.cellCbs).getD {}) :
    (w.modTable t f).cbSet s = w.cbSet s := by
  cases s with
  | tableSelf t' => exact table_modTable_proj_at w t f Table.selfCbs t' (fun e => h1 (e ▸ rfl))
  | tableCell t' => exact table_modTable_proj_at w t f Table.cellCbs t' (fun e => h2 (e ▸ rfl))
  | tableRow t' => exact table_modTable_proj_at w t f Table.rowCbs t' (fun e => h3 (e ▸ rfl))
  | colSelf t' n =>
    exact table_modTable_proj_at w t f (fun tb => ((tb.columns[n]?).map Column.selfCbs).getD {}) t'
      (fun e => h4 n (e ▸ rfl))
  | colCell t' n =>
    exact table_modTable_proj_at w t f (fun tb => ((tb.columns[n]?).map Column.cellCbs).getD {}) t'
      (fun e => h5 n (e ▸ rfl))
  | _ => rfl

theorem cbSet_modRow_at (w : World) (r : Nat) (f : Row → Row) (s : CbSlot)
    (h1 : s = .rowSelf r → ∀ rw, (f rw).selfCbs = rw.selfCbs)
    (h2 : s = .rowCell r → ∀ rw, (f rw).cellCbs = rw.cellCbs)
    (h3 : ∀ i, s = .cellOwn r i → ∀ rw : Row,
      ((((f rw).cells.getD [])[i]?).map Cell.cbs).getD {} = (((rw.cells.getD [])[i]?).map Cell.cbs).getD {}) :
    (w.modRow r f).cbSet s = w.cbSet s := by
  cases s with
  | rowSelf r' => exact row_modRow_proj_at w r f Row.selfCbs r' (fun e => h1 (e ▸ rfl))
  | rowCell r' => exact row_modRow_proj_at w r f Row.cellCbs r' (fun e => h2 (e ▸ rfl))
  | cellOwn r' i =>
    exact row_modRow_proj_at w r f (fun rw => (((rw.cells.getD [])[i]?).map Cell.cbs).getD {}) r'
      (fun e => h3 i (e ▸ rfl))
  | _ => rfl

theorem getElem?_modify_map_at {α β : Type} (l : List α) (n m : Nat) (f : α → α) (g : α → β)
    (h : m = n → ∀ a, g (f a) = g a) : ((l.modify n f)[m]?).map g = (l[m]?).map g := by
  rw [List.getElem?_modify]
  by_cases e : n = m
  · cases l[m]? <;> simp [e, h e.symm]
  · cases l[m]? <;> simp [e]

theorem cbSet_modColumn_at (w : World) (t n : Nat) (f : Column → Column) (s : CbSlot)
    (h1 : s = .colSelf t n → ∀ c, (f c).selfCbs = c.selfCbs)
    (h2 : s = .colCell t n → ∀ c, (f c).cellCbs = c.cellCbs) : (w.modColumn t n f).cbSet s = w.cbSet s :=
  cbSet_modTable_at w t (fun tb => { tb with columns := tb.columns.modify n f }) s (fun _ _ => rfl) (fun _ _ => rfl)
    (fun _ _ => rfl)
    (fun m e tb => congrArg (·.getD {}) (getElem?_modify_map_at tb.columns n m f _ (fun e' => h1 (e' ▸ e))))
    (fun m e tb => congrArg (·.getD {}) (getElem?_modify_map_at tb.columns n m f _ (fun e' => h2 (e' ▸ e))))

theorem cbSet_modCell_at (w : World) (r c : Nat) (f : Cell → Cell) (s : CbSlot)
    (h : s = .cellOwn r c → ∀ ce, (f ce).cbs = ce.cbs) : (w.modCell r c f).cbSet s = w.cbSet s := by
  cases s with
  | rowSelf r' => exact row_modRow_proj w r _ Row.selfCbs (by intro _; rfl) r'
  | rowCell r' => exact row_modRow_proj w r _ Row.cellCbs (by intro _; rfl) r'
  | cellOwn r' c' =>
    simp only [World.cbSet, cell?_modCell]
    split
    · rename_i e
      obtain ⟨rfl, rfl⟩ := e
      cases w.cell? r c <;> simp [h rfl]
    · rfl
  | _ => rfl

theorem cbSet_modCopy_at (w : World) (n : Nat) (f : Cell → Cell) (s : CbSlot)
    (h : s = .copyOwn n → ∀ ce, (f ce).cbs = ce.cbs) :
    ({ w with copies := w.copies.modify n f } : World).cbSet s = w.cbSet s := by
  cases s with
  | copyOwn n' => exact congrArg (·.getD {}) (getElem?_modify_map_at w.copies n n' f _ (fun e => h (e ▸ rfl)))
  | _ => rfl

/-! ... in particular a write that keeps the callback fields keeps every slot -/

theorem cbSet_modRow_of (w : World) (r : Nat) (f : Row → Row)
    (h1 : ∀ rw, (f rw).selfCbs = rw.selfCbs) (h2 : ∀ rw, (f rw).cellCbs = rw.cellCbs)
    (h3 : ∀ rw, (f rw).cells = rw.cells) (s : CbSlot) : (w.modRow r f).cbSet s = w.cbSet s :=
  cbSet_modRow_at w r f s (fun _ => h1) (fun _ => h2) (fun _ _ rw => by rw [h3 rw])

theorem cbSet_modTable_of (w : World) (t : Nat) (f : Table → Table)
    (h1 : ∀ tb, (f tb).selfCbs = tb.selfCbs) (h2 : ∀ tb, (f tb).cellCbs = tb.cellCbs)
    (h3 : ∀ tb, (f tb).rowCbs = tb.rowCbs)
    (h4 : ∀ (tb : Table) (n : Nat), (((f tb).columns[n]?).map Column.selfCbs).getD {} = ((tb.columns[n]?).map Column.selfCbs).getD {})
    (h5 : ∀ (tb : Table) (n : Nat), (((f tb).columns[n]?).map Column.cellCbs).getD {} = ((tb.columns[n]?).map Column.cellCbs).getD {})
    (s : CbSlot) : (w.modTable t f).cbSet s = w.cbSet s :=
  cbSet_modTable_at w t f s (fun _ => h1) (fun _ => h2) (fun _ => h3) (fun n _ tb => h4 tb n) (fun n _ tb => h5 tb n)

theorem cbSet_modColumn_of (w : World) (t n : Nat) (f : Column → Column)
    (h1 : ∀ c, (f c).selfCbs = c.selfCbs) (h2 : ∀ c, (f c).cellCbs = c.cellCbs) (s : CbSlot) :
    (w.modColumn t n f).cbSet s = w.cbSet s :=
  cbSet_modColumn_at w t n f s (fun _ => h1) (fun _ => h2)

theorem cbSet_modCell_of (w : World) (r c : Nat) (f : Cell → Cell) (h : ∀ ce, (f ce).cbs = ce.cbs)
    (s : CbSlot) : (w.modCell r c f).cbSet s = w.cbSet s :=
  cbSet_modCell_at w r c f s (fun _ => h)

theorem cbSet_modCopy_of (w : World) (n : Nat) (f : Cell → Cell) (h : ∀ ce, (f ce).cbs = ce.cbs)
    (s : CbSlot) : ({ w with copies := w.copies.modify n f } : World).cbSet s = w.cbSet s :=
  cbSet_modCopy_at w n f s (fun _ => h)

def modCbSet (w : World) (s : CbSlot) (g : CbSet → CbSet) : World :=
  match s with
  | .tableSelf t => w.modTable t (fun tb => { tb with selfCbs := g tb.selfCbs })
  | .tableCell t => w.modTable t (fun tb => { tb with cellCbs := g tb.cellCbs })
  | .tableRow t => w.modTable t (fun tb => { tb with rowCbs := g tb.rowCbs })
  | .colSelf t n => w.modColumn t n (fun c => { c with selfCbs := g c.selfCbs })
  | .colCell t n => w.modColumn t n (fun c => { c with cellCbs := g c.cellCbs })
  | .rowSelf r => w.modRow r (fun rw => { rw with selfCbs := g rw.selfCbs })
  | .rowCell r => w.modRow r (fun rw => { rw with cellCbs := g rw.cellCbs })
  | .cellOwn r c => w.modCell r c (fun ce => { ce with cbs := g ce.cbs })
  | .copyOwn n => { w with copies := w.copies.modify n (fun ce => { ce with cbs := g ce.cbs }) }

def _root_.Tab.CbSlot.owner : CbSlot → Target
  | .tableSelf t | .tableCell t | .tableRow t => .table t
  | .colSelf t n | .colCell t n => .column t n
  | .rowSelf r | .rowCell r => .row r
  | .cellOwn r i => .cell r i
  | .copyOwn n => .copy n

theorem registerCb_eq (w : World) (owner : Target) (tm : Time) (tg : CbTarget) (cb : Cb) :
    registerCb w owner tm tg cb = (slotFor owner tg).map (fun s => modCbSet w s (·.push tm cb)) := by
  cases owner <;> cases tg <;> rfl

theorem owner_of_slotFor {owner : Target} {tg : CbTarget} {s : CbSlot} (h : slotFor owner tg = some s) :
    s.owner = owner := by
  cases owner <;> cases tg <;> cases h <;> rfl

theorem cbSet_modCbSet_self {w : World} {s : CbSlot} (hs : w.hasObj s.owner) (g : CbSet → CbSet) :
    (modCbSet w s g).cbSet s = g (w.cbSet s) := by
  cases s with
  | tableSelf t => exact congrArg Table.selfCbs (table_modTable_self w t _ hs)
  | tableCell t => exact congrArg Table.cellCbs (table_modTable_self w t _ hs)
  | tableRow t => exact congrArg Table.rowCbs (table_modTable_self w t _ hs)
  | colSelf t n =>
    obtain ⟨c, hc⟩ : ∃ c, w.column? t n = some c := ⟨_, List.getElem?_eq_getElem hs.2⟩
    simp [World.cbSet, modCbSet, column?_modColumn, hs.1, hc]
  | colCell t n =>
    obtain ⟨c, hc⟩ : ∃ c, w.column? t n = some c := ⟨_, List.getElem?_eq_getElem hs.2⟩
    simp [World.cbSet, modCbSet, column?_modColumn, hs.1, hc]
  | rowSelf r => exact congrArg Row.selfCbs (row_modRow_self w r _ hs)
  | rowCell r => exact congrArg Row.cellCbs (row_modRow_self w r _ hs)
  | cellOwn r i =>
    obtain ⟨ce, hce⟩ := Option.isSome_iff_exists.mp hs
    simp [World.cbSet, modCbSet, cell?_modCell, hce]
  | copyOwn n => simp [World.cbSet, modCbSet, List.getElem?_eq_getElem (show n < w.copies.length from hs)]

theorem cbSet_modCbSet_ne {w : World} {s s' : CbSlot} (h : s' ≠ s) (g : CbSet → CbSet) :
    (modCbSet w s g).cbSet s' = w.cbSet s' := by
  cases s with
  | tableSelf t =>
    exact cbSet_modTable_at w t _ s' (fun e => absurd e h) (fun _ _ => rfl) (fun _ _ => rfl) (fun _ _ _ => rfl)
      (fun _ _ _ => rfl)
  | tableCell t =>
    exact cbSet_modTable_at w t _ s' (fun _ _ => rfl) (fun e => absurd e h) (fun _ _ => rfl) (fun _ _ _ => rfl)
      (fun _ _ _ => rfl)
  | tableRow t =>
    exact cbSet_modTable_at w t _ s' (fun _ _ => rfl) (fun _ _ => rfl) (fun e => absurd e h) (fun _ _ _ => rfl)
      (fun _ _ _ => rfl)
  | colSelf t n => exact cbSet_modColumn_at w t n _ s' (fun e => absurd e h) (fun _ _ => rfl)
  | colCell t n => exact cbSet_modColumn_at w t n _ s' (fun _ _ => rfl) (fun e => absurd e h)
  | rowSelf r => exact cbSet_modRow_at w r _ s' (fun e => absurd e h) (fun _ _ => rfl) (fun _ _ _ => rfl)
  | rowCell r => exact cbSet_modRow_at w r _ s' (fun _ _ => rfl) (fun e => absurd e h) (fun _ _ _ => rfl)
  | cellOwn r c => exact cbSet_modCell_at w r c _ s' (fun e => absurd e h)
  | copyOwn n => exact cbSet_modCopy_at w n _ s' (fun e => absurd e h)

theorem registerCb_cbSet {w w' : World} {owner : Target} {tm : Time} {tg : CbTarget} {cb : Cb}
    (ho : w.hasObj owner) (h : registerCb w owner tm tg cb = some w') :
    ∃ s, slotFor owner tg = some s ∧
      ∀ s', w'.cbSet s' = if s' = s then (w.cbSet s').push tm cb else w.cbSet s' := by
  rw [registerCb_eq] at h
  obtain ⟨s, hs, rfl⟩ := Option.map_eq_some_iff.mp h
  refine ⟨s, hs, fun s' => ?_⟩
  by_cases e : s' = s
  · subst e
    rw [if_pos rfl]
    exact cbSet_modCbSet_self (owner_of_slotFor hs ▸ ho) _
  · rw [if_neg e]
    exact cbSet_modCbSet_ne e _

theorem noCbs_modTable (w : World) (t : Nat) (f : Table → Table) (h : ∀ tb, (f tb).noCbs = tb.noCbs) :
    (w.modTable t f).noCbs = w.noCbs := by
  simp only [World.noCbs, World.modTable, map_modify_inv _ f h]

theorem noCbs_modRow (w : World) (r : Nat) (f : Row → Row) (h : ∀ rw, (f rw).noCbs = rw.noCbs) :
    (w.modRow r f).noCbs = w.noCbs := by
  simp only [World.noCbs, World.modRow, map_modify_inv _ f h]

theorem noCbs_modCbSet (w : World) (s : CbSlot) (g : CbSet → CbSet) : (modCbSet w s g).noCbs = w.noCbs := by
  cases s with
  | tableSelf t | tableCell t | tableRow t => exact noCbs_modTable _ _ _ (fun _ => rfl)
  | colSelf t n | colCell t n =>
    refine noCbs_modTable _ _ _ (fun tb => ?_)
    simp only [Table.noCbs]
    rw [map_modify_inv]; intro _; rfl
  | rowSelf r | rowCell r => exact noCbs_modRow _ _ _ (fun _ => rfl)
  | cellOwn r i =>
    refine noCbs_modRow _ _ _ (fun rw => ?_)
    simp only [Row.noCbs]
    cases rw.cells with
    | none => rfl
    | some cs =>
      simp only [Option.map_some]
      rw [map_modify_inv]; intro _; rfl
  | copyOwn n =>
    simp only [World.noCbs, modCbSet]
    rw [map_modify_inv]; intro _; rfl

end C13
end Tab
