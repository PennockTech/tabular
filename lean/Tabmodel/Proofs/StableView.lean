/-
  From worlds to outputs: `obs`, `LogOnly`, `Needs` and (masked) `view` read a world only through
  `erase` / `bare` plus the measured private properties; the render pass keeps the former and
  establishes the latter; so two worlds with the same `bare` form render the same.
-/
import Tabmodel.Proofs.StableTraverse
import Tabmodel.Proofs.StableMask
namespace Tab

/-! ### `obs` and `LogOnly` through `erase` -/
namespace World

theorem cellObs_erase (w : World) (ce : Cell) : w.erase.cellObs ce.erase = w.cellObs ce := by
  unfold cellObs cellLocation
  simp only [Cell.erase_str, Cell.erase_inRow, Cell.erase_columnNum]
  congr 1
  · cases ce.inRow with
    | none => rfl
    | some r => simp only [erase_row]; rfl
  · exact userGet_user ce.props

theorem rowErrors_erase (w : World) (r : Nat) : w.erase.rowErrors r = w.rowErrors r := by
  unfold rowErrors; rw [rd_rowEc]; rfl

theorem rowObs_erase (w : World) (r : Nat) : w.erase.rowObs r = w.rowObs r := by
  unfold rowObs
  rw [rowErrors_erase, erase_rowCells, List.map_map]
  congr 1
  · rw [erase_row]; rfl
  · apply List.map_congr_left
    intro ce _
    exact cellObs_erase w ce
  · rw [erase_row]; rfl

theorem obs_erase (w : World) (t : Nat) : w.erase.obs t = w.obs t := by
  unfold obs
  simp only [erase_table]
  congr 1
  · cases (w.table t).header with
    | none => rfl
    | some hr => simp only [Option.map_some, rowObs_erase]
  · apply List.map_congr_left
    intro r _
    exact rowObs_erase w r

theorem rowLogOnly_erase (w : World) (r : Nat) : RowLogOnly w.erase r ↔ RowLogOnly w r := by
  unfold RowLogOnly
  rw [rd_rowSelf, rd_rowCell, rd_rowCellsLen]
  have h3 : (∀ ce ∈ w.erase.rowCells r, ce.cbs.okCell = true) ↔ (∀ ce ∈ w.rowCells r, ce.cbs.okCell = true) := by
    rw [erase_rowCells]
    simp only [List.mem_map, forall_exists_index, and_imp, forall_apply_eq_imp_iff₂, Cell.erase_cbs]
  rw [h3]
  simp only [rd_columnOf, rd_colCellCbs]

theorem logOnly_erase (w : World) (t : Nat) : LogOnly w.erase t ↔ LogOnly w t := by
  unfold LogOnly
  simp only [erase_table, rowLogOnly_erase]

theorem logOnly_of_erase_eq {w w' : World} (h : w.erase = w'.erase) (t : Nat) : LogOnly w t ↔ LogOnly w' t := by
  rw [← logOnly_erase w, h, logOnly_erase]

theorem needs_of_erase_eq {w w' : World} (h : w.erase = w'.erase) (wr : Wrapper) : Needs w wr ↔ Needs w' wr := by
  unfold Needs
  rw [of_erase_eq (fun w => w.table wr.core) (rd_table wr.core) h]

end World

/-! ### `bare` -/

theorem Chain.user_eq_of_erase (c : Cell) : c.erase.props = c.props.user := rfl

theorem Cell.bare_erase (c : Cell) : c.erase.bare = c.bare := by
  unfold Cell.bare Cell.erase
  simp only [Chain.user_user]

theorem Row.bare_erase (r : Row) : r.erase.bare = r.bare := by
  unfold Row.bare Row.erase
  simp only
  congr 1
  cases r.cells with
  | none => rfl
  | some cs =>
    simp only [Option.map_some, List.map_map]
    congr 1
    apply List.map_congr_left
    intro c _
    exact Cell.bare_erase c

namespace World

theorem bare_erase (w : World) : w.erase.bare = w.bare := by
  unfold bare erase
  simp only [List.map_map]
  congr 1
  apply List.map_congr_left
  intro r _
  exact Row.bare_erase r

theorem bare_of_erase_eq {w w' : World} (h : w.erase = w'.erase) : w.bare = w'.bare := by
  rw [← bare_erase w, h, bare_erase]

theorem bare_table (w : World) (t : Nat) : w.bare.table t = (w.table t).bare := by
  unfold table bare
  exact getD_map_default_eq Table.bare w.tables t {} {} rfl

theorem bare_row (w : World) (r : Nat) : w.bare.row r = (w.row r).bare := by
  unfold row bare
  exact getD_map_default_eq Row.bare w.rows r {} {} rfl

theorem bare_rowCells (w : World) (r : Nat) : w.bare.rowCells r = (w.rowCells r).map Cell.bare := by
  unfold rowCells
  rw [bare_row]
  unfold Row.bare
  cases (w.row r).cells <;> rfl

@[simp] theorem bare_item (w : World) (i : Nat) : w.bare.item i = w.item i := rfl

/-! ### the masked view as a function of `bare` -/

def CellOK (dw : Measure) (tt md : Bool) (w : World) (c : Cell) : Prop :=
  (tt = true → c.props.get .ttDims = some (mval dw w c .ttDims) ∧ c.props.get .ttLines = some (mval dw w c .ttLines)) ∧
  (md = true → c.props.get .mdWidth = some (mval dw w c .mdWidth))

def MeasAll (dw : Measure) (tt md : Bool) (w : World) (t : Nat) : Prop :=
  ∀ r ∈ (w.table t).header.toList ++ (w.table t).rows, ∀ ce ∈ w.rowCells r, CellOK dw tt md w ce

/-- what a measured cell looks like to the renderers that read the `tt` / `md` fields -/
def canonCell (dw : Measure) (tt md : Bool) (w : World) (c : Cell) : RCell :=
  (w.rcell { c with props := [(.ttDims, mval dw w c .ttDims), (.ttLines, mval dw w c .ttLines),
                             (.mdWidth, mval dw w c .mdWidth)] }).mask tt md

def canonView (dw : Measure) (tt md : Bool) (w : World) (t : Nat) : RTable :=
  { ncols := (w.table t).nColumns
    header := (w.table t).header.map (fun hr => (w.rowCells hr).map (canonCell dw tt md w))
    rows := (w.table t).rows.map (fun r =>
      if (w.row r).isSep then none else some ((w.rowCells r).map (canonCell dw tt md w)))
    colAlign := (w.table t).columns.map (·.props.get .align)
    colSkip := (w.table t).columns.map (·.props.get .skipable) }

theorem rcell_mask_eq_canon (dw : Measure) (tt md : Bool) (w : World) (c : Cell) (h : CellOK dw tt md w c) :
    (w.rcell c).mask tt md = canonCell dw tt md w c := by
  obtain ⟨h1, h2⟩ := h
  unfold canonCell RCell.mask
  -- the two cells differ in the three measurement fields only, each read from a private property
  congr 1
  · split
    next ht => unfold rcell; rw [(h1 ht).1]; rfl
    next => rfl
  · split
    next ht => unfold rcell; rw [(h1 ht).2]; rfl
    next => rfl
  · split
    next hm => unfold rcell; rw [h2 hm]; rfl
    next => rfl

theorem canonCell_bare (dw : Measure) (tt md : Bool) (w : World) (c : Cell) :
    canonCell dw tt md w.bare c.bare = canonCell dw tt md w c := by
  have hm : mval dw w.bare c.bare = mval dw w c := mval_frame dw w w.bare { c with cbs := {} } _ (fun _ => rfl)
  unfold canonCell
  rw [hm]
  rfl

theorem view_mask_eq_canon (dw : Measure) (tt md : Bool) (w : World) (t : Nat) (h : MeasAll dw tt md w t) :
    (w.view t).mapCells (RCell.mask tt md) = canonView dw tt md w t := by
  have hrow : ∀ r ∈ (w.table t).header.toList ++ (w.table t).rows,
      ((w.rowCells r).map w.rcell).map (RCell.mask tt md) = (w.rowCells r).map (canonCell dw tt md w) := by
    intro r hr
    rw [List.map_map]
    exact List.map_congr_left (fun ce hce => rcell_mask_eq_canon dw tt md w ce (h r hr ce hce))
  unfold view RTable.mapCells canonView
  simp only
  congr 1
  · cases hh : (w.table t).header with
    | none => rfl
    | some hr => exact congrArg some (hrow hr (by simp [hh]))
  · rw [List.map_map]
    apply List.map_congr_left
    intro r hr
    simp only [Function.comp]
    cases (w.row r).isSep with
    | true => rfl
    | false => exact congrArg some (hrow r (by simp [hr]))

theorem canonView_bare (dw : Measure) (tt md : Bool) (w : World) (t : Nat) :
    canonView dw tt md w.bare t = canonView dw tt md w t := by
  have hrow : ∀ r, (w.bare.rowCells r).map (canonCell dw tt md w.bare) =
      (w.rowCells r).map (canonCell dw tt md w) := by
    intro r
    rw [bare_rowCells, List.map_map]
    exact List.map_congr_left (fun ce _ => canonCell_bare dw tt md w ce)
  have hcols : ∀ k, (w.table t).bare.columns.map (·.props.get k) = (w.table t).columns.map (·.props.get k) :=
    fun k => List.map_map
  unfold canonView
  simp only [hrow, bare_table, bare_row, hcols]
  rfl

/-! ### the pass: keeps `erase`, measures what is asked -/

theorem measAll_irc_cb (dw : Measure) (tt md : Bool) (w : World) (t : Nat) (hU : w.UserKeysOnly t)
    (htt : tt = true → Cb.dimSetter ∈ (w.table t).cellCbs.render)
    (hmd : md = true → Cb.widthSetter ∈ (w.table t).cellCbs.render) :
    MeasAll dw tt md (invokeRenderCallbacks dw w t) t := by
  have hc := E2Ecb.irc_core dw w t
  intro r hr ce hce
  have hr' : r ∈ passRows w t := by rw [← E2Ecb.passRows_core hc t]; exact hr
  obtain ⟨j, hj⟩ := List.getElem?_of_mem hce
  have hjlt : j < (w.rowCells r).length := by
    rw [← E2Ecb.of_core_eq (fun w => (w.rowCells r).length) (E2Ecb.rd_rowCellsLen r) hc]
    exact (List.getElem?_eq_some_iff.mp hj).1
  constructor
  · intro h
    have := E2Ecb.irc_keyMeas_dim dw w t hU (htt h) hr' hjlt
    exact ⟨this.1 ce hj, this.2 ce hj⟩
  · intro h
    exact E2Ecb.irc_keyMeas_wid dw w t hU (hmd h) hr' hjlt ce hj

theorem measAll_irc (dw : Measure) (tt md : Bool) (w : World) (t : Nat) (hL : LogOnly w t)
    (htt : tt = true → Cb.dimSetter ∈ (w.table t).cellCbs.render)
    (hmd : md = true → Cb.widthSetter ∈ (w.table t).cellCbs.render) :
    MeasAll dw tt md (invokeRenderCallbacks dw w t) t :=
  measAll_irc_cb dw tt md w t hL.userKeysOnly htt hmd

theorem view_irc (dw : Measure) (tt md : Bool) (w : World) (t : Nat) (hL : LogOnly w t)
    (htt : tt = true → Cb.dimSetter ∈ (w.table t).cellCbs.render)
    (hmd : md = true → Cb.widthSetter ∈ (w.table t).cellCbs.render) :
    ((invokeRenderCallbacks dw w t).view t).mapCells (RCell.mask tt md) = canonView dw tt md w.bare t := by
  rw [view_mask_eq_canon dw tt md _ t (measAll_irc dw tt md w t hL htt hmd), ← canonView_bare,
    bare_of_erase_eq (erase_irc dw w t hL)]

theorem view_irc_congr (dw : Measure) (tt md : Bool) (w1 w2 : World) (t : Nat) (hb : w1.bare = w2.bare)
    (hL1 : LogOnly w1 t) (hL2 : LogOnly w2 t)
    (h1tt : tt = true → Cb.dimSetter ∈ (w1.table t).cellCbs.render)
    (h1md : md = true → Cb.widthSetter ∈ (w1.table t).cellCbs.render)
    (h2tt : tt = true → Cb.dimSetter ∈ (w2.table t).cellCbs.render)
    (h2md : md = true → Cb.widthSetter ∈ (w2.table t).cellCbs.render) :
    ((invokeRenderCallbacks dw w1 t).view t).mapCells (RCell.mask tt md) =
      ((invokeRenderCallbacks dw w2 t).view t).mapCells (RCell.mask tt md) := by
  rw [view_irc dw tt md w1 t hL1 h1tt h1md, view_irc dw tt md w2 t hL2 h2tt h2md, hb]

/-! ### `renderTo` -/

/-- a render runs the callback pass, unless it refuses at once (a text wrapper without decoration) -/
theorem renderTo_fst (x : Ext) (w : World) (wr : Wrapper) :
    (renderTo x w wr).1 = w ∨ (renderTo x w wr).1 = invokeRenderCallbacks x.dw w wr.core := by
  unfold renderTo
  split
  · split
    · exact Or.inl rfl
    · dsimp only; exact Or.inr rfl
  -- `dsimp` first: comparing the pair's first component with the pass by `rfl` would unfold the pass
  all_goals dsimp only; exact Or.inr rfl

theorem erase_renderTo (x : Ext) (w : World) (wr : Wrapper) (hL : LogOnly w wr.core) :
    (renderTo x w wr).1.erase = w.erase := by
  rcases renderTo_fst x w wr with h | h <;> rw [h]
  exact erase_irc x.dw w wr.core hL

theorem of_mapCells_eq {α : Type} {R : RTable → α} {m : RCell → RCell} (hR : ∀ v, R (v.mapCells m) = R v)
    {v1 v2 : RTable} (hv : v1.mapCells m = v2.mapCells m) : R v1 = R v2 := by
  rw [← hR v1, hv, hR]

theorem render_congr (x : Ext) (w1 w2 : World) (wr : Wrapper) (hb : w1.bare = w2.bare)
    (hL1 : LogOnly w1 wr.core) (hL2 : LogOnly w2 wr.core) (hN1 : Needs w1 wr) (hN2 : Needs w2 wr) :
    (renderTo x w1 wr).2 = (renderTo x w2 wr).2 := by
  have hv := fun tt md => view_irc_congr x.dw tt md w1 w2 wr.core hb hL1 hL2
  unfold renderTo
  cases hk : wr.kind with
  | csv =>
    dsimp only
    exact of_mapCells_eq (renderCsv_mapCells (RCell.mask false false) (fun _ => rfl))
      (hv false false nofun nofun nofun nofun)
  | json =>
    dsimp only
    exact of_mapCells_eq (renderJson_mapCells x.js (RCell.mask false false) (fun _ => rfl) (fun _ => rfl) (fun _ => rfl))
      (hv false false nofun nofun nofun nofun)
  | html =>
    dsimp only
    exact of_mapCells_eq (renderHtml_mapCells wr.html (RCell.mask false false) (fun _ => rfl))
      (hv false false nofun nofun nofun nofun)
  | markdown =>
    dsimp only
    exact of_mapCells_eq (renderMarkdown_mapCells x.dw (RCell.mask false true) (fun _ => rfl) (fun _ => rfl))
      (hv false true nofun (fun _ => hN1.2 hk) nofun (fun _ => hN2.2 hk))
  | text =>
    dsimp only
    split
    · rfl
    · dsimp only
      exact of_mapCells_eq (renderTextBody_mapCells wr.decor (RCell.mask true false) (fun _ => rfl) (fun _ => rfl))
        (hv true false (fun _ => hN1.1 hk) nofun (fun _ => hN2.1 hk) nofun)

end World
end Tab
