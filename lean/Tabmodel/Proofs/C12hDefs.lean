/-
  C12, history level — specification vocabulary (definitions only, no proofs).

  `lastSetOn ops o k` is computed by a forward pass over the history that keeps, besides the
  "last value set" table, only what is needed to know which owners exist: the structural skeleton
  (the reference machine `Shape.step` of Spec/World.lean) and the number of caller-held cell copies.
-/
import Tabmodel.Proofs.C13xSpec
namespace Tab

/-- the keys a user of the library can set: any user (type, value) pair, `align.PropertyType`,
    `properties.Skipable`; the other three are private to texttable / markdown -/
def Key.isUser : Key → Bool
  | .user _ => true
  | .align => true
  | .skipable => true
  | _ => false

/-- does the owner exist in a structure `s` with `nc` caller-held copies? -/
def Shape.hasOwner (s : Shape) (nc : Nat) : Target → Bool
  | .table t => decide (t < s.tables.length)
  | .column t n => decide (t < s.tables.length) && decide (n < (s.table t).nColRecs)
  | .row r => decide (r < s.rows.length)
  | .cell r c => decide (c < s.width r)
  | .copy n => decide (n < nc)

/-- What a history has established so far: the structure, the number of copies, and for every
    (owner, key) the value last set (`none`: never set, or last set to nil). -/
structure PState where
  shape : Shape := {}
  ncopies : Nat := 0
  val : Target → Key → Option Val := fun _ _ => none

/-- One operation.
    * `setProp o k v` on an existing owner records `v` for `(o, k)` and nothing else;
      on an owner that does not exist (yet) it is a no-op, as in the model;
    * `copyCell r c` of an existing cell creates copy number `ncopies`, which starts with whatever
      the original has at that moment (for every key);
    * `rowAddCell r ce` (Row.Add of a caller-built cell value) creates cell `(r, len)`, which starts
      with what the value `ce` carries;
    * every other operation (all building calls, `Row.Add(NewCell(item))`, callback registration,
      renders, ...) changes no recorded value.  New owners start with nothing set. -/
def PState.step (p : PState) : BuildOp → PState
  | .setProp o k v =>
    if p.shape.hasOwner p.ncopies o then
      { p with val := fun o' k' => if o' = o ∧ k' = k then v else p.val o' k' }
    else p
  | .copyCell r c =>
    if c < p.shape.width r then
      { p with ncopies := p.ncopies + 1,
               val := fun o' k' => if o' = .copy p.ncopies then p.val (.cell r c) k' else p.val o' k' }
    else p
  | .rowAddCell r ce =>
    let s' := p.shape.step (.rowAddCell r ce)
    if r < p.shape.rows.length then
      match (p.shape.row r).cells with
      | some cs =>
        { p with shape := s',
                 val := fun o' k' => if o' = .cell r cs.length then ce.props.get k' else p.val o' k' }
      | none => { p with shape := s' }
    else { p with shape := s' }
  | op => { p with shape := p.shape.step op }

/-- the state after a history, from nothing -/
def PState.after (ops : List BuildOp) : PState := ops.foldl PState.step {}

/-- The value of the last `setProp o k v` of the history addressed to exactly the owner `o` and the
    key `k` (`none` if there is none, or it set nil); for a copy with no set since it was made, what
    the original had when it was copied; for a cell put into its row as a ready-made value with no
    set since, what that value carried. -/
def lastSetOn (ops : List BuildOp) (o : Target) (k : Key) : Option Val := (PState.after ops).val o k

/-- the keys an operation mentions: the key it sets, or the keys a ready-made cell value carries -/
def BuildOp.setKeys : BuildOp → List Key
  | .setProp _ k _ => [k]
  | .rowAddCell _ ce => ce.props.keys
  | _ => []

/-- the distinct keys of a history -/
def histKeys (ops : List BuildOp) : List Key := (ops.flatMap BuildOp.setKeys).eraseDups

/-- the distinct keys that are set on owner `o` after the history (last set not nil) -/
def keysSetOn (ops : List BuildOp) (o : Target) : List Key :=
  (histKeys ops).filter (fun k => (lastSetOn ops o k).isSome)

/-! ### the plain reading, for owners that never inherit a value -/

/-- the `(key, value)` pairs of the `setProp` operations addressed to exactly `o`, in order -/
def setsOn (ops : List BuildOp) (o : Target) : List (Key × Option Val) :=
  ops.filterMap (fun op => match op with
    | .setProp o' k v => if o' = o then some (k, v) else none
    | _ => none)

def PState.addressedFrom (p : PState) : List BuildOp → Bool
  | [] => true
  | op :: ops =>
    (match op with
     | .setProp o _ _ => p.shape.hasOwner p.ncopies o
     | _ => true) && PState.addressedFrom (p.step op) ops

/-- every `setProp` of the history addresses an owner that exists at that point (a caller of the Go
    API cannot do otherwise: it needs the object to call `SetProperty` on) -/
def Addressed (ops : List BuildOp) : Prop := PState.addressedFrom {} ops = true

def BuildOp.isRowAddCell : BuildOp → Bool
  | .rowAddCell _ _ => true
  | _ => false

/-- owners that never start with inherited values: tables, columns, rows; cells too when the history
    never adds a ready-made cell value (copies always inherit) -/
def NoInherit (ops : List BuildOp) : Target → Bool
  | .copy _ => false
  | .cell _ _ => ops.all (fun op => !op.isRowAddCell)
  | _ => true

/-- user callbacks that write no property at all -/
def Cb.isPassive : Cb → Bool
  | .log _ => true
  | .fail _ _ => true
  | _ => false

/-! ### hypotheses on histories (all decidable) -/

def Cb.isSetProp : Cb → Bool
  | .setProp _ _ _ => true
  | _ => false

def CbSet.all (s : CbSet) (p : Cb → Bool) : Bool := s.add.all p && s.pre.all p && s.render.all p && s.post.all p

/-- the callbacks an operation brings into the world: the one it registers, or the ones a
    ready-made cell value carries -/
def BuildOp.cbsAll (p : Cb → Bool) : BuildOp → Bool
  | .regCb _ _ _ cb => p cb
  | .rowAddCell _ ce => ce.cbs.all p
  | _ => true

/-- no callback of the history may write key `k` (`Cb.writes`, C13x) -/
def QuietFor (k : Key) (ops : List BuildOp) : Prop := ops.all (BuildOp.cbsAll (fun cb => !cb.writes k)) = true

/-- no `.setProp` callback anywhere in the history: user callbacks only log or fail; the two
    measuring callbacks of texttable / markdown are allowed -/
def NoSetCbs (ops : List BuildOp) : Prop := ops.all (BuildOp.cbsAll (fun cb => !cb.isSetProp)) = true

/-- the property chain a ready-made cell value carries holds one link per key (every value the Go
    API can produce does: chains are only ever built by `SetProperty`) -/
def BuildOp.cellOk : BuildOp → Bool
  | .rowAddCell _ ce => decide ce.props.keys.Nodup
  | _ => true

def CellsOk (ops : List BuildOp) : Prop := ops.all BuildOp.cellOk = true

/-- every callback of the history only logs or fails -/
def Passive (ops : List BuildOp) : Prop := ops.all (BuildOp.cbsAll Cb.isPassive) = true

instance (ops : List BuildOp) : Decidable (Passive ops) := by unfold Passive; infer_instance
instance (ops : List BuildOp) : Decidable (Addressed ops) := by unfold Addressed; infer_instance
instance (k : Key) (ops : List BuildOp) : Decidable (QuietFor k ops) := by unfold QuietFor; infer_instance
instance (ops : List BuildOp) : Decidable (NoSetCbs ops) := by unfold NoSetCbs; infer_instance
instance (ops : List BuildOp) : Decidable (CellsOk ops) := by unfold CellsOk; infer_instance

/-! ### world-side invariants -/

/-- every owner's chain holds at most one link per key -/
def AllNodup (w : World) : Prop := ∀ o, (w.chainOf o).keys.Nodup

/-- no callback registered anywhere in the world may write `k` -/
def Quiet (k : Key) (w : World) : Prop := ∀ s tm, ∀ cb ∈ w.cbsAt s tm, cb.writes k = false

/-- `w'` has the same callback sets and the same number of copies as `w`, one link per key if `w`
    has, and — when no callback of `w` may write `k` — reads like `w` on key `k` for every owner -/
structure Keeps (k : Key) (w w' : World) : Prop where
  val : Quiet k w → ∀ o, w'.getProp o k = w.getProp o k
  cbs : ∀ s, w'.cbSet s = w.cbSet s
  ncopies : w'.copies.length = w.copies.length
  nodup : AllNodup w → AllNodup w'

/-- all chains, callback sets, the number of copies and the event log are the same -/
structure CSame (w' w : World) : Prop where
  chain : ∀ o, w'.chainOf o = w.chainOf o
  cbs : ∀ s, w'.cbSet s = w.cbSet s
  ncopies : w'.copies.length = w.copies.length
  events : w'.events = w.events

/-- the world refines the recorded state on key `k` -/
structure Refines (k : Key) (w : World) (p : PState) : Prop where
  shape : w.shape = p.shape
  ncopies : w.copies.length = p.ncopies
  val : ∀ o, w.getProp o k = p.val o k

/-! ### callbacks that write the key: the event log as the schedule of sets -/

/-- `f id = some v`: the callbacks with id `id` are `.setProp id k v` (they write `v` on key `k`);
    `f id = none`: the callbacks with id `id` do not write `k`.  `agrees` says a callback fits. -/
def Cb.agrees (f : Nat → Option (Option Val)) (k : Key) : Cb → Bool
  | .setProp id k' v => if k' = k then decide (f id = some v) else decide (f id = none)
  | .log id => decide (f id = none)
  | .fail id _ => decide (f id = none)
  | .dimSetter => !(Cb.dimSetter.writes k)
  | .widthSetter => !(Cb.widthSetter.writes k)

/-- every callback of the history fits the writer table `f` for key `k` -/
def WritersOk (f : Nat → Option (Option Val)) (k : Key) (ops : List BuildOp) : Prop :=
  ops.all (BuildOp.cbsAll (Cb.agrees f k)) = true

instance (f : Nat → Option (Option Val)) (k : Key) (ops : List BuildOp) : Decidable (WritersOk f k ops) := by
  unfold WritersOk; infer_instance

/-- every callback of the world satisfies `P` -/
def CbsAll (P : Cb → Bool) (w : World) : Prop := ∀ s tm, ∀ cb ∈ w.cbsAt s tm, P cb = true

def World.has (w : World) (o : Target) : Bool := decide (w.hasObj o)

/-- one logged invocation `⟨id, tgt⟩`: if `id` is a writer of the key and the target exists, it sets
    the writer's value on the target, exactly like a `setProp` -/
def evApply (f : Nat → Option (Option Val)) (has : Target → Bool) (m : Target → Option Val) (e : Event) :
    Target → Option Val :=
  match f e.cb with
  | some v => if has e.tgt then fun o => if o = e.tgt then v else m o else m
  | none => m

/-- the direct effect of one operation on the values of key `k` (read in the world `w` it is applied
    in): the three value-giving operations of `PState.step` -/
def directK (k : Key) (w : World) (m : Target → Option Val) : BuildOp → Target → Option Val
  | .setProp o k' v => if k' = k ∧ w.hasObj o then fun o' => if o' = o then v else m o' else m
  | .copyCell r c =>
    if w.hasObj (.cell r c) then fun o' => if o' = .copy w.copies.length then m (.cell r c) else m o' else m
  | .rowAddCell r ce =>
    match (w.row r).cells with
    | some cs => if r < w.rows.length then fun o' => if o' = .cell r cs.length then ce.props.get k else m o' else m
    | none => m
  | _ => m

/-- one operation: its direct effect, then the invocations it logged, in log order -/
def stepW (f : Nat → Option (Option Val)) (dw : Measure) (k : Key) (s : World × (Target → Option Val))
    (op : BuildOp) : World × (Target → Option Val) :=
  let w' := applyOp dw s.1 op
  (w', (w'.events.drop s.1.events.length).foldl (evApply f w'.has) (directK k s.1 s.2 op))

/-- `lastSetOn` for key `k`, counting callback firings: the last value given to `(o, k)` by a `setProp`
    operation, by inheritance (copy / ready-made cell), or by an invocation of a writer callback on `o`
    recorded in the event log (whose order C13x documents) — whichever came last -/
def lastSetOnCb (f : Nat → Option (Option Val)) (dw : Measure) (ops : List BuildOp) (k : Key) (o : Target) :
    Option Val :=
  (ops.foldl (stepW f dw k) ({}, fun _ => none)).2 o

/-- `w'` extends `w`'s event log by `es`, keeps callback sets, copies and the one-link-per-key
    invariant, and reads on key `k` like `w` with the invocations `es` replayed as sets -/
structure TracksEs (f : Nat → Option (Option Val)) (k : Key) (w w' : World) (es : List Event) : Prop where
  cbs : ∀ s, w'.cbSet s = w.cbSet s
  ncopies : w'.copies.length = w.copies.length
  nodup : AllNodup w → AllNodup w'
  events : w'.events = w.events ++ es
  val : CbsAll (Cb.agrees f k) w → AllNodup w →
    ∀ o, w'.getProp o k = es.foldl (evApply f w'.has) (fun o => w.getProp o k) o

def Tracks (f : Nat → Option (Option Val)) (k : Key) (w w' : World) : Prop := ∃ es, TracksEs f k w w' es

end Tab
