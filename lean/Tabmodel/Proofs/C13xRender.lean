/- C13x helper lemmas: the render traversal for arbitrary callbacks, layer by layer (`*_any`: the step on `Ext`;
   `invokeRenderCallbacks_any`, `renderRow_traversal`: the `Traversal` statements); the documented lists depend on
   the skeleton only (`*_same`) and agree with the log-only lists of C13 in a log-only world (`*_log`). -/
import Tabmodel.Proofs.C13xBase
namespace Tab
open World C13
namespace C13x

theorem cellsExpectedAny_succ (w : World) (t r i n : Nat) :
    cellsExpectedAny w t r i (n + 1) = cellExpectedAny w t r i ++ cellsExpectedAny w t r (i + 1) n := by
  simp [cellsExpectedAny, List.range'_succ]

theorem renderCells_any (dw : Measure) {w0 : World} {J : World → List Event → Prop} (hJ : StepInv dw w0 J)
    (t r : Nat) : ∀ (n i : Nat) (w' : World) (es : List Event), Ext w0 J w' es →
      Ext w0 J (renderCells dw t r n i w') (es ++ cellsExpectedAny w0 t r i n) := by
  intro n
  induction n with
  | zero => intro i w' es h; simpa [renderCells, cellsExpectedAny] using h
  | succ n ih =>
    intro i w' es h
    rw [cellsExpectedAny_succ, ← List.append_assoc]
    simp only [renderCells]
    apply ih
    unfold cellExpectedAny
    simp only [← List.append_assoc]
    -- the eight calls of one cell, last call first (the goal is the outermost `invoke`)
    refine ext_invoke_slot dw hJ ?_ (.tableCell t) .post (fun hs => same_cbsAt hs _ _) _ _
    refine ext_invoke_col dw hJ ?_ r i .post (fun hs => same_colCellCbs h.same hs r i .post) _ _
    refine ext_invoke_slot dw hJ ?_ (.rowCell r) .post (fun hs => same_cbsAt hs _ _) _ _
    refine ext_invoke_slot dw hJ ?_ (.cellOwn r i) .render (fun hs => same_cellOwn hs r i .render) _ _
    refine ext_invoke_slot dw hJ ?_ (.tableCell t) .render (fun hs => same_cbsAt hs _ _) _ _
    refine ext_invoke_slot dw hJ ?_ (.rowCell r) .pre (fun hs => same_cbsAt hs _ _) _ _
    refine ext_invoke_col dw hJ ?_ r i .pre (fun hs => same_colCellCbs h.same hs r i .pre) _ _
    exact ext_invoke_slot dw hJ h (.tableCell t) .pre (fun hs => same_cbsAt hs _ _) _ _

theorem renderRow_any (dw : Measure) {w0 : World} {J : World → List Event → Prop} (hJ : StepInv dw w0 J)
    (t r : Nat) (w' : World) (es : List Event) (h : Ext w0 J w' es) :
    Ext w0 J (renderRow dw t w' r) (es ++ rowExpectedAny w0 t r) := by
  have h1 := ext_invoke_slot dw hJ h (.rowSelf r) .pre (cbs := (w'.row r).selfCbs.at .pre)
    (fun hs => same_cbsAt hs (.rowSelf r) .pre) (.row r) (.table t)
  have h2 := (renderCells_any dw hJ t r
    (((invoke dw w' ((w'.row r).selfCbs.at .pre) (.row r) (.table t)).rowCells r).length) 0 _ _ h1).cast
    (es' := es ++ userEvents (w0.cbsAt (.rowSelf r) .pre) (.row r) ++
      cellsExpectedAny w0 t r 0 (w0.rowCells r).length)
    (by rw [same_rowCells_length h1.same r])
  have h3 := ext_invoke_slot dw hJ h2 (.rowSelf r) .post (fun hs => same_cbsAt hs (.rowSelf r) .post)
    (.row r) (.table t)
  refine Ext.cast h3 ?_
  simp only [rowExpectedAny, cellsExpectedAny, List.range_eq_range', List.append_assoc]

theorem renderRows_any (dw : Measure) {w0 : World} {J : World → List Event → Prop} (hJ : StepInv dw w0 J)
    (t : Nat) : ∀ (rs : List Nat) (w' : World) (es : List Event), Ext w0 J w' es →
      Ext w0 J (rs.foldl (renderRow dw t) w') (es ++ rs.flatMap (rowExpectedAny w0 t)) := by
  intro rs
  induction rs with
  | nil => intro w' es h; simpa using h
  | cons r rs ih =>
    intro w' es h
    simp only [List.foldl_cons, List.flatMap_cons, ← List.append_assoc]
    exact ih _ _ (renderRow_any dw hJ t r w' es h)

theorem colsExpectedAnyFrom_succ (w : World) (t : Nat) (tm : Time) (i n : Nat) :
    colsExpectedAnyFrom w t tm i (n + 1) =
      userEvents (w.cbsAt (.colSelf t i) tm) (.column t i) ++ colsExpectedAnyFrom w t tm (i + 1) n := by
  simp [colsExpectedAnyFrom, List.range'_succ]

theorem renderColumns_any (dw : Measure) {w0 : World} {J : World → List Event → Prop} (hJ : StepInv dw w0 J)
    (t : Nat) (tm : Time) : ∀ (n i : Nat) (w' : World) (es : List Event), Ext w0 J w' es →
      Ext w0 J (renderColumns dw t tm n i w') (es ++ colsExpectedAnyFrom w0 t tm i n) := by
  intro n
  induction n with
  | zero => intro i w' es h; simpa [renderColumns, colsExpectedAnyFrom] using h
  | succ n ih =>
    intro i w' es h
    rw [colsExpectedAnyFrom_succ, ← List.append_assoc]
    simp only [renderColumns]
    apply ih
    exact ext_invoke_slot dw hJ h (.colSelf t i) tm (fun hs => same_colSelf hs t i tm) _ _

theorem colsExpectedAny_eq (w : World) (t : Nat) (tm : Time) :
    colsExpectedAny w t tm = colsExpectedAnyFrom w t tm 0 (w.table t).columns.length := by
  simp only [colsExpectedAny, colsExpectedAnyFrom, List.range_eq_range']

theorem renderHeader_any (dw : Measure) {w0 : World} {J : World → List Event → Prop} (hJ : StepInv dw w0 J)
    (t : Nat) (w' : World) (es : List Event) (h : Ext w0 J w' es) :
    Ext w0 J (renderHeader dw t w') (es ++ (w0.table t).header.toList.flatMap (rowExpectedAny w0 t)) := by
  unfold renderHeader
  rw [same_header h.same t]
  cases (w0.table t).header with
  | none => exact h.cast (List.append_nil es).symm
  | some hr => exact (renderRow_any dw hJ t hr w' es h).cast (by simp)

theorem invokeRenderCallbacks_any (dw : Measure) (w0 : World) (t : Nat) :
    Traversal dw w0 (invokeRenderCallbacks dw w0 t) (expectedRenderAny w0 t) := by
  intro J hJ h0
  rw [invokeRenderCallbacks_eq]
  extract_lets w1 ncol w2 w3 w4 w5
  have e1 : Ext w0 J w1 ([] ++ _) :=
    ext_invoke_slot dw hJ (.init h0) (.tableSelf t) .pre (fun _ => rfl) _ _
  have hn : ncol = (w0.table t).columns.length := same_ncolrecs e1.same t
  have e2 : Ext w0 J w2 _ := renderColumns_any dw hJ t .pre ncol 0 _ _ e1
  have e3 : Ext w0 J w3 _ := renderHeader_any dw hJ t _ _ e2
  have e4 : Ext w0 J w4 (_ ++ (w0.table t).rows.flatMap (rowExpectedAny w0 t)) :=
    (renderRows_any dw hJ t (w3.table t).rows _ _ e3).cast (by rw [same_rows e3.same t])
  have e5 : Ext w0 J w5 _ := renderColumns_any dw hJ t .post ncol 0 _ _ e4
  refine (ext_invoke_slot dw hJ e5 (.tableSelf t) .post (fun hs => same_cbsAt hs _ _) (.table t) (.table t)).cast ?_
  simp only [expectedRenderAny, renderRows, colsExpectedAny_eq, hn, List.flatMap_append, List.append_assoc,
    List.nil_append]

theorem cellExpectedAny_same {w' w : World} (h : SameSkeleton w' w) (t r : Nat) :
    cellExpectedAny w' t r = cellExpectedAny w t r := by
  funext i
  simp only [cellExpectedAny, same_cbsAt h, same_colCellAt h]

theorem rowExpectedAny_same {w' w : World} (h : SameSkeleton w' w) (t : Nat) :
    rowExpectedAny w' t = rowExpectedAny w t := by
  funext r
  simp only [rowExpectedAny, cellExpectedAny_same h, same_cbsAt h, same_rowCells_length h]

theorem expectedRenderAny_same {w' w : World} (h : SameSkeleton w' w) (t : Nat) :
    expectedRenderAny w' t = expectedRenderAny w t := by
  simp only [expectedRenderAny, colsExpectedAny, rowExpectedAny_same h, renderRows, same_cbsAt h,
    same_header h, same_rows h, same_ncolrecs h]

theorem userEvents_eq_logEvents (cbs : List Cb) (tgt : Target) (h : ∀ cb ∈ cbs, cb.isLog = true) :
    userEvents cbs tgt = logEvents cbs tgt := by
  induction cbs with
  | nil => rfl
  | cons cb cbs ih =>
    rw [userEvents_cons, ih (fun c hc => h c (List.mem_cons_of_mem _ hc))]
    cases cb with
    | log id => rfl
    | _ => exact absurd (h _ List.mem_cons_self) (by simp [Cb.isLog])

theorem userEvents_cbsAt_log {w : World} (h : LogOnlyAt w) (s : CbSlot) (tm : Time) (tgt : Target) :
    userEvents (w.cbsAt s tm) tgt = logEvents (w.cbsAt s tm) tgt :=
  userEvents_eq_logEvents _ tgt (h s tm)

theorem userEvents_colCellAt_log {w : World} (h : LogOnlyAt w) (r i : Nat) (tm : Time) (tgt : Target) :
    userEvents (colCellAt w r i tm) tgt = logEvents (colCellAt w r i tm) tgt :=
  userEvents_eq_logEvents _ tgt (colCellAt_log h r i tm)

theorem rowExpectedAny_log {w : World} (h : LogOnlyAt w) (t : Nat) : rowExpectedAny w t = rowExpected w t := by
  have hc : ∀ r, cellExpectedAny w t r = cellExpected w t r := by
    intro r; funext i; simp only [cellExpectedAny, cellExpected, userEvents_cbsAt_log h, userEvents_colCellAt_log h]
  funext r
  simp only [rowExpectedAny, rowExpected, hc, userEvents_cbsAt_log h]

theorem expectedRenderAny_log {w : World} (h : LogOnlyAt w) (t : Nat) :
    expectedRenderAny w t = expectedRender w t := by
  simp only [expectedRenderAny, expectedRender, colsExpectedAny, colsExpected, rowExpectedAny_log h,
    userEvents_cbsAt_log h]

theorem renderRow_traversal (dw : Measure) (w : World) (t r : Nat) :
    Traversal dw w (renderRow dw t w r) (rowExpectedAny w t r) :=
  fun _ hJ h0 => (renderRow_any dw hJ t r w [] (.init h0)).cast (List.nil_append _)

theorem invokeRenderCallbacks_log (dw : Measure) {w : World} (h : LogOnlyAt w) (t : Nat) :
    invokeRenderCallbacks dw w t = w.addEv (expectedRender w t) :=
  expectedRenderAny_log h t ▸ (invokeRenderCallbacks_any dw w t).log h

end C13x
end Tab
