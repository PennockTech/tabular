/-
  C07, proof side: what `renderJson` writes, as tokens of the grammar of `Spec/Json.lean`.

  Every loop of the renderer gets one statement of the shape `Run E m full good a` (below).  Such
  statements compose along `bind'`, so the cell loop, a row, the rows loop and `renderJson` are one
  induction or one chain each.  The header loop comes apart (`jsonKeys_eq`): it stops at the first
  column that `headerDefect` flags.  The last part runs the grammar over the claimed token stream.
-/
import Tabmodel.Spec.Json
import Tabmodel.Proofs.C09hJson
namespace Tab
namespace C07
open Emit

abbrev flatT (ts : List Tok) : Bytes := ts.flatMap tokBytes

/-- If `good`, the program `m` returns `a` and has written exactly the tokens `full`; otherwise it stops
with an error satisfying `E`, having written a token-prefix of `full`. -/
structure Run {α : Type} (E : Stop → Prop) (m : Emit α) (full : List Tok) (good : Prop) (a : α) : Prop where
  ok : good → Writes m a (flatT full)
  bad : ¬ good → ∃ e, m.res = .error e ∧ E e ∧ ∃ ts, ts <+: full ∧ m.chunks.flatten = flatT ts

namespace Run
variable {α β : Type} {E : Stop → Prop}

theorem bind {m : Emit α} {f : α → Emit β} {t₁ t₂ : List Tok} {g₁ g₂ : Prop} {a : α} {b : β}
    (h₁ : Run E m t₁ g₁ a) (h₂ : g₁ → Run E (f a) t₂ g₂ b) :
    Run E (bind' m f) (t₁ ++ t₂) (g₁ ∧ g₂) b := by
  by_cases hg : g₁
  · have h₁ := h₁.ok hg
    have hb := bind'_ok h₁.res f
    have hc : m.chunks.flatten = flatT t₁ := h₁.output
    constructor
    · intro ⟨_, hg₂⟩
      exact (h₁.bind ((h₂ hg).ok hg₂)).congr List.flatMap_append.symm
    · intro hn
      obtain ⟨e, hr₂, he, ts, hts, hc₂⟩ := (h₂ hg).bad (fun h => hn ⟨hg, h⟩)
      exact ⟨e, hb.2.trans hr₂, he, t₁ ++ ts, (List.prefix_append_right_inj _).2 hts,
        by rw [hb.1, List.flatten_append, hc, hc₂]; exact List.flatMap_append.symm⟩
  · obtain ⟨e, hr, he, ts, hts, hc⟩ := h₁.bad hg
    have hb := bind'_err hr f
    exact ⟨fun h => absurd h.1 hg,
      fun _ => ⟨e, hb.2, he, ts, hts.trans (List.prefix_append _ _), by rw [hb.1]; exact hc⟩⟩

theorem seq {m : Emit α} {f : α → Emit β} {t₁ t₂ : List Tok} {g : Prop} {a : α} {b : β}
    (h₁ : Run E m t₁ True a) (h₂ : Run E (f a) t₂ g b) : Run E (bind' m f) (t₁ ++ t₂) g b :=
  let h := bind h₁ fun _ => h₂
  ⟨fun hg => h.ok ⟨trivial, hg⟩, fun hg => h.bad fun hn => hg hn.2⟩

theorem congr {m : Emit α} {t t' : List Tok} {g g' : Prop} {a a' : α}
    (ht : t = t') (hg : g ↔ g') (ha : a = a') (h : Run E m t g a) : Run E m t' g' a' := by
  subst ht ha
  exact ⟨fun h' => h.ok (hg.2 h'), fun h' => h.bad (fun x => h' (hg.1 x))⟩

theorem good_of_ok {m : Emit α} {t : List Tok} {g : Prop} {a a' : α} (h : Run E m t g a)
    (hok : m.res = .ok a') : g := by
  apply Classical.byContradiction
  intro hn
  obtain ⟨e, he, _⟩ := h.bad hn
  rw [he] at hok; cases hok

theorem of_error {m : Emit α} {t : List Tok} {g : Prop} {a : α} (h : Run E m t g a) {s : Stop}
    (herr : m.res = .error s) : E s ∧ ∃ ts, ts <+: t ∧ m.chunks.flatten = flatT ts := by
  by_cases hg : g
  · rw [(h.ok hg).res] at herr; cases herr
  · obtain ⟨e, he, hE, hts⟩ := h.bad hg
    rw [he] at herr; cases herr
    exact ⟨hE, hts⟩

theorem pure (a : α) : Run E (pure' a) [] True a :=
  ⟨fun _ => .pure a, fun h => absurd trivial h⟩

theorem write {b : Bytes} {ts : List Tok} (h : flatT ts = b) : Run E (write b) ts True () :=
  ⟨fun _ => h ▸ .write b, fun h => absurd trivial h⟩

theorem fail {e : ErrClass} (he : E (.err e)) (ts : List Tok) (a : α) : Run E (fail e : Emit α) ts False a :=
  ⟨False.elim, fun _ => ⟨_, rfl, he, [], List.nil_prefix, rfl⟩⟩

end Run

/-! ## One object: the cell loop and a row -/

/-- what the header loop stores for cell index `i`: the encoded key with its `": "`, and the skipable
flag with column 0's default resolved -/
def keyEntry (js : JsonStr) (v : RTable) (i : Nat) : Bytes × Bool :=
  (js (headerText v i) ++ [58, 32], skipableAt v i)

def KeysAre (js : JsonStr) (v : RTable) (n : Nat) (keys : List (Bytes × Bool)) : Prop :=
  keys.length = n ∧ ∀ j < n, keys[j]? = some (keyEntry js v j)

def RowsErr (v : RTable) (rows : List (Option (List RCell))) (e : Stop) : Prop :=
  (e = .err .structural ∧ ∃ cs, some cs ∈ rows ∧ v.ncols < cs.length) ∨ e = .err .marshal

/-- `o`: the brace is already open -/
def memberToks : List (Bytes × Bytes) → Bool → List Tok
  | [], _ => []
  | m :: ms, o =>
    (if o then [.comma, .ws false] else [.lbrace]) ++ .key m.1 :: .val m.2 :: memberToks ms true

def membersFrom (js : JsonStr) (v : RTable) (cells : List RCell) (i : Nat) : List (Bytes × Bytes) :=
  (cells.zipIdx i).filterMap (fun (c, i) =>
    if emitted v c i then some (js (headerText v i), encCell js c) else none)

theorem members_eq (js : JsonStr) (v : RTable) (cells : List RCell) :
    members js v cells = membersFrom js v cells 0 := rfl

theorem membersFrom_nil (js : JsonStr) (v : RTable) (i : Nat) : membersFrom js v [] i = [] := rfl

theorem membersFrom_cons (js : JsonStr) (v : RTable) (c : RCell) (cs : List RCell) (i : Nat) :
    membersFrom js v (c :: cs) i =
      if emitted v c i then (js (headerText v i), encCell js c) :: membersFrom js v cs (i + 1)
      else membersFrom js v cs (i + 1) := by
  unfold membersFrom
  rw [List.zipIdx_cons, List.filterMap_cons]
  by_cases h : emitted v c i = true <;> simp [h]

def CellsGood (v : RTable) (cs : List RCell) (i : Nat) : Prop :=
  ∀ p ∈ cs.zipIdx i, emitted v p.1 p.2 = true → p.1.json.isSome = true

theorem cellsGood_cons {v : RTable} {c : RCell} {cs : List RCell} {i : Nat} :
    CellsGood v (c :: cs) i ↔ (emitted v c i = true → c.json.isSome = true) ∧ CellsGood v cs (i + 1) := by
  unfold CellsGood
  rw [List.zipIdx_cons]
  simp only [List.mem_cons, forall_eq_or_imp]

/-- the value written for a cell whose item marshals, as the renderer computes it -/
theorem encCell_of_isSome (js : JsonStr) (c : RCell) (h : c.json.isSome = true) :
    (if (c.json.getD [] == [123, 125] && c.text != []) = true then js c.text else c.json.getD []) =
      encCell js c := by
  unfold encCell
  cases hj : c.json with
  | none => rw [hj] at h; cases h
  | some t => simp only [Option.getD_some, Bool.and_eq_true, beq_iff_eq, bne_iff_ne]

theorem jsonEmitCells_run {js : JsonStr} {v : RTable} {n : Nat} {keys : List (Bytes × Bool)}
    (hk : KeysAre js v n keys) (rows : List (Option (List RCell))) (cs : List RCell) (i : Nat) (o : Bool)
    (hi : i + cs.length ≤ n) :
    Run (RowsErr v rows) (jsonEmitCells js keys cs i o) (memberToks (membersFrom js v cs i) o)
      (CellsGood v cs i) (o || !(membersFrom js v cs i).isEmpty) := by
  induction cs generalizing i o with
  | nil => exact Run.congr rfl (by simp [CellsGood]) (by simp [membersFrom_nil]) (Run.pure o)
  | cons c cs ih =>
    rw [List.length_cons] at hi
    have ih' := fun o' => ih (i + 1) o' (by omega)
    rw [membersFrom_cons, cellsGood_cons]
    simp only [jsonEmitCells, bind_eq, pure_eq, idx_ok (hk.2 i (by omega)), bind'_pure', keyEntry]
    cases hs : (skipableAt v i && c.empty) with
    | true =>
      have he : emitted v c i = false := by rw [emitted, hs]; rfl
      simp only [he, if_true]
      exact Run.congr (by simp) (by simp) rfl (ih' o)
    | false =>
      have he : emitted v c i = true := by rw [emitted, hs]; rfl
      have hjson : Run (RowsErr v rows) (match c.json with | none => fail .marshal | some t => pure' t) []
          (c.json.isSome = true) (c.json.getD []) := by
        cases c.json with
        | none => exact Run.congr rfl (by simp) rfl (Run.fail (.inr rfl) [] _)
        | some t => exact Run.congr rfl (by simp) rfl (Run.pure t)
      simp only [he, Bool.false_eq_true, if_false, if_true]
      refine Run.congr rfl ?_ ?_ (Run.seq (Run.write (ts := if o then [.comma, .ws false] else [.lbrace])
          (by cases o <;> rfl)) <|
        Run.seq (Run.write (ts := [.key (js (headerText v i))]) (List.append_nil _)) <|
        Run.bind hjson fun hj =>
        Run.seq (Run.write (ts := [.val (encCell js c)])
          ((List.append_nil _).trans (encCell_of_isSome js c hj).symm)) (ih' true))
      · simp
      · simp

theorem memberToks_true (ms : List (Bytes × Bytes)) :
    memberToks ms true = ms.flatMap (fun m => [.comma, .ws false, .key m.1, .val m.2]) := by
  induction ms with
  | nil => rfl
  | cons m ms ih => simp [memberToks, ih]

theorem objToks_eq (ms : List (Bytes × Bytes)) :
    objToks ms = memberToks ms false ++ (if ms.isEmpty then [.lbrace, .rbrace] else [.rbrace]) := by
  cases ms with
  | nil => rfl
  | cons m ms => simp [objToks, memberToks, memberToks_true]

def RowsGood (v : RTable) (rows : List (Option (List RCell))) : Prop :=
  ∀ cs, some cs ∈ rows → cs.length ≤ v.ncols ∧ CellsGood v cs 0

theorem rowsGood_none {v : RTable} {rs : List (Option (List RCell))} :
    RowsGood v (none :: rs) ↔ RowsGood v rs := by
  simp only [RowsGood, List.mem_cons, reduceCtorEq, false_or]

theorem rowsGood_some {v : RTable} {cells : List RCell} {rs : List (Option (List RCell))} :
    RowsGood v (some cells :: rs) ↔ (cells.length ≤ v.ncols ∧ CellsGood v cells 0) ∧ RowsGood v rs := by
  simp only [RowsGood, List.mem_cons, Option.some.injEq, forall_eq_or_imp]

theorem jsonEmitRow_run {js : JsonStr} {v : RTable} {keys : List (Bytes × Bool)}
    (hk : KeysAre js v v.ncols keys) {rows : List (Option (List RCell))} {cells : List RCell}
    (hm : some cells ∈ rows) :
    Run (RowsErr v rows) (jsonEmitRow js keys cells) (objToks (members js v cells))
      (cells.length ≤ v.ncols ∧ CellsGood v cells 0) () := by
  unfold jsonEmitRow
  rw [hk.1]
  by_cases hl : v.ncols < cells.length
  · simp only [hl, if_true]
    exact Run.congr rfl ⟨False.elim, fun h => absurd h.1 (by omega)⟩ rfl (Run.fail (.inl ⟨rfl, cells, hm, hl⟩) _ ())
  · simp only [hl, if_false, bind_eq]
    have hclose : Run (RowsErr v rows)
        (if (false || !(membersFrom js v cells 0).isEmpty) = true then write [125] else write [123, 125])
        (if (membersFrom js v cells 0).isEmpty then [.lbrace, .rbrace] else [.rbrace]) True () := by
      cases (membersFrom js v cells 0).isEmpty <;> exact Run.write rfl
    exact Run.congr (by rw [objToks_eq, members_eq])
      ⟨fun h => ⟨Nat.le_of_not_lt hl, h.1⟩, fun h => ⟨h.2, trivial⟩⟩ rfl
      (Run.bind (jsonEmitCells_run hk rows cells 0 false (by rw [Nat.zero_add]; exact Nat.le_of_not_lt hl)) fun _ =>
        hclose)

/-! ## The rows loop

The renderer decides after each object whether a `,\n` is owed (`needComma`, by comparing the index with
`lastObject`) and writes it before the next row; the specification puts it right after the object when a
later object exists.  `needComma_iff` says the two tests agree, `preTok` is what is owed. -/

def lastFrom (acc : Nat) (rows : List (Option (List RCell))) (k : Nat) : Nat :=
  (rows.zipIdx k).foldl (fun acc (r, i) => if r.isSome then i + 1 else acc) acc

theorem lastFrom_nil (acc k : Nat) : lastFrom acc [] k = acc := rfl

theorem lastFrom_cons (acc k : Nat) (r : Option (List RCell)) (rs : List (Option (List RCell))) :
    lastFrom acc (r :: rs) k = lastFrom (if r.isSome then k + 1 else acc) rs (k + 1) := by
  unfold lastFrom; rw [List.zipIdx_cons, List.foldl_cons]

theorem lastFrom_any (acc : Nat) (rs : List (Option (List RCell))) (k : Nat) :
    if rs.any Option.isSome then k < lastFrom acc rs k else lastFrom acc rs k = acc := by
  induction rs generalizing acc k with
  | nil => rfl
  | cons r rs ih =>
    have := ih (if r.isSome then k + 1 else acc) (k + 1)
    rw [lastFrom_cons, List.any_cons]
    cases hrs : rs.any Option.isSome with
    | true =>
      rw [hrs, if_pos rfl] at this
      rw [Bool.or_true, if_pos rfl]
      omega
    | false =>
      rw [hrs, if_neg Bool.false_ne_true] at this
      rw [Bool.or_false, this]
      cases r.isSome <;> simp

theorem needComma_iff (pre : List (Option (List RCell))) (c : List RCell) (rs : List (Option (List RCell))) :
    decide (pre.length + 1 < lastObject (pre ++ some c :: rs)) = rs.any Option.isSome := by
  have h : lastObject (pre ++ some c :: rs) = lastFrom (pre.length + 1) rs (pre.length + 1) := by
    unfold lastObject lastFrom
    rw [List.zipIdx_append, List.foldl_append, List.zipIdx_cons, List.foldl_cons]
    simp
  have := lastFrom_any (pre.length + 1) rs (pre.length + 1)
  rw [h]
  cases hrs : rs.any Option.isSome with
  | true => rw [hrs, if_pos rfl] at this; exact decide_eq_true this
  | false => rw [hrs, if_neg Bool.false_ne_true] at this; rw [this]; exact decide_eq_false (Nat.lt_irrefl _)

def preTok (nc : Bool) : List Tok := if nc then [.comma, .ws true] else []

theorem jsonRows_run {js : JsonStr} {v : RTable} {keys : List (Bytes × Bool)}
    (hk : KeysAre js v v.ncols keys) (full : List (Option (List RCell))) :
    ∀ (rs pre : List (Option (List RCell))) (i : Nat) (nc : Bool), pre.length = i → full = pre ++ rs →
      (nc = true → rs ≠ []) →
      Run (RowsErr v full) (jsonRows js keys (lastObject full) rs i nc) (preTok nc ++ rowsToks js v rs)
        (RowsGood v rs) () := by
  intro rs
  induction rs with
  | nil =>
    intro pre i nc _ _ hnc
    cases nc with
    | true => exact absurd rfl (hnc rfl)
    | false => exact Run.congr rfl (by simp [RowsGood]) rfl (Run.pure ())
  | cons r rs ih =>
    intro pre i nc hi hfull _
    have ih' := fun nc' => ih (pre ++ [r]) (i + 1) nc' (by simp [hi]) (by simp [hfull])
    have hpre : Run (RowsErr v full) (if nc = true then write [44, LF] else pure' ()) (preTok nc) True () := by
      cases nc with
      | true => exact Run.write rfl
      | false => exact Run.pure ()
    rw [jsonRows_cons]
    cases r with
    | none =>
      exact Run.congr rfl rowsGood_none.symm rfl
        (Run.seq hpre <| Run.seq (Run.write (ts := [.ws true]) rfl) <| ih' false nofun)
    | some cells =>
      have hc : decide (i + 1 < lastObject full) = rs.any Option.isSome := by
        rw [hfull, ← hi]; exact needComma_iff pre cells rs
      have hne : rs.any Option.isSome = true → rs ≠ [] := by
        intro h he; subst he; simp at h
      rw [hc]
      refine Run.congr ?_ rowsGood_some.symm rfl
        (Run.seq hpre <| Run.bind (jsonEmitRow_run hk (by simp [hfull])) fun _ => ih' _ hne)
      simp only [rowsToks, preTok, List.append_assoc]

theorem rowsGood_iff (v : RTable) :
    RowsGood v v.rows ↔ (∀ cs, some cs ∈ v.rows → cs.length ≤ v.ncols) ∧ MarshalOK v := by
  constructor
  · intro h
    exact ⟨fun cs hcs => (h cs hcs).1, fun r hr cs hcs => by cases hcs; exact (h cs hr).2⟩
  · rintro ⟨h1, h2⟩ cs hcs
    exact ⟨h1 cs hcs, h2 _ hcs cs rfl⟩

/-! ## The header loop -/

theorem asBoolOr_nonbool {x : Option Val} (d : Bool) (hb : boolOrNone x = false) :
    asBoolOr x d = .error (.err .nonboolSkipable) := by
  cases x with
  | none => cases hb
  | some x => cases x with
    | bool b => cases hb
    | _ => rfl

theorem asBoolOr_ok_of {x : Option Val} (d : Bool) (hb : boolOrNone x = true) :
    ∃ b, asBoolOr x d = .ok b := by
  cases x with
  | none => exact ⟨d, rfl⟩
  | some x => cases x with
    | bool b => exact ⟨b, rfl⟩
    | _ => cases hb

theorem asBoolOr_default {v : RTable} {d : Bool} (h0 : asBoolOr (v.colSkip.getD 0 none) false = .ok d)
    (i : Nat) (hb : boolOrNone (v.colSkip.getD (i + 1) none) = true) :
    asBoolOr (v.colSkip.getD (i + 1) none) d = .ok (skipableAt v i) := by
  unfold skipableAt
  cases hc : v.colSkip.getD (i + 1) none with
  | some x =>
    rw [hc] at hb
    cases x with
    | bool b => rfl
    | _ => cases hb
  | none =>
    cases h00 : v.colSkip.getD 0 none with
    | none => rw [h00] at h0; cases h0; rfl
    | some x => rw [h00] at h0; cases x <;> cases h0 <;> rfl

theorem headerDefect_cases (v : RTable) (i : Nat) :
    (headerText v i = [] ∧ headerDefect v i = some .emptyHeader) ∨
    (headerText v i ≠ [] ∧ (∃ j < i, headerText v j = headerText v i) ∧ headerDefect v i = some .dupHeader) ∨
    (headerText v i ≠ [] ∧ (¬ ∃ j < i, headerText v j = headerText v i) ∧
      boolOrNone (v.colSkip.getD (i + 1) none) = false ∧ headerDefect v i = some .nonboolSkipable) ∨
    (headerText v i ≠ [] ∧ (¬ ∃ j < i, headerText v j = headerText v i) ∧
      boolOrNone (v.colSkip.getD (i + 1) none) = true ∧ headerDefect v i = none) := by
  unfold headerDefect
  by_cases h1 : headerText v i = []
  · exact .inl ⟨h1, if_pos h1⟩
  by_cases h2 : ∃ j < i, headerText v j = headerText v i
  · exact .inr (.inl ⟨h1, h2, by rw [if_neg h1, if_pos h2]⟩)
  cases h3 : boolOrNone (v.colSkip.getD (i + 1) none) with
  | false => exact .inr (.inr (.inl ⟨h1, h2, rfl, by rw [if_neg h1, if_neg h2, if_pos rfl]⟩))
  | true => exact .inr (.inr (.inr ⟨h1, h2, rfl, by rw [if_neg h1, if_neg h2, if_neg (by decide)]⟩))

theorem headerDefect_none_iff {v : RTable} {i : Nat} :
    headerDefect v i = none ↔ headerText v i ≠ [] ∧ (¬ ∃ j < i, headerText v j = headerText v i) ∧
      boolOrNone (v.colSkip.getD (i + 1) none) = true := by
  rcases headerDefect_cases v i with ⟨h1, hd⟩ | ⟨_, h2, hd⟩ | ⟨_, _, h3, hd⟩ | ⟨h1, h2, h3, hd⟩
  · rw [hd]; exact ⟨nofun, fun h => absurd h1 h.1⟩
  · rw [hd]; exact ⟨nofun, fun h => absurd h2 h.2.1⟩
  · rw [hd, h3]; exact ⟨nofun, fun h => nomatch h.2.2⟩
  · exact ⟨fun _ => ⟨h1, h2, h3⟩, fun _ => hd⟩

def SeenIs (v : RTable) (i : Nat) (seen : List Bytes) : Prop :=
  ∀ s, s ∈ seen ↔ ∃ j < i, headerText v j = s

theorem SeenIs_zero (v : RTable) : SeenIs v 0 [] := by
  intro s; simp

theorem SeenIs_succ {v : RTable} {i : Nat} {seen : List Bytes} (h : SeenIs v i seen) :
    SeenIs v (i + 1) (headerText v i :: seen) := by
  intro s
  simp only [List.mem_cons, h s]
  constructor
  · rintro (rfl | ⟨j, hj, rfl⟩)
    · exact ⟨i, Nat.lt_succ_self i, rfl⟩
    · exact ⟨j, Nat.lt_succ_of_lt hj, rfl⟩
  · rintro ⟨j, hj, rfl⟩
    by_cases hji : j = i
    · left; rw [hji]
    · right; exact ⟨j, by omega, rfl⟩

theorem jsonKeys_step (js : JsonStr) {v : RTable} {hs : List RCell} (hh : v.header = some hs) {d : Bool}
    (h0 : asBoolOr (v.colSkip.getD 0 none) false = .ok d)
    (n i : Nat) (seen : List Bytes) (acc : List (Bytes × Bool)) (hi : i < hs.length)
    (hseen : SeenIs v i seen) :
    jsonKeys js v hs d (n + 1) i seen acc =
      match headerDefect v i with
      | some e => .error (.err e)
      | none => jsonKeys js v hs d n (i + 1) (headerText v i :: seen) (acc ++ [keyEntry js v i]) := by
  have ht : headerText v i = hs[i].text := by
    unfold headerText headerCells; rw [hh]; simp [hi]
  have hmem : headerText v i ∈ seen ↔ ∃ j < i, headerText v j = headerText v i := hseen _
  simp only [jsonKeys, idxE, List.getElem?_eq_getElem hi, bind, Except.bind, ← ht, beq_iff_eq,
    List.contains_iff_mem, hmem]
  rcases headerDefect_cases v i with ⟨h1, hd⟩ | ⟨h1, h2, hd⟩ | ⟨h1, h2, h3, hd⟩ | ⟨h1, h2, h3, hd⟩ <;> rw [hd]
  · rw [if_pos h1]
  · rw [if_neg h1, if_pos h2]
  · rw [if_neg h1, if_neg h2, asBoolOr_nonbool d h3]
  · rw [if_neg h1, if_neg h2, asBoolOr_default h0 i h3]; rfl

/-- the header loop returns the first defect among the columns it visits, or else their key entries -/
theorem jsonKeys_eq (js : JsonStr) {v : RTable} {hs : List RCell} (hh : v.header = some hs) {d : Bool}
    (h0 : asBoolOr (v.colSkip.getD 0 none) false = .ok d) :
    ∀ (n i : Nat) (seen : List Bytes) (acc : List (Bytes × Bool)), i + n ≤ hs.length → SeenIs v i seen →
      jsonKeys js v hs d n i seen acc =
        match (List.range' i n).findSome? (headerDefect v) with
        | some e => .error (.err e)
        | none => .ok (acc ++ (List.range' i n).map (keyEntry js v)) := by
  intro n
  induction n with
  | zero => intro i seen acc _ _; simp [jsonKeys]
  | succ n ih =>
    intro i seen acc hn hseen
    rw [jsonKeys_step js hh h0 n i seen acc (by omega) hseen, List.range'_succ, List.findSome?_cons]
    cases headerDefect v i with
    | some e => rfl
    | none =>
      rw [List.map_cons, List.append_cons acc _ (List.map _ _)]
      exact ih (i + 1) _ _ (by omega) (SeenIs_succ hseen)

theorem findSome?_range'_eq_none_iff {α : Type} {f : Nat → Option α} {n : Nat} :
    (List.range' 0 n).findSome? f = none ↔ ∀ j < n, f j = none := by
  simp only [List.findSome?_eq_none_iff, List.mem_range'_1, Nat.zero_add, Nat.zero_le, true_and]

theorem findSome?_range'_of_first {α : Type} {f : Nat → Option α} {i : Nat} {a : α}
    (hfine : ∀ j < i, f j = none) (hd : f i = some a) (n s : Nat) (h1 : s ≤ i) (h2 : i < s + n) :
    (List.range' s n).findSome? f = some a := by
  induction n generalizing s with
  | zero => exact absurd h2 (Nat.not_lt.2 h1)
  | succ n ih =>
    rw [List.range'_succ, List.findSome?_cons]
    rcases Nat.eq_or_lt_of_le h1 with rfl | hlt
    · rw [hd]
    · rw [hfine s hlt]
      exact ih (s + 1) hlt (by rw [Nat.add_right_comm]; exact h2)

theorem keysAre_range (js : JsonStr) (v : RTable) (n : Nat) :
    KeysAre js v n ((List.range' 0 n).map (keyEntry js v)) := by
  refine ⟨by simp, ?_⟩
  intro j hj
  simp [hj]

/-! ## `renderJson` as a whole -/

/-- the checks that precede the header loop all pass -/
structure PreOK (v : RTable) (hs : List RCell) (d : Bool) : Prop where
  ncols : 1 ≤ v.ncols
  col0 : asBoolOr (v.colSkip.getD 0 none) false = .ok d
  header : v.header = some hs
  hlen : v.ncols ≤ hs.length

theorem preOK_of {v : RTable} (h1 : 1 ≤ v.ncols) (h : boolOrNone (v.colSkip.getD 0 none) = true)
    {hs : List RCell} (hh : v.header = some hs) (hl : v.ncols ≤ hs.length) : ∃ d, PreOK v hs d := by
  obtain ⟨d, hd⟩ := asBoolOr_ok_of false h
  exact ⟨d, h1, hd, hh, hl⟩

theorem renderJson_noColumns (js : JsonStr) {v : RTable} (h : v.ncols = 0) :
    renderJson js v = ⟨[], .error (.err .noColumns)⟩ := by
  simp [renderJson, h]; rfl

theorem renderJson_col0 (js : JsonStr) {v : RTable} (h1 : 1 ≤ v.ncols)
    (h : boolOrNone (v.colSkip.getD 0 none) = false) :
    renderJson js v = ⟨[], .error (.err .nonboolSkipable)⟩ := by
  simp only [renderJson, Nat.not_lt.2 h1, if_false, asBoolOr_nonbool false h, bind_eq, bind'_lift_err]

theorem renderJson_noHeaders (js : JsonStr) {v : RTable} (h1 : 1 ≤ v.ncols)
    (h : boolOrNone (v.colSkip.getD 0 none) = true) (hh : v.header = none) :
    renderJson js v = ⟨[], .error (.err .noHeaders)⟩ := by
  obtain ⟨d, hd⟩ := asBoolOr_ok_of false h
  simp only [renderJson, Nat.not_lt.2 h1, if_false, hd, bind_eq, bind'_lift_ok, hh]; rfl

theorem renderJson_tooFew (js : JsonStr) {v : RTable} (h1 : 1 ≤ v.ncols)
    (h : boolOrNone (v.colSkip.getD 0 none) = true) {hs : List RCell} (hh : v.header = some hs)
    (hl : hs.length < v.ncols) :
    renderJson js v = ⟨[], .error (.err .tooFewHeaders)⟩ := by
  obtain ⟨d, hd⟩ := asBoolOr_ok_of false h
  simp only [renderJson, Nat.not_lt.2 h1, if_false, hd, bind_eq, bind'_lift_ok, hh, hl, if_true]; rfl

theorem renderJson_header (js : JsonStr) {v : RTable} {hs : List RCell} {d : Bool} (p : PreOK v hs d) :
    renderJson js v =
      match (List.range' 0 v.ncols).findSome? (headerDefect v) with
      | some e => ⟨[], .error (.err e)⟩
      | none =>
        bind' (write [91, LF]) fun _ =>
          bind' (jsonRows js ((List.range' 0 v.ncols).map (keyEntry js v)) (lastObject v.rows) v.rows 0 false)
            fun _ => write [LF, 93, LF] := by
  simp only [renderJson, bind_eq, Nat.not_lt.2 p.ncols, if_false, p.col0, bind'_lift_ok, p.header,
    Nat.not_lt.2 p.hlen]
  rw [jsonKeys_eq js p.header p.col0 v.ncols 0 [] [] (by rw [Nat.zero_add]; exact p.hlen) (SeenIs_zero v)]
  cases (List.range' 0 v.ncols).findSome? (headerDefect v) with
  | some e => rfl
  | none => rfl

theorem renderJson_defect (js : JsonStr) {v : RTable} {hs : List RCell} {d : Bool} (p : PreOK v hs d)
    {i : Nat} (hi : i < v.ncols) (hfine : ∀ j < i, headerDefect v j = none) {e : ErrClass}
    (hd : headerDefect v i = some e) :
    renderJson js v = ⟨[], .error (.err e)⟩ := by
  rw [renderJson_header js p,
    findSome?_range'_of_first hfine hd v.ncols 0 (Nat.zero_le i) (by rw [Nat.zero_add]; exact hi)]

theorem headerOK_pre {v : RTable} (h : HeaderOK v) :
    ∃ hs d, PreOK v hs d ∧ ∀ j < v.ncols, headerDefect v j = none := by
  obtain ⟨h1, h2, h3, h4, h5, h6, h7⟩ := h
  cases hh : v.header with
  | none => rw [hh] at h3; cases h3
  | some hs =>
    obtain ⟨d, p⟩ := preOK_of h1 h2 hh (by simpa [headerCells, hh] using h4)
    exact ⟨hs, d, p, fun j hj =>
      headerDefect_none_iff.2 ⟨h5 j hj, fun ⟨k, hk, he⟩ => h6 j hj k hk he, h7 j hj⟩⟩

theorem headerOK_of_pre {v : RTable} {hs : List RCell} {d : Bool} (p : PreOK v hs d)
    (hf : ∀ j < v.ncols, headerDefect v j = none) : HeaderOK v := by
  refine ⟨p.ncols, ?_, by simp [p.header], by simpa [headerCells, p.header] using p.hlen,
    fun i hi => (headerDefect_none_iff.1 (hf i hi)).1,
    fun i hi j hj he => (headerDefect_none_iff.1 (hf i hi)).2.1 ⟨j, hj, he⟩,
    fun i hi => (headerDefect_none_iff.1 (hf i hi)).2.2⟩
  cases hc : boolOrNone (v.colSkip.getD 0 none) with
  | true => rfl
  | false => have := p.col0; rw [asBoolOr_nonbool false hc] at this; cases this

theorem renderJson_run (js : JsonStr) {v : RTable} (h : HeaderOK v) :
    Run (RowsErr v v.rows) (renderJson js v) (jsonToks js v)
      ((∀ cs, some cs ∈ v.rows → cs.length ≤ v.ncols) ∧ MarshalOK v) () := by
  obtain ⟨hs, d, p, hf⟩ := headerOK_pre h
  rw [renderJson_header js p, findSome?_range'_eq_none_iff.2 hf]
  exact Run.congr (by simp [jsonToks, preTok]) ((and_iff_left trivial).trans (rowsGood_iff v)) rfl
    (Run.seq (Run.write (ts := [.lbrack, .ws true]) rfl) <|
      Run.bind (jsonRows_run (keysAre_range js v v.ncols) v.rows v.rows [] 0 false rfl rfl nofun) fun _ =>
      Run.write (ts := [.ws true, .rbrack, .ws true]) rfl)

theorem renderJson_header_err (js : JsonStr) {v : RTable} (h : ¬ HeaderOK v) :
    ∃ e, renderJson js v = ⟨[], .error (.err e)⟩ ∧
      e ∈ [ErrClass.noColumns, .nonboolSkipable, .noHeaders, .tooFewHeaders, .emptyHeader, .dupHeader] := by
  by_cases h1 : v.ncols = 0
  · exact ⟨_, renderJson_noColumns js h1, by decide⟩
  have h1' : 1 ≤ v.ncols := Nat.pos_of_ne_zero h1
  cases h0 : boolOrNone (v.colSkip.getD 0 none) with
  | false => exact ⟨_, renderJson_col0 js h1' h0, by decide⟩
  | true =>
    cases hh : v.header with
    | none => exact ⟨_, renderJson_noHeaders js h1' h0 hh, by decide⟩
    | some hs =>
      by_cases hl : hs.length < v.ncols
      · exact ⟨_, renderJson_tooFew js h1' h0 hh hl, by decide⟩
      obtain ⟨d, p⟩ := preOK_of h1' h0 hh (Nat.le_of_not_lt hl)
      rw [renderJson_header js p]
      cases hfd : (List.range' 0 v.ncols).findSome? (headerDefect v) with
      | none => exact absurd (headerOK_of_pre p (findSome?_range'_eq_none_iff.1 hfd)) h
      | some e =>
        obtain ⟨k, _, hd⟩ := List.exists_of_findSome?_eq_some hfd
        refine ⟨e, rfl, ?_⟩
        rcases headerDefect_cases v k with ⟨_, h⟩ | ⟨_, _, h⟩ | ⟨_, _, _, h⟩ | ⟨_, _, _, h⟩ <;>
          rw [h] at hd <;> cases hd <;> decide

/-! ## The grammar accepts the specification's token stream -/

theorem prun_append (s : PState) (a b : List Tok) :
    prun s (a ++ b) = match prun s a with | none => none | some s' => prun s' b := by
  induction a generalizing s with
  | nil => rfl
  | cons t a ih =>
    simp only [List.cons_append, prun]
    cases pstep s t with
    | none => rfl
    | some s' => exact ih s'

theorem prun_of_append {s s' : PState} {a : List Tok} (h : prun s a = some s') (b : List Tok) :
    prun s (a ++ b) = prun s' b := by
  rw [prun_append, h]

theorem prun_members (objs : List (List (Bytes × Bytes))) (ms cur : List (Bytes × Bytes)) :
    prun ⟨.objAfter, objs, cur⟩ (ms.flatMap (fun m => [.comma, .ws false, .key m.1, .val m.2])) =
      some ⟨.objAfter, objs, cur ++ ms⟩ := by
  induction ms generalizing cur with
  | nil => rw [List.append_nil]; rfl
  | cons m ms ih =>
    have h : prun ⟨.objAfter, objs, cur⟩ [.comma, .ws false, .key m.1, .val m.2] =
        some ⟨.objAfter, objs, cur ++ [m]⟩ := rfl
    rw [List.flatMap_cons, prun_of_append h, ih, List.append_assoc, List.singleton_append]

/-- `{` is the one token of an object whose acceptance depends on the mode the array is in -/
theorem prun_lbrace {mode : PMode} (hm : mode = .arrFirst ∨ mode = .arrElem)
    (objs : List (List (Bytes × Bytes))) (cur : List (Bytes × Bytes)) (ts : List Tok) :
    prun ⟨mode, objs, cur⟩ (.lbrace :: ts) = prun ⟨.objFirst, objs, []⟩ ts := by
  rcases hm with rfl | rfl
  · rfl
  · rfl

theorem prun_obj (mode : PMode) (hm : mode = .arrFirst ∨ mode = .arrElem)
    (objs : List (List (Bytes × Bytes))) (cur ms : List (Bytes × Bytes)) :
    prun ⟨mode, objs, cur⟩ (objToks ms) = some ⟨.arrAfter, objs ++ [ms], []⟩ := by
  cases ms with
  | nil => exact prun_lbrace hm objs cur [.rbrace]
  | cons m ms =>
    have h : prun ⟨mode, objs, cur⟩ [.lbrace, .key m.1, .val m.2] = some ⟨.objAfter, objs, [m]⟩ :=
      prun_lbrace hm objs cur _
    rw [objToks, List.append_assoc, prun_of_append h, prun_of_append (prun_members objs ms [m])]
    rfl

def objectsOf (js : JsonStr) (v : RTable) (rs : List (Option (List RCell))) : List (List (Bytes × Bytes)) :=
  rs.filterMap (fun r => r.map (members js v))

/-- the comma automaton: the rows' tokens are accepted from "expecting an object" (from any mode when
no object follows), and the parser ends "after an object" iff there was one -/
theorem prun_rows (js : JsonStr) (v : RTable) (rs : List (Option (List RCell))) :
    ∀ (mode : PMode) (objs : List (List (Bytes × Bytes))),
      (rs.any Option.isSome = true → mode = .arrFirst ∨ mode = .arrElem) →
      prun ⟨mode, objs, []⟩ (rowsToks js v rs) =
        some ⟨if rs.any Option.isSome then .arrAfter else mode, objs ++ objectsOf js v rs, []⟩ := by
  induction rs with
  | nil => intro mode objs _; simp [rowsToks, prun, objectsOf]
  | cons r rs ih =>
    intro mode objs hm
    cases r with
    | none => exact ih mode objs hm
    | some cells =>
      have hobjs : objs ++ objectsOf js v (some cells :: rs) =
          objs ++ [members js v cells] ++ objectsOf js v rs :=
        (List.append_assoc objs [members js v cells] (objectsOf js v rs)).symm
      rw [rowsToks, List.append_assoc, prun_of_append (prun_obj mode (hm rfl) objs [] (members js v cells)),
        List.any_cons, Option.isSome_some, Bool.true_or, if_pos rfl, hobjs]
      cases hany : rs.any Option.isSome with
      | true => exact (ih .arrElem _ fun _ => .inr rfl).trans (by rw [hany, if_pos rfl])
      | false => exact (ih .arrAfter _ fun h => by rw [hany] at h; cases h).trans (by rw [hany]; rfl)

theorem parseArr_jsonToks (js : JsonStr) (v : RTable) :
    parseArr (jsonToks js v) = some (objects js v) := by
  unfold parseArr jsonToks
  have h1 : prun ⟨.start, [], []⟩ [.lbrack, .ws true] = some ⟨.arrFirst, [], []⟩ := by simp [prun, pstep]
  rw [List.append_assoc, prun_of_append h1, prun_of_append (prun_rows js v v.rows .arrFirst [] (fun _ => .inl rfl))]
  cases h : v.rows.any Option.isSome <;> simp [prun, pstep, objects, objectsOf]

/-! ## Keys of an object -/

theorem membersFrom_keys_sublist (js : JsonStr) (v : RTable) (cs : List RCell) (i : Nat) :
    ((membersFrom js v cs i).map Prod.fst).Sublist
      ((List.range' i cs.length).map (fun k => js (headerText v k))) := by
  induction cs generalizing i with
  | nil => simp [membersFrom_nil]
  | cons c cs ih =>
    rw [membersFrom_cons, List.length_cons, List.range'_succ, List.map_cons]
    by_cases he : emitted v c i = true
    · simp only [he, if_true, List.map_cons]
      exact (ih (i + 1)).cons_cons _
    · simp only [he]
      exact (ih (i + 1)).cons _

theorem members_keys_nodup (js : JsonStr) (v : RTable) (cs : List RCell) (hl : cs.length ≤ v.ncols)
    (hd : ∀ i < v.ncols, ∀ j < i, js (headerText v j) ≠ js (headerText v i)) :
    ((members js v cs).map Prod.fst).Nodup := by
  rw [members_eq]
  apply List.Pairwise.sublist (membersFrom_keys_sublist js v cs 0)
  rw [List.pairwise_map]
  apply List.Pairwise.imp_of_mem _ (List.pairwise_lt_range' (s := 0) (n := cs.length))
  intro a b _ hb hab
  have hb' : b < v.ncols := by
    have := (List.mem_range'_1.1 hb).2; omega
  exact hd b hb' a hab

end C07
end Tab
