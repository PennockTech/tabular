/-
  The per-line chains of `Proofs/C03mAdd.lean` for the lines of a whole render: every chunk kind
  (`LineKind`) has the segmentation of `lineKind_boxed` / `lineKind_boxless`, and that segmentation is a chain.
-/
import Tabmodel.Proofs.C03mAdd
namespace Tab
open Emit

theorem slot_mem_boxlessSegs (slots : List SlotD) (lp rp : Nat) (ws : WidthString)
    (h : Seg.slot lp ws rp ∈ boxlessSegs slots) : ∃ s ∈ slots, s.ws = ws := by
  induction slots with
  | nil => simp [boxlessSegs] at h
  | cons s t ih =>
    cases t with
    | nil =>
      simp [boxlessSegs, SlotD.seg] at h
      exact ⟨s, by simp, h.2.1.symm⟩
    | cons s' t' =>
      simp only [boxlessSegs, List.mem_cons, SlotD.seg] at h ih
      rcases h with h | h | h
      · simp at h; exact ⟨s, by simp, h.2.1.symm⟩
      · cases h
      · obtain ⟨x, hx, hxe⟩ := ih (by simpa [SlotD.seg] using h)
        exact ⟨x, List.mem_cons_of_mem _ (List.mem_cons.mpr hx), hxe⟩

theorem cellLineWS_text (dw : Measure) (cells : List RCell) (i k : Nat)
    (hok : ∀ c ∈ cells, CellOK dw c) :
    (cellLineWS cells i k).s = [] ∨ ∃ c ∈ cells, (cellLineWS cells i k).s ∈ lines c.text := by
  unfold cellLineWS
  cases hc : cells[i]? with
  | none => left; rfl
  | some c =>
    have hcm : c ∈ cells := List.mem_of_getElem? hc
    simp only []
    rw [(hok c hcm).text k, List.getD_eq_getElem?_getD]
    cases hl : (lines c.text)[k]? with
    | none => left; rfl
    | some l => right; exact ⟨c, hcm, by simpa using List.mem_of_getElem? hl⟩

theorem rowSlots_textSafe (dw : Measure) (J : Junction) (v : RTable) (cells : List RCell) (k : Nat)
    (hv : ViewOK dw v) (hrow : v.header = some cells ∨ some cells ∈ v.rows)
    (ht : ∀ c ∈ v.allCells, ∀ l ∈ lines c.text, TextSafe J l) :
    ∀ s ∈ rowSlots v.colWidths v.effAligns cells k, TextSafe J s.ws.s := by
  intro s hs
  obtain ⟨i, hi⟩ := slot_mem_rowSlots _ _ _ _ _ hs
  rw [hi]
  rcases cellLineWS_text dw cells i k (fun c hc => (hv c (mem_allCells v cells c hrow hc)).1) with h | ⟨c, hc, hl⟩
  · exact Or.inl h
  · exact ht c (mem_allCells v cells c hrow hc) _ hl

theorem rowSlots_measured (dw : Measure) (v : RTable) (cells : List RCell) (k : Nat) (h0 : dw [] = 0)
    (hrow : v.header = some cells ∨ some cells ∈ v.rows)
    (hm : ∀ c ∈ v.allCells, CellMeasured dw c) :
    ∀ s ∈ rowSlots v.colWidths v.effAligns cells k, s.ws.w = ((dw s.ws.s : Nat) : Int) := by
  intro s hs
  obtain ⟨i, hi⟩ := slot_mem_rowSlots _ _ _ _ _ hs
  rw [hi]
  exact cellLineWS_measured dw cells i k h0 (fun c hc => hm c (mem_allCells v cells c hrow hc))

theorem GlyphOK.rule_ne {dw : Measure} {d : Decoration} (h : GlyphOK dw d) :
    ∀ q ∈ ruleGlyphs d, q.1 ≠ [] ∧ q.2.1 ≠ [] ∧ q.2.2.1 ≠ [] ∧ q.2.2.2 ≠ [] := by
  have hne := h.ne
  simp only [List.forall_mem_cons] at hne
  obtain ⟨tl, ho, htd, tr, hbl, hbc, hbr, btd, bl, bbu, br, lb, hr, x, rb, -⟩ := hne
  simp only [ruleGlyphs, List.forall_mem_cons]
  exact ⟨⟨tl, ho, htd, tr⟩, ⟨hbl, ho, hbc, hbr⟩, ⟨tl, ho, btd, tr⟩, ⟨bl, ho, bbu, br⟩, ⟨lb, hr, x, rb⟩,
    fun _ h => (List.not_mem_nil h).elim⟩

theorem boxedLine_chain {dw : Measure} {d : Decoration} {v : RTable} {segs : List Seg} (J : Junction)
    (hg : GlyphOK dw d) (hn : 1 ≤ v.ncols) (hv : ViewOK dw v) (hJ : GlyphJunctions J d)
    (ht : ∀ c ∈ v.allCells, ∀ l ∈ lines c.text, TextSafe J l) (h : BoxedLine d v segs) :
    chainFrom J [] (segs.flatMap Seg.atoms) := by
  cases h with
  | rule l h x r hm =>
    obtain ⟨n1, n2, n3, n4⟩ := hg.rule_ne _ hm
    obtain ⟨j1, j2, j3, j4, j5⟩ := hJ.rule _ hm
    exact chain_ruleSegs J h x r _ (colWidths_ne_nil v hn) n2 n3 n4 j2 j3 j4 j5 l [] n1 j1 (Or.inl rfl)
  | header hs k hh =>
    have nH : d.vHeader ≠ [] := hg.ne _ (by simp)
    have jH := hJ.div_sp d.vHeader (by simp)
    exact chain_boxedSegs J _ _ _ _ hJ.sp_sp nH nH nH jH.1 jH.2 jH.1 jH.2
      (rowSlots_textSafe dw J v hs k hv (Or.inl hh) ht)
  | body cells k hr =>
    have nB : d.vBodyBorder ≠ [] := hg.ne _ (by simp)
    have nI : d.vBodyInner ≠ [] := hg.ne _ (by simp)
    have jB := hJ.div_sp d.vBodyBorder (by simp)
    have jI := hJ.div_sp d.vBodyInner (by simp)
    exact chain_boxedSegs J _ _ _ _ hJ.sp_sp nB nI nB jB.1 jI.2 jI.1 jB.2
      (rowSlots_textSafe dw J v cells k hv (Or.inr hr) ht)

theorem lineKind_boxed_chain (dw : Measure) (J : Junction) (d : Decoration) (v : RTable) (ch : Bytes)
    (hg : GlyphOK dw d) (hn : 1 ≤ v.ncols) (hv : ViewOK dw v) (hJ : GlyphJunctions J d)
    (ht : ∀ c ∈ v.allCells, ∀ l ∈ lines c.text, TextSafe J l) (hk : LineKind d v ch) :
    ∃ segs, ch = segBytes segs ++ [LF] ∧ segWidth dw segs = boxedWidth v.colWidths ∧
      divOffsets dw 0 segs = colOffsets 0 v.colWidths ∧
      chainFrom J [] (segs.flatMap Seg.atoms) ∧
      (∀ lp ws rp, Seg.slot lp ws rp ∈ segs → ∃ cells i k,
          (v.header = some cells ∨ some cells ∈ v.rows) ∧ ws = cellLineWS cells i k) := by
  obtain ⟨segs, hb, e⟩ := boxedLine_of_kind hg hn hk
  obtain ⟨w, o, m⟩ := boxedLine_layout hg hn hv hb
  exact ⟨segs, e, w, o, boxedLine_chain J hg hn hv hJ ht hb, m⟩

theorem lineKind_boxless_chain (dw : Measure) (J : Junction) (d : Decoration) (v : RTable) (ch : Bytes)
    (hb : BoxlessOK d) (hv : ViewOK dw v) (hss : J.ok [SP] [SP])
    (ht : ∀ c ∈ v.allCells, ∀ l ∈ lines c.text, TextSafe J l) (hk : LineKind d v ch) :
    ch = [] ∨ ∃ slots, ch = segBytes (boxlessSegs slots) ++ [LF] ∧
      slots.map SlotD.width = v.colWidths ∧
      segWidth dw (boxlessSegs slots) = boxlessWidth v.colWidths ∧
      chainFrom J [] ((boxlessSegs slots).flatMap Seg.atoms) ∧
      (∀ lp ws rp, Seg.slot lp ws rp ∈ boxlessSegs slots → ∃ cells i k,
          (v.header = some cells ∨ some cells ∈ v.rows) ∧ ws = cellLineWS cells i k) := by
  rcases boxlessLine_of_kind hb hk with h | ⟨cells, k, hrow, e⟩
  · exact Or.inl h
  · obtain ⟨_, hw, hsw⟩ := rowLine_boxless dw v [] [] cells k hv hrow
    refine Or.inr ⟨_, e, hw, hsw,
      chain_boxlessSegs J _ hss (rowSlots_textSafe dw J v cells k hv hrow ht) [] allSp_nil, ?_⟩
    intro lp ws rp hm
    obtain ⟨s, hs1, hs2⟩ := slot_mem_boxlessSegs _ _ _ _ hm
    obtain ⟨i, hi⟩ := slot_mem_rowSlots _ _ _ _ _ hs1
    exact ⟨cells, i, k, hrow, by rw [← hs2, hi]⟩

end Tab
