/-
  C12h: the four operations that can give an owner a value or a callback — `setProp`, `registerCb`, copying a
  cell, `Row.Add` of a ready-made cell (up to the state its callbacks run in) — as formulas for every owner's
  chain and every slot's callback set afterwards; and the empty world.
-/
import Tabmodel.Proofs.C12hPrim
namespace Tab
open World C13 C13x
namespace C12h

theorem getProp_setProp {w : World} (hn : AllNodup w) (o : Target) (k : Key) (v : Option Val) (o' : Target)
    (k' : Key) :
    (w.setProp o k v).getProp o' k' = if (o' = o ∧ k' = k) ∧ w.hasObj o then v else w.getProp o' k' := by
  rw [getProp_eq_get, chainOf_setProp, getProp_eq_get]
  by_cases h : o' = o ∧ w.hasObj o
  · obtain ⟨rfl, ho⟩ := h
    rw [if_pos ⟨rfl, ho⟩]
    by_cases hk : k' = k
    · subst hk; rw [if_pos ⟨⟨rfl, rfl⟩, ho⟩]; exact Chain.get_set _ k' v (.inr (hn o'))
    · rw [if_neg (fun hh => hk hh.1.2)]; exact Chain.get_set_ne _ v (fun e => hk e.symm)
  · rw [if_neg h, if_neg (fun hh => h ⟨hh.1.1, hh.2⟩)]

theorem allNodup_setProp {w : World} (h : AllNodup w) (o : Target) (k : Key) (v : Option Val) :
    AllNodup (w.setProp o k v) := by
  intro o'
  rw [chainOf_setProp]
  split
  · exact Chain.nodup_set _ k v (h o)
  · exact h o'

theorem registerCb_frame {w w' : World} {o : Target} {tm : Time} {tg : CbTarget} {cb : Cb}
    (e : registerCb w o tm tg cb = some w') :
    (∀ o', w'.chainOf o' = w.chainOf o') ∧ w'.copies.length = w.copies.length ∧ w'.events = w.events ∧
      (¬ w.hasObj o → w' = w) := by
  cases o with
  | table t =>
    cases tg <;> simp only [registerCb, Option.some.injEq] at e <;> subst e <;>
      exact ⟨fun o' => chainOf_modTable_of w t _ o' (fun _ _ => rfl) (fun _ _ _ => rfl), rfl, rfl,
        fun h => World.modTable_oob w t _ (Nat.le_of_not_lt h)⟩
  | column t n =>
    cases tg <;> simp only [registerCb, Option.some.injEq, reduceCtorEq] at e <;> subst e <;>
      exact ⟨fun o' => chainOf_modColumn_of w t n _ o' (fun _ _ => rfl), rfl, rfl, modColumn_noobj w t n _⟩
  | row r =>
    cases tg <;> simp only [registerCb, Option.some.injEq] at e <;> subst e <;>
      exact ⟨fun o' => chainOf_modRow_of w r _ o' (fun _ _ => rfl) (fun _ => rfl), rfl, rfl,
        fun h => World.modRow_oob w r _ (Nat.le_of_not_lt h)⟩
  | cell r c =>
    cases tg <;> simp only [registerCb, Option.some.injEq, reduceCtorEq] at e <;> subst e <;>
      exact ⟨fun o' => chainOf_modCell_of w r c _ o' (fun _ _ => rfl), rfl, rfl, modCell_noobj w r c _⟩
  | copy n =>
    cases tg <;> simp only [registerCb, Option.some.injEq, reduceCtorEq] at e <;> subst e <;>
      exact ⟨fun o' => chainOf_modCopy_of w n _ o' (fun _ _ => rfl), List.length_modify .., rfl,
        fun h => modCopy_noobj w n _ (Nat.le_of_not_lt h)⟩

theorem chainOf_registerCb {w w' : World} {o : Target} {tm : Time} {tg : CbTarget} {cb : Cb}
    (e : registerCb w o tm tg cb = some w') (o' : Target) : w'.chainOf o' = w.chainOf o' :=
  (registerCb_frame e).1 o'

theorem cbsAll_registerCb {P : Cb → Bool} {w w' : World} {o : Target} {tm : Time} {tg : CbTarget} {cb : Cb}
    (hq : CbsAll P w) (hcb : P cb = true) (e : registerCb w o tm tg cb = some w') : CbsAll P w' := by
  by_cases ho : w.hasObj o
  · obtain ⟨s, _, hs⟩ := registerCb_cbSet ho e
    intro s' tm' c hc
    simp only [World.cbsAt, hs s'] at hc
    split at hc
    · rw [CbSet.push_at] at hc
      split at hc
      · rcases List.mem_append.mp hc with h | h
        · exact hq s' tm' c h
        · simp only [List.mem_singleton] at h; subst h; exact hcb
      · exact hq s' tm' c hc
    · exact hq s' tm' c hc
  · rw [(registerCb_frame e).2.2.2 ho]; exact hq

theorem getElem?_snoc {α : Type} (l : List α) (a : α) (n : Nat) :
    (l ++ [a])[n]? = if n = l.length then some a else l[n]? := by
  by_cases h : n = l.length
  · subst h; rw [if_pos rfl, List.getElem?_append_right (Nat.le_refl _), Nat.sub_self]; rfl
  · rw [if_neg h]
    by_cases h2 : n < l.length
    · exact List.getElem?_append_left h2
    · rw [List.getElem?_eq_none (Nat.le_of_not_lt h2), List.getElem?_eq_none]
      simp only [List.length_append, List.length_singleton]; omega

theorem chainOf_copy (w : World) (ce : Cell) (o : Target) :
    ({ w with copies := w.copies ++ [ce] } : World).chainOf o =
      if o = .copy w.copies.length then ce.props else w.chainOf o := by
  cases o with
  | copy n => simp only [World.chainOf, Target.copy.injEq, getElem?_snoc]; split <;> rfl
  | _ => rw [if_neg (by simp)]; rfl

theorem cbSet_copy (w : World) (ce : Cell) (s : CbSlot) :
    ({ w with copies := w.copies ++ [ce] } : World).cbSet s =
      if s = .copyOwn w.copies.length then ce.cbs else w.cbSet s := by
  cases s with
  | copyOwn n => simp only [World.cbSet, CbSlot.copyOwn.injEq, getElem?_snoc]; split <;> rfl
  | _ => rw [if_neg (by simp)]; rfl

theorem events_copyCell (dw : Measure) (w : World) (r c : Nat) : (applyOp dw w (.copyCell r c)).events = w.events := by
  simp only [applyOp]
  cases w.cell? r c <;> rfl

/-- a copy of an existing cell reads like the original on every key; every other owner reads as before -/
theorem getProp_copyCell (dw : Measure) (w : World) (r c : Nat) (o : Target) (k : Key) :
    (applyOp dw w (.copyCell r c)).getProp o k =
      if w.hasObj (.cell r c) ∧ o = .copy w.copies.length then w.getProp (.cell r c) k else w.getProp o k := by
  simp only [applyOp]
  cases hce : w.cell? r c with
  | none => exact (if_neg (fun h => by simp [World.hasObj, hce] at h)).symm
  | some ce =>
    have hobj : w.hasObj (.cell r c) := by simp [World.hasObj, hce]
    simp only [getProp_eq_get, chainOf_copy, hobj, true_and]
    split
    · simp [World.chainOf, hce]
    · rfl

theorem cell?_store {w : World} {r : Nat} {cs : List Cell} (hr : r < w.rows.length)
    (hcs : (w.row r).cells = some cs) (pc : Cell) (r' c : Nat) :
    (w.modRow r (fun rw => { rw with cells := some (cs ++ [pc]) })).cell? r' c =
      if r' = r ∧ c = cs.length then some pc else w.cell? r' c := by
  simp only [World.cell?, World.rowCells, World.row_modRow]
  by_cases h : r = r'
  · subst h
    simp only [hr, and_self, if_true, true_and, Option.getD_some, hcs, getElem?_snoc]
  · rw [if_neg (fun hh => h hh.1), if_neg (fun hh => h hh.1.symm)]

theorem chainOf_store {w : World} {r : Nat} {cs : List Cell} (hr : r < w.rows.length)
    (hcs : (w.row r).cells = some cs) (pc : Cell) (o : Target) :
    (w.modRow r (fun rw => { rw with cells := some (cs ++ [pc]) })).chainOf o =
      if o = .cell r cs.length then pc.props else w.chainOf o := by
  cases o with
  | cell r' c => simp only [World.chainOf, cell?_store hr hcs, Target.cell.injEq]; split <;> rfl
  | row r' => rw [if_neg (by simp)]; exact World.row_modRow_proj w r (fun rw => { rw with cells := some (cs ++ [pc]) }) (·.props) (fun _ => rfl) r'
  | _ => rw [if_neg (by simp)]; rfl

theorem cbSet_store {w : World} {r : Nat} {cs : List Cell} (hr : r < w.rows.length)
    (hcs : (w.row r).cells = some cs) (pc : Cell) (s : CbSlot) :
    (w.modRow r (fun rw => { rw with cells := some (cs ++ [pc]) })).cbSet s =
      if s = .cellOwn r cs.length then pc.cbs else w.cbSet s := by
  cases s with
  | cellOwn r' c => simp only [World.cbSet, cell?_store hr hcs, CbSlot.cellOwn.injEq]; split <;> rfl
  | rowSelf r' => rw [if_neg (by simp)]; exact World.row_modRow_proj w r (fun rw => { rw with cells := some (cs ++ [pc]) }) (·.selfCbs) (fun _ => rfl) r'
  | rowCell r' => rw [if_neg (by simp)]; exact World.row_modRow_proj w r (fun rw => { rw with cells := some (cs ++ [pc]) }) (·.cellCbs) (fun _ => rfl) r'
  | _ => rw [if_neg (by simp)]; rfl

theorem csame_rowAddLinked (w : World) (r : Nat) (ce : Cell) (cs : List Cell) :
    CSame (rowAddLinked w r ce cs)
      (w.modRow r (fun rw => { rw with cells := some (cs ++ [placedCell r cs.length ce]) })) := by
  unfold rowAddLinked
  dsimp only
  split
  · exact csame_resize _ _ _
  · exact CSame.refl _

theorem chainOf_rowAddLinked {w : World} {r : Nat} {cs : List Cell} (hr : r < w.rows.length)
    (hcs : (w.row r).cells = some cs) (ce : Cell) (o : Target) :
    (rowAddLinked w r ce cs).chainOf o = if o = .cell r cs.length then ce.props else w.chainOf o := by
  rw [(csame_rowAddLinked w r ce cs).chain, chainOf_store hr hcs]; rfl

theorem getProp_rowAddLinked {w : World} {r : Nat} {cs : List Cell} (hr : r < w.rows.length)
    (hcs : (w.row r).cells = some cs) (ce : Cell) (o : Target) (k : Key) :
    (rowAddLinked w r ce cs).getProp o k = if o = .cell r cs.length then ce.props.get k else w.getProp o k := by
  rw [getProp_eq_get, chainOf_rowAddLinked hr hcs]
  split
  · rfl
  · rw [getProp_eq_get]

theorem cbSet_rowAddLinked {w : World} {r : Nat} {cs : List Cell} (hr : r < w.rows.length)
    (hcs : (w.row r).cells = some cs) (ce : Cell) (s : CbSlot) :
    (rowAddLinked w r ce cs).cbSet s = if s = .cellOwn r cs.length then ce.cbs else w.cbSet s := by
  rw [(csame_rowAddLinked w r ce cs).cbs, cbSet_store hr hcs]; rfl

theorem copies_rowAddLinked (w : World) (r : Nat) (ce : Cell) (cs : List Cell) :
    (rowAddLinked w r ce cs).copies.length = w.copies.length := by
  rw [(csame_rowAddLinked w r ce cs).ncopies]; rfl

theorem rowAddLinked_noobj {w : World} {r : Nat} (hr : w.rows.length ≤ r) (ce : Cell) (cs : List Cell) :
    rowAddLinked w r ce cs = w := by
  unfold rowAddLinked
  dsimp only
  rw [World.modRow_oob w r _ hr, World.row_oob _ _ hr]

theorem allNodup_rowAddLinked {w : World} {r : Nat} {cs : List Cell} (hn : AllNodup w) (hr : r < w.rows.length)
    (hcs : (w.row r).cells = some cs) (ce : Cell) (hc : ce.props.keys.Nodup) :
    AllNodup (rowAddLinked w r ce cs) := by
  intro o
  rw [chainOf_rowAddLinked hr hcs]
  split
  · exact hc
  · exact hn o

theorem cbSet_all_at {s : CbSet} {p : Cb → Bool} (h : s.all p = true) (tm : Time) : ∀ cb ∈ s.at tm, p cb = true := by
  simp only [CbSet.all, Bool.and_eq_true, List.all_eq_true] at h
  cases tm
  · exact h.1.1.1
  · exact h.1.1.2
  · exact h.1.2
  · exact h.2

theorem cbsAll_rowAddLinked {P : Cb → Bool} {w : World} {r : Nat} {cs : List Cell} (hq : CbsAll P w)
    (hr : r < w.rows.length) (hcs : (w.row r).cells = some cs) (ce : Cell) (hc : ce.cbs.all P = true) :
    CbsAll P (rowAddLinked w r ce cs) := by
  intro s tm cb hcb
  simp only [World.cbsAt, cbSet_rowAddLinked hr hcs] at hcb
  split at hcb
  · exact cbSet_all_at hc tm cb hcb
  · exact hq s tm cb hcb

theorem quiet_rowAddLinked {k : Key} {w : World} {r : Nat} {cs : List Cell} (hq : Quiet k w)
    (hr : r < w.rows.length) (hcs : (w.row r).cells = some cs) (ce : Cell)
    (hc : ce.cbs.all (fun cb => !cb.writes k) = true) : Quiet k (rowAddLinked w r ce cs) :=
  quiet_iff_cbsAll.mpr (cbsAll_rowAddLinked (quiet_iff_cbsAll.mp hq) hr hcs ce hc)

/-- `Row.Add` of a cell value with no properties and no callbacks of its own (`NewCell(item)`): the new cell
    reads like the missing one it replaces -/
theorem csame_rowAddLinked_plain {w : World} {r : Nat} {cs : List Cell} (hcs : (w.row r).cells = some cs)
    (ce : Cell) (h0 : ce.props = []) (h1 : ce.cbs = {}) : CSame (rowAddLinked w r ce cs) w := by
  have hnone : w.cell? r cs.length = none := by simp [World.cell?, World.rowCells, hcs]
  by_cases hr : r < w.rows.length
  · refine ⟨fun o => ?_, fun s => ?_, copies_rowAddLinked w r ce cs, rowAddLinked_events w r ce cs⟩
    · rw [chainOf_rowAddLinked hr hcs]
      split
      · rename_i e; subst e; simp [World.chainOf, hnone, h0]
      · rfl
    · rw [cbSet_rowAddLinked hr hcs]
      split
      · rename_i e; subst e; simp [World.cbSet, hnone, h1]
      · rfl
  · rw [rowAddLinked_noobj (Nat.le_of_not_lt hr)]; exact CSame.refl w

theorem chainOf_empty (o : Target) : ({} : World).chainOf o = [] := by
  cases o with
  | column t n => cases n <;> rfl
  | _ => rfl

theorem cbSet_empty (s : CbSlot) : ({} : World).cbSet s = {} := by
  cases s with
  | colSelf t n => cases n <;> rfl
  | colCell t n => cases n <;> rfl
  | _ => rfl

theorem allNodup_empty : AllNodup {} := by
  intro o; rw [chainOf_empty]; exact List.nodup_nil

theorem cbsAll_empty (P : Cb → Bool) : CbsAll P {} := by
  intro s tm cb hcb
  simp only [World.cbsAt, cbSet_empty] at hcb
  cases tm <;> simp [CbSet.at] at hcb

end C12h
end Tab
