/- C13x helper lemmas: what a callback invocation does to the properties read through the world. -/
import Tabmodel.Proofs.C13xRender
import Tabmodel.Proofs.C13Live
import Tabmodel.Proofs.C13Register
namespace Tab
open World
open C13
namespace C13x

theorem getProp_events (w : World) (es : List Event) (o : Target) (k : Key) :
    ({ w with events := es } : World).getProp o k = w.getProp o k := by
  cases o <;> rfl

theorem getProp_addErrTo (w : World) (tk : Taker) (e : Nat) (o : Target) (k : Key) :
    (w.addErrTo tk e).getProp o k = w.getProp o k := by
  refine addErrTo_keeps (P := fun w' => w'.getProp o k = w.getProp o k) w tk e rfl (fun t g => ?_) (fun r f hf => ?_)
  · cases o with
    | table t' => exact table_modTable_proj w t _ (·.props.get k) (by intro _; rfl) t'
    | column t' n => simp only [World.getProp]; rw [column?_modTable_of]; intro _; rfl
    | _ => rfl
  · cases o with
    | row r' => exact row_modRow_proj w r f (·.props.get k) (fun rw => by rw [hf]) r'
    | cell r' c => simp only [World.getProp]; rw [cell?_modRow_of]; intro rw; rw [hf]
    | _ => rfl

theorem getProp_invokeOne_frame (dw : Measure) (w : World) (cb : Cb) (tgt : Target) (tk : Taker) (k : Key)
    (o : Target) (h : cb.writes k = false ∨ tgt ≠ o) :
    (invokeOne dw w cb tgt tk).getProp o k = w.getProp o k := by
  -- every write of `cb` is a `setProp` on `tgt` with a key that `cb.writes`
  have hset : ∀ (w' : World) k' v, cb.writes k' = true → (w'.setProp tgt k' v).getProp o k = w'.getProp o k :=
    fun w' k' v hk' => getProp_setProp_frame w' tgt k' v o k
      (h.symm.imp_right fun hw e => by rw [e, hw] at hk'; cases hk')
  cases cb with
  | log id => exact getProp_events w _ o k
  | setProp id k' v => exact (hset _ k' v (by simp [Cb.writes])).trans (getProp_events w _ o k)
  | fail id e => exact (getProp_addErrTo _ tk e o k).trans (getProp_events w _ o k)
  | dimSetter =>
    simp only [World.invokeOne]
    split
    · split
      · rw [hset _ .ttLines _ rfl, hset _ .ttDims _ rfl]
      · rfl
    · exact getProp_addErrTo ..
  | widthSetter =>
    simp only [World.invokeOne]
    split
    · split
      · exact hset _ .mdWidth _ rfl
      · rfl
    · exact getProp_addErrTo ..

theorem getProp_invokeOne_not_writes (dw : Measure) (w : World) (cb : Cb) (tgt : Target) (tk : Taker)
    (k : Key) (hw : cb.writes k = false) (o : Target) :
    (invokeOne dw w cb tgt tk).getProp o k = w.getProp o k :=
  getProp_invokeOne_frame dw w cb tgt tk k o (.inl hw)

theorem getProp_invokeOne_setProp_other (dw : Measure) (w : World) (id : Nat) (k' : Key) (v : Option Val)
    (tgt : Target) (tk : Taker) (o : Target) (k : Key) (h : tgt ≠ o) :
    (invokeOne dw w (.setProp id k' v) tgt tk).getProp o k = w.getProp o k :=
  getProp_invokeOne_frame dw w _ tgt tk k o (.inr h)

theorem getProp_invokeOne_setProp (dw : Measure) (w : World) (id : Nat) (k : Key) (v : Val) (tgt : Target)
    (tk : Taker) (h : w.hasObj tgt) :
    (invokeOne dw w (.setProp id k (some v)) tgt tk).getProp tgt k = some v := by
  have h' : ({ w with events := w.events ++ [⟨id, tgt⟩] } : World).hasObj tgt := by cases tgt <;> exact h
  exact (getProp_setProp_self _ _ _ _ h').trans (Chain.get_set_same _ k v)

theorem hasObj_same {w' w : World} (h : SameSkeleton w' w) (o : Target) (ho : w.hasObj o) : w'.hasObj o := by
  have hT : w'.tables.length = w.tables.length := by
    simpa using congrArg (fun s => s.tables.length) h.shape
  have hR : w'.rows.length = w.rows.length := by
    simpa using congrArg (fun s => s.rows.length) h.shape
  cases o with
  | table t => exact (hT ▸ ho : t < w'.tables.length)
  | column t n =>
    exact ⟨(hT ▸ ho.1 : t < w'.tables.length), (same_ncolrecs h t ▸ ho.2 : n < (w'.table t).columns.length)⟩
  | row r => exact (hR ▸ ho : r < w'.rows.length)
  | cell r c =>
    have ho' : (w.cell? r c).isSome = true := ho
    show (w'.cell? r c).isSome = true
    simpa [ho'] using congrArg Option.isSome (same_cell_geo h r c)
  | copy n => exact (h.ncopies ▸ ho : n < w'.copies.length)

theorem sameSkeleton_invoke (dw : Measure) (w : World) (cbs : List Cb) (tgt : Target) (tk : Taker) :
    SameSkeleton (invoke dw w cbs tgt tk) w :=
  invoke_frame (P := fun w' => SameSkeleton w' w) dw cbs tgt tk
    (fun w' cb _ h => sameSkeleton_trans (sameSkeleton_invokeOne dw w' cb tgt tk) h) w (sameSkeleton_refl w)

theorem getProp_invoke_not_writes (dw : Measure) (w : World) (cbs : List Cb) (tgt : Target) (tk : Taker)
    (k : Key) (hw : ∀ cb ∈ cbs, cb.writes k = false) (o : Target) :
    (invoke dw w cbs tgt tk).getProp o k = w.getProp o k :=
  invoke_frame (P := fun w' => w'.getProp o k = w.getProp o k) dw cbs tgt tk
    (fun w' cb hcb h => (getProp_invokeOne_not_writes dw w' cb tgt tk k (hw cb hcb) o).trans h) w rfl

theorem getProp_invoke_last_writer (dw : Measure) (w : World) (pre post : List Cb) (id : Nat) (k : Key) (v : Val)
    (tgt : Target) (tk : Taker) (h : w.hasObj tgt) (hpost : ∀ cb ∈ post, cb.writes k = false) :
    (invoke dw w (pre ++ [.setProp id k (some v)] ++ post) tgt tk).getProp tgt k = some v := by
  rw [invoke_append, invoke_append, getProp_invoke_not_writes dw _ post tgt tk k hpost]
  exact getProp_invokeOne_setProp dw _ id k v tgt tk (hasObj_same (sameSkeleton_invoke dw w pre tgt tk) tgt h)

/-- after a prefix of a traversal with events `es`: `k` reads `v` on every existing object the writer was
    invoked on, and is untouched on every object it was not invoked on -/
def LiveInv (w0 : World) (id : Nat) (k : Key) (v : Val) (w' : World) (es : List Event) : Prop :=
  (∀ o, (⟨id, o⟩ : Event) ∈ es → w0.hasObj o → w'.getProp o k = some v) ∧
  (∀ o, (⟨id, o⟩ : Event) ∉ es → w'.getProp o k = w0.getProp o k)

theorem liveInv_init (w0 : World) (id : Nat) (k : Key) (v : Val) : LiveInv w0 id k v w0 [] :=
  ⟨fun _ h => by simp at h, fun _ _ => rfl⟩

/-- a callback of a world with a sole writer is the writer, or neither writes `k` nor logs under `id` -/
theorem soleWriter_cases {w0 : World} {id : Nat} {k : Key} {v : Val} (hs : SoleWriter w0 id k v) {cb : Cb}
    {s : CbSlot} {tm : Time} (hcb : cb ∈ w0.cbsAt s tm) :
    cb = .setProp id k (some v) ∨
      (cb.writes k = false ∧ ∀ tgt o, (⟨id, o⟩ : Event) ∉ userEvents [cb] tgt) := by
  by_cases hw : cb.id? = some id ∨ cb.writes k = true
  · exact .inl (hs s tm cb hcb hw)
  · refine .inr ⟨Bool.eq_false_iff.mpr (fun h => hw (.inr h)), fun tgt o hm => hw (.inl ?_)⟩
    rw [userEvents_one] at hm
    revert hm
    cases cb.id? with
    | none => intro hm; cases hm
    | some i =>
      intro hm
      simp only [List.mem_singleton, Event.mk.injEq] at hm
      rw [hm.1]

theorem liveInv_step (dw : Measure) {w0 : World} {id : Nat} {k : Key} {v : Val} (hs : SoleWriter w0 id k v) :
    StepInv dw w0 (LiveInv w0 id k v) := by
  intro w' es cb tgt tk hsame ⟨s, tm, hcb⟩ ⟨hset, hkeep⟩
  rcases soleWriter_cases hs hcb with rfl | ⟨hwr, hev⟩
  · -- the writer on `tgt`: `tgt` reads `v` if it exists, every other owner reads as before
    have hmem : ∀ o, (⟨id, o⟩ : Event) ∈ es ++ userEvents [Cb.setProp id k (some v)] tgt ↔
        (⟨id, o⟩ : Event) ∈ es ∨ tgt = o := by
      intro o
      rw [List.mem_append, show userEvents [Cb.setProp id k (some v)] tgt = [⟨id, tgt⟩] from rfl, List.mem_singleton]
      exact or_congr Iff.rfl ⟨fun e => (Event.mk.inj e).2.symm, fun e => by rw [e]⟩
    refine ⟨fun o ho hobj => ?_, fun o ho => ?_⟩
    · by_cases hot : tgt = o
      · subst hot
        exact getProp_invokeOne_setProp dw w' id k v tgt tk (hasObj_same hsame tgt hobj)
      · rw [getProp_invokeOne_setProp_other dw w' id k (some v) tgt tk o k hot]
        exact hset o (((hmem o).mp ho).resolve_right hot) hobj
    · rw [getProp_invokeOne_setProp_other dw w' id k (some v) tgt tk o k (fun e => ho ((hmem o).mpr (.inr e)))]
      exact hkeep o (fun hm => ho ((hmem o).mpr (.inl hm)))
  · -- any other callback adds no event under `id` and leaves `k` alone
    have hmem : ∀ o, (⟨id, o⟩ : Event) ∈ es ++ userEvents [cb] tgt ↔ (⟨id, o⟩ : Event) ∈ es :=
      fun o => List.mem_append.trans (or_iff_left (hev tgt o))
    have hk := getProp_invokeOne_not_writes dw w' cb tgt tk k hwr
    exact ⟨fun o ho hobj => (hk o).trans (hset o ((hmem o).mp ho) hobj),
      fun o ho => (hk o).trans (hkeep o (fun hm => ho ((hmem o).mpr hm)))⟩

end C13x
end Tab
