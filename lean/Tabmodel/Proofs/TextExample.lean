/- C03 / C04: a concrete view and two decorations used by the non-vacuity examples (`dw := List.length`). -/
import Tabmodel.Proofs.TextFinal
namespace Tab
namespace TextExample

/-- `horizontal "-"`, `vertical "|"`, `crossPiece "+"`, populated -/
def asciiSimple : Decoration :=
  ({ horizontal := [45], vertical := [124], crossPiece := [43] } : Decoration).populate

def boxlessDeco : Decoration := { isBoxless := true }

/-- header `a | bb`; rows `"ccc\nd" | e`, a separator, and the ragged row `f`; column 1 right-aligned,
    column 2 centred -/
def exView : RTable :=
  { ncols := 2
    header := some [measuredCell List.length [97], measuredCell List.length [98, 98]]
    rows := [some [measuredCell List.length [99, 99, 99, 10, 100], measuredCell List.length [101]],
             none,
             some [measuredCell List.length [102]]]
    colAlign := [none, some (.align 2), some (.align 3)]
    colSkip := [none, none, none] }

theorem hn : 1 ≤ exView.ncols := by decide
theorem hs : WFShape exView := by decide
theorem ha : AlignOK exView := by
  intro i hi
  have : i = 0 ∨ i = 1 ∨ i = 2 := by simp [exView] at hi; omega
  rcases this with rfl | rfl | rfl
  · left; rfl
  · right; exact ⟨2, by simp, rfl⟩
  · right; exact ⟨3, by simp, rfl⟩
theorem hg : GlyphOK List.length asciiSimple := ⟨by decide, by decide, by decide⟩
theorem hb : BoxlessOK boxlessDeco := ⟨rfl, rfl, rfl, rfl⟩
theorem hall : ∀ c ∈ exView.allCells, CellOK List.length c ∧ CellFits c ∧ CellMeasured List.length c := by
  intro c hc
  simp only [RTable.allCells, exView, List.flatMap_cons, List.flatMap_nil, List.append_nil,
    List.mem_append, List.mem_cons, List.not_mem_nil, or_false, false_or] at hc
  rcases hc with (rfl | rfl) | (rfl | rfl) | rfl <;> exact measuredCell_ok _ _
theorem hv : ViewOK List.length exView := fun c hc => ⟨(hall c hc).1, (hall c hc).2.1⟩
theorem hsp : ∀ k, List.length (spaces k) = k := by simp [spaces]
theorem hadd (segs : List Seg) : AdditiveOn List.length segs := by
  unfold AdditiveOn; rw [List.length_flatten]

/-- a string item `"ab\nc"` and its cell after the measuring callback ran -/
def exItem : Item :=
  { kind := .str [97, 98, 10, 99], mString := none, mGoString := none, mError := none,
    fmtV := [97, 98, 10, 99], mHeight := none, mWidth := none, json := none }
def exCell0 : Cell := newCell List.length 0 exItem
def exCell : Cell :=
  { exCell0 with props := [(.ttLines, (World.dimProps List.length exItem exCell0).2),
                            (.ttDims, (World.dimProps List.length exItem exCell0).1)] }

def exWorld : World := { rows := [{ cells := some [exCell0] }], items := [exItem] }

/-- a string item `"ab"` that declares display width 5 and height 3 -/
def wideItem : Item :=
  { kind := .str [97, 98], mString := none, mGoString := none, mError := none,
    fmtV := [97, 98], mHeight := some 3, mWidth := some 5, json := none }
theorem wide_plain : wideItem.plain :=
  ⟨by intro s w h e hk; simp [wideItem] at hk, by intro hk; simp [wideItem] at hk⟩

end TextExample
end Tab
