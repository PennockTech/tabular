/- `register` / `named` / `names` on the association list; observational equivalence of registries. -/
import Tabmodel.Proofs.RegOrder
namespace Tab
attribute [local instance] lawfulBEq_uint8
namespace Registry

@[simp] theorem named_nil (n : Bytes) : named [] n = emptyDecoration := rfl

theorem named_cons (p : Bytes × Decoration) (r : Registry) (n : Bytes) :
    named (p :: r) n = if p.1 = n then p.2 else named r n := by
  unfold named
  rw [List.find?_cons]
  by_cases h : p.1 = n
  · rw [if_pos h, beq_iff_eq.mpr h]
  · rw [if_neg h, beq_eq_false_iff_ne.mpr h]

theorem named_filter_ne (r : Registry) {n m : Bytes} (h : m ≠ n) :
    named (r.filter (fun p => p.1 != n)) m = named r m := by
  induction r with
  | nil => rfl
  | cons p r ih =>
    rw [List.filter_cons, named_cons]
    by_cases hp : p.1 = n
    · rw [if_neg (fun hb => bne_iff_ne.mp hb hp), ih, if_neg (fun e : p.1 = m => h (e.symm.trans hp))]
    · rw [if_pos (bne_iff_ne.mpr hp), named_cons, ih]

theorem named_register (r : Registry) (n : Bytes) (d : Decoration) (m : Bytes) :
    named (register r n d) m = if m = n then d else named r m := by
  unfold register
  rw [named_cons]
  by_cases h : m = n
  · subst h; simp
  · have h' : ¬ n = m := fun e => h e.symm
    simp only [h, h', if_false]
    exact named_filter_ne r h

theorem named_register_self (r : Registry) (n : Bytes) (d : Decoration) :
    named (register r n d) n = d := by rw [named_register, if_pos rfl]

theorem named_register_ne (r : Registry) {n m : Bytes} (d : Decoration) (h : m ≠ n) :
    named (register r n d) m = named r m := by rw [named_register, if_neg h]

theorem named_of_not_mem {r : Registry} {n : Bytes} (h : n ∉ r.map Prod.fst) :
    named r n = emptyDecoration := by
  induction r with
  | nil => rfl
  | cons p r ih =>
    rw [List.map_cons, List.mem_cons, not_or] at h
    rw [named_cons, if_neg (fun e => h.1 e.symm)]
    exact ih h.2

theorem named_of_mem {r : Registry} {n : Bytes} {d : Decoration}
    (hnd : (r.map Prod.fst).Nodup) (h : (n, d) ∈ r) : named r n = d := by
  induction r with
  | nil => cases h
  | cons p r ih =>
    rw [List.map_cons, List.nodup_cons] at hnd
    rw [named_cons]
    rcases List.mem_cons.mp h with rfl | h
    · simp
    · have : p.1 ≠ n := by
        intro e; apply hnd.1; rw [e]; exact List.mem_map_of_mem (f := Prod.fst) h
      rw [if_neg this]; exact ih hnd.2 h

theorem mem_of_mem_keys {r : Registry} {n : Bytes} (h : n ∈ r.map Prod.fst) : (n, named r n) ∈ r := by
  induction r with
  | nil => cases h
  | cons p r ih =>
    rw [named_cons]
    by_cases hp : p.1 = n
    · rw [if_pos hp, ← hp]; exact List.mem_cons_self
    · rw [if_neg hp]
      rw [List.map_cons, List.mem_cons] at h
      rcases h with h | h
      · exact absurd h.symm hp
      · exact List.mem_cons_of_mem _ (ih h)

theorem mem_of_named_ne_empty {r : Registry} {n : Bytes} (h : named r n ≠ emptyDecoration) :
    (n, named r n) ∈ r :=
  mem_of_mem_keys (Decidable.by_contra fun hn => h (named_of_not_mem hn))

theorem keys_filter (r : Registry) (n : Bytes) :
    (r.filter (fun p => p.1 != n)).map Prod.fst = (r.map Prod.fst).filter (fun k => k != n) :=
  (List.filter_map (f := Prod.fst) (p := fun k => k != n) (l := r)).symm

theorem keys_register (r : Registry) (n : Bytes) (d : Decoration) :
    (register r n d).map Prod.fst = n :: (r.map Prod.fst).filter (fun k => k != n) := by
  unfold register; rw [List.map_cons, keys_filter]

theorem mem_keys_register {r : Registry} {n : Bytes} {d : Decoration} {m : Bytes} :
    m ∈ (register r n d).map Prod.fst ↔ m = n ∨ m ∈ r.map Prod.fst := by
  rw [keys_register, List.mem_cons, List.mem_filter]
  constructor
  · rintro (h | h)
    · exact .inl h
    · exact .inr h.1
  · rintro (h | h)
    · exact .inl h
    · by_cases e : m = n
      · exact .inl e
      · exact .inr ⟨h, by simpa using e⟩

/-- `register` keeps the keys duplicate-free (the Go map has one slot per key) -/
theorem nodup_register {r : Registry} (h : (r.map Prod.fst).Nodup) (n : Bytes) (d : Decoration) :
    ((register r n d).map Prod.fst).Nodup := by
  rw [keys_register, List.nodup_cons]
  refine ⟨?_, h.filter _⟩
  intro hm
  have := (List.mem_filter.mp hm).2
  simp at this

theorem register_register_same (r : Registry) (n : Bytes) (d₁ d₂ : Decoration) :
    (r.register n d₁).register n d₂ = r.register n d₂ := by
  unfold register
  rw [List.filter_cons]
  simp only [bne_self_eq_false, Bool.false_eq_true, if_false, List.filter_filter, Bool.and_self]

theorem mem_names {r : Registry} {m : Bytes} : m ∈ names r ↔ m ∈ r.map Prod.fst := mem_sortBytes

theorem names_sorted (r : Registry) : (names r).Pairwise BLe := sortBytes_sorted _

theorem names_strict {r : Registry} (h : (r.map Prod.fst).Nodup) : (names r).Pairwise BLt :=
  sortBytes_strict h

theorem names_nodup {r : Registry} (h : (r.map Prod.fst).Nodup) : (names r).Nodup :=
  sortBytes_nodup h

/-- two registries that no sequence of operations can tell apart -/
def ObsEq (r r' : Registry) : Prop :=
  (r.map Prod.fst).Perm (r'.map Prod.fst) ∧ ∀ k, named r k = named r' k

theorem ObsEq.refl (r : Registry) : ObsEq r r := ⟨List.Perm.refl _, fun _ => rfl⟩

theorem ObsEq.names {r r' : Registry} (h : ObsEq r r') : names r = names r' :=
  sortBytes_eq_of_perm h.1

theorem ObsEq.register {r r' : Registry} (h : ObsEq r r') (n : Bytes) (d : Decoration) :
    ObsEq (register r n d) (register r' n d) := by
  refine ⟨?_, fun k => ?_⟩
  · rw [keys_register, keys_register]
    exact List.Perm.cons n (h.1.filter _)
  · rw [named_register, named_register, h.2 k]

theorem register_comm_obsEq (r : Registry) {n m : Bytes} (hnm : n ≠ m) (d e : Decoration) :
    ObsEq ((r.register n d).register m e) ((r.register m e).register n d) := by
  refine ⟨?_, fun k => ?_⟩
  · rw [keys_register, keys_register, keys_register, keys_register, List.filter_cons,
      List.filter_cons, if_pos (bne_iff_ne.mpr hnm), if_pos (bne_iff_ne.mpr hnm.symm),
      List.filter_filter, List.filter_filter]
    refine (List.Perm.swap n m _).trans (.cons n (.cons m (.of_eq ?_)))
    exact List.filter_congr fun x _ => Bool.and_comm _ _
  · rw [named_register, named_register, named_register, named_register]
    by_cases hk : k = m
    · rw [if_pos hk, hk, if_neg hnm.symm, if_pos rfl]
    · rw [if_neg hk, if_neg hk]

end Registry
end Tab
