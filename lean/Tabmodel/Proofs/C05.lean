/- Model-side lemmas for C05: what `csvEmitRow` / `renderCsv` write, as a function of the view. -/
import Tabmodel.Model.Csv
import Tabmodel.Proofs.EmitLemmas
import Tabmodel.Spec.Shape
namespace Tab
open Emit

/-- wire format of one all-fields-quoted record -/
def csvEncRow : List Bytes → Bytes
  | [] => [LF]
  | [f] => csvEscape f ++ [LF]
  | f :: f' :: fs => csvEscape f ++ COMMA :: csvEncRow (f' :: fs)

def csvPad (n : Nat) (cells : List RCell) : List Bytes :=
  cells.map (·.text) ++ List.replicate (n - cells.length) []

theorem csvEncRow_cons_ne (f : Bytes) {t : List Bytes} (ht : t ≠ []) :
    csvEncRow (f :: t) = csvEscape f ++ COMMA :: csvEncRow t := by
  cases t with
  | nil => exact absurd rfl ht
  | cons f' fs => rfl

theorem csvEncRow_pad (l : Bytes) (k : Nat) :
    csvEncRow (l :: List.replicate k []) =
      csvEscape l ++ ((List.replicate k [COMMA, DQ, DQ]).flatten ++ [LF]) := by
  induction k generalizing l with
  | zero => simp [csvEncRow]
  | succ k ih =>
    rw [List.replicate_succ, csvEncRow_cons_ne _ (by simp), ih []]
    simp [csvEscape, csvEscBody, List.replicate_succ]

theorem csvEncRow_general (fs : List Bytes) (l : Bytes) (k : Nat) :
    csvEncRow (fs ++ l :: List.replicate k []) =
      (fs.map (fun f => csvEscape f ++ [COMMA])).flatten ++
        (csvEscape l ++ ((List.replicate k [COMMA, DQ, DQ]).flatten ++ [LF])) := by
  induction fs with
  | nil => simpa using csvEncRow_pad l k
  | cons f fs ih =>
    rw [List.cons_append, csvEncRow_cons_ne _ (by simp), ih]
    simp

theorem csvEmitRow_structural {ncols : Nat} {cells : List RCell} (h : ncols < cells.length) :
    csvEmitRow ncols cells = fail .structural := by
  unfold csvEmitRow; simp [h]

/-- a well-shaped row, given what its three phases come to: the cells before the last (`L`), the text
of the last (`lastText`, empty for a zero-cell row) and the number `k` of padding fields -/
theorem csvEmitRow_eq {ncols k : Nat} {cells L : List RCell} {lastText : Bytes}
    (hlen : cells.length ≤ ncols)
    (htake : cells.take (cells.length - 1) = L)
    (hlast : (if cells.length > 0 then
        (idx cells (cells.length - 1) "csv.emitRow.cells[i]").bind' fun c => pure' c.text
        else pure' []) = pure' lastText)
    (hk : ncols - (cells.length - 1 + 1) = k) :
    Writes (csvEmitRow ncols cells) () (csvEncRow (L.map (·.text) ++ lastText :: List.replicate k [])) := by
  unfold csvEmitRow
  simp only [bind_eq, pure_eq]
  rw [if_neg (Nat.not_lt.2 hlen), hlast, bind'_pure', htake, hk, forM'_write, forM'_const_write,
    csvEncRow_general, List.map_map]
  exact .bind ⟨rfl, rfl⟩ <| .bind (.write _) <| .bind ⟨rfl, rfl⟩ (.write _)

theorem csvEmitRow_ok {ncols : Nat} {cells : List RCell} (h1 : 1 ≤ ncols) (hlen : cells.length ≤ ncols) :
    Writes (csvEmitRow ncols cells) () (csvEncRow (csvPad ncols cells)) := by
  rcases List.eq_nil_or_concat cells with rfl | ⟨L, b, rfl⟩
  · -- a zero-cell row: `max > 0` fails, so `cells[max - 1]` is never read
    cases ncols with
    | zero => cases h1
    | succ k => exact csvEmitRow_eq (L := []) (lastText := []) (k := k) hlen rfl rfl rfl
  · rw [List.concat_eq_append] at hlen ⊢
    have hl : (L ++ [b]).length - 1 = L.length := by rw [List.length_append]; rfl
    have hpad : csvPad ncols (L ++ [b]) =
        L.map (·.text) ++ b.text :: List.replicate (ncols - (L ++ [b]).length) [] := by
      unfold csvPad; rw [List.map_append, List.append_assoc]; rfl
    have hget : (L ++ [b])[L.length]? = some b := by
      rw [List.getElem?_append_right (Nat.le_refl _), Nat.sub_self]; rfl
    rw [hpad]
    exact csvEmitRow_eq hlen (by rw [hl]; exact List.take_left' rfl)
      (by rw [hl, if_pos (by rw [List.length_append]; exact Nat.succ_pos _), idx_ok hget]; rfl)
      (by rw [hl, List.length_append]; rfl)

/-- the per-row body of the `RenderTo` loop -/
def csvBody (n : Nat) (r : Option (List RCell)) : Emit Unit :=
  match r with
  | none => pure' ()
  | some cells => csvEmitRow n cells

def csvRowRecs (n : Nat) (rows : List (Option (List RCell))) : List (List Bytes) :=
  rows.filterMap (fun r => r.map (csvPad n))

theorem csvRows_ok {n : Nat} (h1 : 1 ≤ n) (rows : List (Option (List RCell)))
    (hr : ∀ cells, some cells ∈ rows → cells.length ≤ n) :
    Writes (forM' rows (csvBody n)) () ((csvRowRecs n rows).flatMap csvEncRow) := by
  induction rows with
  | nil => exact Writes.pure ()
  | cons r rows ih =>
    have ih' := ih (fun c hc => hr c (List.mem_cons_of_mem _ hc))
    cases r with
    | none => exact ih'
    | some cells => exact (csvEmitRow_ok h1 (hr cells List.mem_cons_self)).bind ih'

theorem csvRows_bad {n : Nat} (h1 : 1 ≤ n) (rows : List (Option (List RCell)))
    (hr : ∃ cells, some cells ∈ rows ∧ n < cells.length) :
    (forM' rows (csvBody n)).res = .error (.err .structural) := by
  induction rows with
  | nil => obtain ⟨c, hc, _⟩ := hr; simp at hc
  | cons r rows ih =>
    cases r with
    | none =>
      simp only [forM'_cons, csvBody, bind'_pure']
      apply ih
      obtain ⟨c, hc, hlt⟩ := hr
      exact ⟨c, by simpa using hc, hlt⟩
    | some cells =>
      simp only [forM'_cons, csvBody]
      by_cases hlt : n < cells.length
      · rw [csvEmitRow_structural hlt]; simp
      · have hc := csvEmitRow_ok h1 (Nat.le_of_not_lt hlt)
        rw [(bind'_ok hc.res _).2]
        apply ih
        obtain ⟨c, hc, hlt'⟩ := hr
        rcases List.mem_cons.1 hc with heq | hmem
        · cases heq; exact absurd hlt' hlt
        · exact ⟨c, hmem, hlt'⟩

theorem csvRowRecs_length {n : Nat} {rows : List (Option (List RCell))}
    (hr : ∀ cells, some cells ∈ rows → cells.length ≤ n) : ∀ r ∈ csvRowRecs n rows, r.length = n := by
  intro r hmem
  obtain ⟨row, hrow, hmap⟩ := List.mem_filterMap.1 hmem
  cases row with
  | none => cases hmap
  | some cells =>
    cases hmap
    have := hr cells hrow
    simp only [csvPad, List.length_append, List.length_map, List.length_replicate]
    omega

theorem renderCsv_eq {v : RTable} (h1 : 1 ≤ v.ncols) :
    renderCsv v = forM' (v.header :: v.rows) (csvBody v.ncols) := by
  unfold renderCsv
  simp only [bind_eq, pure_eq]
  rw [if_neg (Nat.not_lt.2 h1)]
  cases v.header with
  | none => simp only [forM'_cons, csvBody, bind'_pure']; rfl
  | some hs => rfl

theorem renderCsv_noColumns {v : RTable} (h0 : v.ncols = 0) : renderCsv v = fail .noColumns := by
  unfold renderCsv; simp [h0]

theorem wfShape_cons {v : RTable} :
    WFShape v ↔ ∀ cells, some cells ∈ v.header :: v.rows → cells.length ≤ v.ncols := by
  constructor
  · rintro ⟨hh, hr⟩ cells hc
    rcases List.mem_cons.1 hc with heq | hmem
    · exact hh cells heq.symm
    · exact hr cells hmem
  · intro h
    exact ⟨fun hs hh => h hs (hh ▸ List.mem_cons_self), fun cells hc => h cells (List.mem_cons_of_mem _ hc)⟩

theorem renderCsv_ok {v : RTable} (h1 : 1 ≤ v.ncols) (hw : WFShape v) :
    Writes (renderCsv v) () ((csvRowRecs v.ncols (v.header :: v.rows)).flatMap csvEncRow) := by
  rw [renderCsv_eq h1]
  exact csvRows_ok h1 _ (wfShape_cons.1 hw)

theorem renderCsv_bad {v : RTable} (h1 : 1 ≤ v.ncols) (hw : ¬ WFShape v) :
    (renderCsv v).res = .error (.err .structural) := by
  rw [renderCsv_eq h1]
  apply csvRows_bad h1
  obtain ⟨cells, hc⟩ := Classical.not_forall.1 (mt wfShape_cons.2 hw)
  obtain ⟨hmem, hlen⟩ := Classical.not_imp.1 hc
  exact ⟨cells, hmem, Nat.lt_of_not_le hlen⟩

end Tab
