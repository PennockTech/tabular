/- Property chains as finite maps: lemmas about get / strip / set. -/
import Tabmodel.Model.Props
namespace Tab
namespace Chain

@[simp] theorem get_nil (k : Key) : get [] k = none := rfl
@[simp] theorem get_cons (k' : Key) (v : Val) (c : Chain) (k : Key) :
    get ((k', v) :: c) k = if k' = k then some v else get c k := rfl
@[simp] theorem strip_nil (k : Key) : strip [] k = [] := rfl
@[simp] theorem strip_cons (k' : Key) (v : Val) (c : Chain) (k : Key) :
    strip ((k', v) :: c) k = if k' = k then c else (k', v) :: strip c k := rfl

theorem get_strip_of_ne (c : Chain) {k k' : Key} (h : k' ≠ k) : (strip c k).get k' = c.get k' := by
  fun_induction strip c k with
  | case1 => rfl
  | case2 v rest => rw [get_cons, if_neg (Ne.symm h)]
  | case3 a v rest ha ih => rw [get_cons, get_cons, ih]

theorem get_eq_none_of_not_mem (c : Chain) (k : Key) (h : k ∉ c.keys) : c.get k = none := by
  fun_induction get c k with
  | case1 => rfl
  | case2 v rest => exact absurd List.mem_cons_self h
  | case3 a v rest ha ih => exact ih (fun hm => h (List.mem_cons_of_mem _ hm))

theorem strip_sublist (c : Chain) (k : Key) : (strip c k).Sublist c := by
  fun_induction strip c k with
  | case1 => exact .slnil
  | case2 v rest => exact List.sublist_cons_self _ _
  | case3 a v rest ha ih => exact ih.cons_cons _

theorem nodup_strip (c : Chain) (k : Key) (h : c.keys.Nodup) : (strip c k).keys.Nodup :=
  h.sublist ((strip_sublist c k).map Prod.fst)

theorem not_mem_strip (c : Chain) (k : Key) (h : c.keys.Nodup) : k ∉ (strip c k).keys := by
  fun_induction strip c k with
  | case1 => exact List.not_mem_nil
  | case2 v rest => exact (List.nodup_cons.mp h).1
  | case3 a v rest ha ih =>
    rw [keys, List.map_cons, List.mem_cons, not_or]
    exact ⟨Ne.symm ha, ih (List.nodup_cons.mp h).2⟩

theorem get_set_same (c : Chain) (k : Key) (v : Val) : (c.set k (some v)).get k = some v := by
  simp [set]

theorem get_set_ne (c : Chain) {k k' : Key} (v : Option Val) (h : k ≠ k') : (c.set k v).get k' = c.get k' := by
  cases v with
  | none => exact get_strip_of_ne c (Ne.symm h)
  | some v => simp [set, h, get_strip_of_ne c (Ne.symm h)]

/-- removing a key makes it unreadable when the chain has no duplicate keys -/
theorem get_set (c : Chain) (k : Key) (v : Option Val) (h : v.isSome = true ∨ c.keys.Nodup) :
    (c.set k v).get k = v := by
  cases v with
  | some v => exact get_set_same c k v
  | none =>
    cases h with
    | inl h => simp at h
    | inr h => exact get_eq_none_of_not_mem _ _ (not_mem_strip c k h)

/-- the invariant the map behaviour relies on is preserved by `set` -/
theorem nodup_set (c : Chain) (k : Key) (v : Option Val) (h : c.keys.Nodup) : (c.set k v).keys.Nodup := by
  cases v with
  | none => exact nodup_strip c k h
  | some v =>
    simp only [set, keys, List.map_cons, List.nodup_cons]
    exact ⟨not_mem_strip c k h, nodup_strip c k h⟩

theorem length_strip_le (c : Chain) (k : Key) : (strip c k).length ≤ c.length :=
  (strip_sublist c k).length_le

theorem length_strip_of_mem (c : Chain) (k : Key) (h : k ∈ c.keys) : (strip c k).length + 1 = c.length := by
  fun_induction strip c k with
  | case1 => cases h
  | case2 v rest => rfl
  | case3 a v rest ha ih =>
    rcases List.mem_cons.mp h with e | h
    · exact absurd e.symm ha
    · rw [List.length_cons, List.length_cons, ih h]

end Chain
end Tab
