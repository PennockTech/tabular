/- C03 / C04: decoration predicates, row counts, and the layout of each kind of chunk. -/
import Tabmodel.Proofs.TextDims
namespace Tab
open Emit

theorem measuredCell_ok (dw : Measure) (text : Bytes) :
    CellOK dw (measuredCell dw text) ∧ CellFits (measuredCell dw text) ∧ CellMeasured dw (measuredCell dw text) := by
  refine ⟨⟨by simp [measuredCell], (lines text).map (fun l => ((dw l : Nat) : Int)), 0, by simp [measuredCell], ?_, ?_, Or.inl rfl⟩, ?_, ?_⟩
  · simp [measuredCell, zipWith_map_mk]
  · intro w hw; obtain ⟨l, _, rfl⟩ := List.mem_map.mp hw; omega
  · intro x hx
    simp only [measuredCell] at hx ⊢
    obtain ⟨l, hl, rfl⟩ := List.mem_map.mp hx
    rw [longestLine_eq]
    exact Int.ofNat_le.mpr (le_maxNat ((lines text).map dw) (dw l) (List.mem_map.mpr ⟨l, hl, rfl⟩))
  · intro x hx
    simp only [measuredCell] at hx
    obtain ⟨l, _, rfl⟩ := List.mem_map.mp hx
    rfl

/-! ### decorations -/

theorem GlyphOK.all_one {dw : Measure} {d : Decoration} (h : GlyphOK dw d) :
    dw d.topLeft = 1 ∧ dw d.hOuter = 1 ∧ dw d.hTopDown = 1 ∧ dw d.topRight = 1 ∧ dw d.hBLeft = 1 ∧
    dw d.hBCross = 1 ∧ dw d.hBRight = 1 ∧ dw d.bTopDown = 1 ∧ dw d.bottomLeft = 1 ∧ dw d.bBottomUp = 1 ∧
    dw d.bottomRight = 1 ∧ dw d.leftBodyRule = 1 ∧ dw d.hRule = 1 ∧ dw d.crossPiece = 1 ∧
    dw d.rightBodyRule = 1 ∧ dw d.vHeader = 1 ∧ dw d.vBodyBorder = 1 ∧ dw d.vBodyInner = 1 := by
  have := h.one
  simpa only [List.forall_mem_cons, List.not_mem_nil, false_imp_iff, implies_true, and_true] using this

theorem GlyphOK.divs_one {dw : Measure} {d : Decoration} (h : GlyphOK dw d) :
    dw d.vHeader = 1 ∧ dw d.vBodyBorder = 1 ∧ dw d.vBodyInner = 1 := by
  obtain ⟨_, _, _, _, _, _, _, _, _, _, _, _, _, _, _, hdiv⟩ := h.all_one
  exact hdiv

theorem GlyphOK.divs_ne {dw : Measure} {d : Decoration} (h : GlyphOK dw d) :
    d.vHeader ≠ [] ∧ d.vBodyBorder ≠ [] ∧ d.vBodyInner ≠ [] := by
  have := h.ne
  simp only [List.forall_mem_cons, List.not_mem_nil, false_imp_iff, implies_true, and_true] at this
  obtain ⟨_, _, _, _, _, _, _, _, _, _, _, _, _, _, _, hdiv⟩ := this
  exact hdiv

theorem GlyphOK.divs_header {dw : Measure} {d : Decoration} (h : GlyphOK dw d) :
    DivsOK d.vHeader d.vHeader d.vHeader :=
  Or.inl ⟨h.divs_ne.1, h.divs_ne.1, h.divs_ne.1⟩

theorem GlyphOK.divs_body {dw : Measure} {d : Decoration} (h : GlyphOK dw d) :
    DivsOK d.vBodyBorder d.vBodyInner d.vBodyBorder :=
  Or.inl ⟨h.divs_ne.2.1, h.divs_ne.2.2, h.divs_ne.2.1⟩

theorem DecoOK.divs_header {dw : Measure} {d : Decoration} (h : DecoOK dw d) :
    DivsOK d.vHeader d.vHeader d.vHeader := by
  rcases h with h | h
  · exact h.divs_header
  · exact Or.inr ⟨h.vh, h.vh, h.vh⟩

theorem DecoOK.divs_body {dw : Measure} {d : Decoration} (h : DecoOK dw d) :
    DivsOK d.vBodyBorder d.vBodyInner d.vBodyBorder := by
  rcases h with h | h
  · exact h.divs_body
  · exact Or.inr ⟨h.vb, h.vi, h.vb⟩

theorem GlyphOK.rule_one {dw : Measure} {d : Decoration} (h : GlyphOK dw d) (q : Bytes × Bytes × Bytes × Bytes)
    (hq : q ∈ ruleGlyphs d) : dw q.1 = 1 ∧ dw q.2.1 = 1 ∧ dw q.2.2.1 = 1 ∧ dw q.2.2.2 = 1 := by
  obtain ⟨tl, ho, htd, tr, hbl, hbx, hbr, btd, bl, bbu, br, lbr, hr, x, rbr, _⟩ := h.all_one
  simp only [ruleGlyphs, List.mem_cons, List.not_mem_nil, or_false] at hq
  rcases hq with rfl | rfl | rfl | rfl | rfl
  · exact ⟨tl, ho, htd, tr⟩
  · exact ⟨hbl, ho, hbx, hbr⟩
  · exact ⟨tl, ho, btd, tr⟩
  · exact ⟨bl, ho, bbu, br⟩
  · exact ⟨lbr, hr, x, rbr⟩

/-! ### rows, slots -/

theorem rowLineCount_eq (cells : List RCell) (n : Nat) :
    rowLineCount cells n = max 1 (maxNat ((cells.take n).map (fun c => c.lws.length))) :=
  foldl_max_eq _ 1

theorem rowLineCount_ge (cells : List RCell) (n i : Nat) (c : RCell) (hc : cells[i]? = some c) (hi : i < n) :
    c.lws.length ≤ rowLineCount cells n := by
  rw [rowLineCount_eq]
  refine Nat.le_trans (le_maxNat _ _ (List.mem_map.mpr ⟨c, ?_, rfl⟩)) (Nat.le_max_right _ _)
  apply List.mem_of_getElem? (i := i)
  rw [List.getElem?_take, if_pos hi, hc]

theorem rowLineCount_pos (cells : List RCell) (n : Nat) : 1 ≤ rowLineCount cells n := by
  rw [rowLineCount_eq]; exact Nat.le_max_left 1 _

theorem rowChunks_length (L I R : Bytes) (cw al : List Nat) (cells : List RCell) (n : Nat) :
    (rowChunks L I R cw al cells n).length = rowLineCount cells n := by simp [rowChunks]

theorem rowChunks_getElem? (L I R : Bytes) (cw al : List Nat) (cells : List RCell) (n k : Nat)
    (hk : k < rowLineCount cells n) :
    (rowChunks L I R cw al cells n)[k]? = some (contentLine L I R (rowSlots cw al cells k)) := by
  unfold rowChunks; exact range_map_getElem? _ _ _ hk

theorem spaces_append (a b : Nat) : spaces a ++ spaces b = spaces (a + b) := by
  simp [spaces, List.replicate_append_replicate]

theorem slotB_blank (cw al : Nat) : slotB blankWS cw al = spaces cw := by
  show spaces _ ++ [] ++ spaces _ = _
  rw [List.append_nil, spaces_append, padSplit_sum, slotPad_eq blankWS cw (Int.le_refl 0)]
  rfl

theorem slot_mem_boxedTail (I R : Bytes) (slots : List SlotD) (lp rp : Nat) (ws : WidthString)
    (h : Seg.slot lp ws rp ∈ boxedTail I R slots) : ∃ s ∈ slots, s.ws = ws := by
  induction slots with
  | nil => simp [boxedTail] at h
  | cons s t ih =>
    cases t with
    | nil =>
      simp [boxedTail, SlotD.seg] at h
      exact ⟨s, by simp, h.2.1.symm⟩
    | cons s' t' =>
      simp only [boxedTail, List.mem_cons, SlotD.seg] at h ih
      rcases h with h | h | h | h | h
      · simp at h; exact ⟨s, by simp, h.2.1.symm⟩
      · cases h
      · cases h
      · cases h
      · obtain ⟨x, hx, hxe⟩ := ih (by simpa [SlotD.seg] using h)
        exact ⟨x, List.mem_cons_of_mem _ (List.mem_cons.mpr hx), hxe⟩

/-! ### per-chunk layout -/

theorem colWidths_ne_nil (v : RTable) (hn : 1 ≤ v.ncols) : v.colWidths ≠ [] :=
  List.ne_nil_of_length_pos ((colWidths_length v).symm ▸ hn)

theorem slot_not_mem_ruleSegs (g h x r : Bytes) (cw : List Nat) (lp rp : Nat) (ws : WidthString) :
    Seg.slot lp ws rp ∉ ruleSegs g h x r cw := by
  induction cw generalizing g with
  | nil => simp [ruleSegs]
  | cons w t ih =>
    cases t with
    | nil => simp [ruleSegs]
    | cons w' t' =>
      simp only [ruleSegs, List.mem_cons, not_or]
      exact ⟨by simp, by simp, ih x⟩

theorem slot_mem_rowSlots (cw al : List Nat) (cells : List RCell) (k : Nat) (s : SlotD)
    (h : s ∈ rowSlots cw al cells k) : ∃ i, s.ws = cellLineWS cells i k := by
  unfold rowSlots lineSlots at h
  obtain ⟨x, _, rfl⟩ := List.mem_map.mp h
  exact ⟨x.2, rfl⟩

theorem rowLine_boxed (dw : Measure) (v : RTable) (L I R : Bytes) (cells : List RCell) (k : Nat)
    (hn : 1 ≤ v.ncols) (hv : ViewOK dw v) (hrow : v.header = some cells ∨ some cells ∈ v.rows)
    (hL : L ≠ []) (h1 : dw L = 1) (h2 : dw I = 1) (h3 : dw R = 1) :
    contentLine L I R (rowSlots v.colWidths v.effAligns cells k)
      = segBytes (boxedSegs L I R (rowSlots v.colWidths v.effAligns cells k)) ++ [LF] ∧
    segWidth dw (boxedSegs L I R (rowSlots v.colWidths v.effAligns cells k)) = boxedWidth v.colWidths ∧
    divOffsets dw 0 (boxedSegs L I R (rowSlots v.colWidths v.effAligns cells k)) = colOffsets 0 v.colWidths ∧
    (∀ lp ws rp, Seg.slot lp ws rp ∈ boxedSegs L I R (rowSlots v.colWidths v.effAligns cells k) →
      ∃ i, ws = cellLineWS cells i k) := by
  have hw := rowSlots_widths dw v cells k hv hrow
  have hsl : rowSlots v.colWidths v.effAligns cells k ≠ [] := lineSlots_ne_nil _ _ _ (colWidths_ne_nil v hn)
  refine ⟨contentLine_boxed _ _ _ _ hL hsl, ?_, ?_, ?_⟩
  · rw [boxedSegs_width dw _ _ _ _ hsl h1 h2 h3, hw]
  · rw [boxedSegs_offsets dw _ _ _ _ hsl 0 h1 h2, hw]
  · intro lp ws rp hm
    simp only [boxedSegs, List.mem_cons] at hm
    rcases hm with hm | hm | hm
    · cases hm
    · cases hm
    · obtain ⟨s, hs1, hs2⟩ := slot_mem_boxedTail _ _ _ _ _ _ hm
      obtain ⟨i, hi⟩ := slot_mem_rowSlots _ _ _ _ _ hs1
      exact ⟨i, by rw [← hs2, hi]⟩

/-- the segmentation of a chunk of a boxed render -/
inductive BoxedLine (d : Decoration) (v : RTable) : List Seg → Prop
  | rule (l h x r : Bytes) (hm : (l, h, x, r) ∈ ruleGlyphs d) : BoxedLine d v (ruleSegs l h x r v.colWidths)
  | header (hs : List RCell) (k : Nat) (hh : v.header = some hs) :
      BoxedLine d v (boxedSegs d.vHeader d.vHeader d.vHeader (rowSlots v.colWidths v.effAligns hs k))
  | body (cells : List RCell) (k : Nat) (hr : some cells ∈ v.rows) :
      BoxedLine d v (boxedSegs d.vBodyBorder d.vBodyInner d.vBodyBorder
        (rowSlots v.colWidths v.effAligns cells k))

theorem boxedLine_of_kind {dw : Measure} {d : Decoration} {v : RTable} {ch : Bytes}
    (hg : GlyphOK dw d) (hn : 1 ≤ v.ncols) (hk : LineKind d v ch) :
    ∃ segs, BoxedLine d v segs ∧ ch = segBytes segs ++ [LF] := by
  have hsl : ∀ cells k, rowSlots v.colWidths v.effAligns cells k ≠ [] :=
    fun _ _ => lineSlots_ne_nil _ _ _ (colWidths_ne_nil v hn)
  cases hk with
  | rule l h x r hm => exact ⟨_, .rule l h x r hm, templateLine_boxed d _ l h x r hg.boxed⟩
  | header hs k hh _ => exact ⟨_, .header hs k hh, contentLine_boxed _ _ _ _ hg.divs_ne.1 (hsl hs k)⟩
  | body cells k hr _ => exact ⟨_, .body cells k hr, contentLine_boxed _ _ _ _ hg.divs_ne.2.1 (hsl cells k)⟩

theorem boxedLine_layout {dw : Measure} {d : Decoration} {v : RTable} {segs : List Seg}
    (hg : GlyphOK dw d) (hn : 1 ≤ v.ncols) (hv : ViewOK dw v) (h : BoxedLine d v segs) :
    segWidth dw segs = boxedWidth v.colWidths ∧ divOffsets dw 0 segs = colOffsets 0 v.colWidths ∧
      (∀ lp ws rp, Seg.slot lp ws rp ∈ segs → ∃ cells i k,
          (v.header = some cells ∨ some cells ∈ v.rows) ∧ ws = cellLineWS cells i k) := by
  obtain ⟨hne, hnb, _⟩ := hg.divs_ne
  obtain ⟨h1, hb, hi⟩ := hg.divs_one
  cases h with
  | rule l h x r hm =>
    have hcw := colWidths_ne_nil v hn
    obtain ⟨h1, h2, h3, h4⟩ := hg.rule_one _ hm
    exact ⟨ruleSegs_width dw l h x r _ hcw h1 h2 h3 h4, ruleSegs_offsets dw l h x r _ hcw 0 h1 h2 h3,
      fun lp ws rp hm => absurd hm (slot_not_mem_ruleSegs _ _ _ _ _ _ _ _)⟩
  | header hs k hh =>
    obtain ⟨_, w, o, m⟩ := rowLine_boxed dw v _ _ _ hs k hn hv (Or.inl hh) hne h1 h1 h1
    exact ⟨w, o, fun lp ws rp h => (m lp ws rp h).elim fun i hi => ⟨hs, i, k, Or.inl hh, hi⟩⟩
  | body cells k hr =>
    obtain ⟨_, w, o, m⟩ := rowLine_boxed dw v _ _ _ cells k hn hv (Or.inr hr) hnb hb hi hb
    exact ⟨w, o, fun lp ws rp h => (m lp ws rp h).elim fun i hi => ⟨cells, i, k, Or.inr hr, hi⟩⟩

theorem slot_measured_of_src (dw : Measure) (v : RTable) (h0 : dw [] = 0)
    (hm : ∀ c ∈ v.allCells, CellMeasured dw c) (ws : WidthString)
    (h : ∃ cells i k, (v.header = some cells ∨ some cells ∈ v.rows) ∧ ws = cellLineWS cells i k) :
    ws.w = ((dw ws.s : Nat) : Int) := by
  obtain ⟨cells, i, k, hrow, rfl⟩ := h
  exact cellLineWS_measured dw cells i k h0 (fun c hc => hm c (mem_allCells v cells c hrow hc))

theorem lineKind_boxed (dw : Measure) (d : Decoration) (v : RTable) (ch : Bytes)
    (hg : GlyphOK dw d) (hn : 1 ≤ v.ncols) (hv : ViewOK dw v) (hk : LineKind d v ch) :
    ∃ segs, ch = segBytes segs ++ [LF] ∧ segWidth dw segs = boxedWidth v.colWidths ∧
      divOffsets dw 0 segs = colOffsets 0 v.colWidths ∧
      (∀ lp ws rp, Seg.slot lp ws rp ∈ segs → ∃ cells i k,
          (v.header = some cells ∨ some cells ∈ v.rows) ∧ ws = cellLineWS cells i k) := by
  obtain ⟨segs, hb, e⟩ := boxedLine_of_kind hg hn hk
  exact ⟨segs, e, boxedLine_layout hg hn hv hb⟩

theorem rowLine_boxless (dw : Measure) (v : RTable) (I R : Bytes) (cells : List RCell) (k : Nat)
    (hv : ViewOK dw v) (hrow : v.header = some cells ∨ some cells ∈ v.rows) :
    contentLine [] I R (rowSlots v.colWidths v.effAligns cells k)
      = segBytes (boxlessSegs (rowSlots v.colWidths v.effAligns cells k)) ++ [LF] ∧
    (rowSlots v.colWidths v.effAligns cells k).map SlotD.width = v.colWidths ∧
    segWidth dw (boxlessSegs (rowSlots v.colWidths v.effAligns cells k)) = boxlessWidth v.colWidths := by
  have hw := rowSlots_widths dw v cells k hv hrow
  exact ⟨contentLine_boxless _ _ _, hw, by rw [boxlessSegs_width, hw]⟩

theorem boxlessLine_of_kind {d : Decoration} {v : RTable} {ch : Bytes} (hb : BoxlessOK d)
    (hk : LineKind d v ch) :
    ch = [] ∨ ∃ cells k, (v.header = some cells ∨ some cells ∈ v.rows) ∧
      ch = segBytes (boxlessSegs (rowSlots v.colWidths v.effAligns cells k)) ++ [LF] := by
  cases hk with
  | rule l h x r hm => exact Or.inl (templateLine_boxless d _ l h x r hb.boxless)
  | header hs k hh hk => rw [hb.vh]; exact Or.inr ⟨hs, k, Or.inl hh, contentLine_boxless _ _ _⟩
  | body cells k hr hk => rw [hb.vb]; exact Or.inr ⟨cells, k, Or.inr hr, contentLine_boxless _ _ _⟩

theorem lineKind_boxless (dw : Measure) (d : Decoration) (v : RTable) (ch : Bytes)
    (hb : BoxlessOK d) (hv : ViewOK dw v) (hk : LineKind d v ch) :
    ch = [] ∨ ∃ slots, ch = segBytes (boxlessSegs slots) ++ [LF] ∧
      slots.map SlotD.width = v.colWidths ∧
      segWidth dw (boxlessSegs slots) = boxlessWidth v.colWidths := by
  rcases boxlessLine_of_kind hb hk with h | ⟨cells, k, hrow, e⟩
  · exact Or.inl h
  · exact Or.inr ⟨_, e, (rowLine_boxless dw v [] [] cells k hv hrow).2⟩

theorem renderTextBody_kinds (dw : Measure) (d : Decoration) (v : RTable) (hn : 1 ≤ v.ncols) (hs : WFShape v)
    (ha : AlignOK v) (hd : DecoOK dw d) (hv : ViewOK dw v) :
    ∀ ch ∈ (renderTextBody d v).chunks, LineKind d v ch := by
  intro ch hch
  rw [(renderTextBody_eq d v hn hs ha hd.divs_header hd.divs_body hv.nonneg).2] at hch
  exact specChunks_kinds d v ch hch

theorem c03_line_structure_aux (d : Decoration) (v : RTable) (hn : 1 ≤ v.ncols) (hs : WFShape v) (ha : AlignOK v)
    (hdh : DivsOK d.vHeader d.vHeader d.vHeader) (hdb : DivsOK d.vBodyBorder d.vBodyInner d.vBodyBorder)
    (hnn : ∀ c ∈ v.allCells, ∀ x ∈ c.lws, 0 ≤ x.w) :
    (renderTextBody d v).chunks = specChunks d v := (renderTextBody_eq d v hn hs ha hdh hdb hnn).2

end Tab
