/- C06 helpers: facts about the model's escaper `htmlEscByte` / `htmlEscape` (model side only). -/
import Tabmodel.Proofs.C06Lit
import Tabmodel.Proofs.Lists
namespace Tab
attribute [local instance] lawfulBEq_uint8

/-- the bytes `htmlEscByte` replaces, each with what it writes for it -/
def escTable : List (UInt8 × Bytes) :=
  [(0, [0xEF, 0xBF, 0xBD]), (34, [38, 35, 51, 52, 59]), (38, [38, 97, 109, 112, 59]),
   (39, [38, 35, 51, 57, 59]), (43, [38, 35, 52, 51, 59]), (60, [38, 108, 116, 59]), (62, [38, 103, 116, 59])]

theorem htmlEscByte_entry : ∀ p ∈ escTable, htmlEscByte p.1 = p.2 := by
  simp only [htmlEscByte, html_lits]
  decide

theorem htmlEscByte_other (b : UInt8) (h0 : b ≠ 0) (h34 : b ≠ 34) (h38 : b ≠ 38) (h39 : b ≠ 39)
    (h43 : b ≠ 43) (h60 : b ≠ 60) (h62 : b ≠ 62) : htmlEscByte b = [b] := by
  rw [htmlEscByte, if_neg h0, if_neg h34, if_neg h38, if_neg h39, if_neg h43, if_neg h60, if_neg h62]

/-- a fact about every `(b, htmlEscByte b)`: check the seven entries of the table, and the bytes that
    are kept -/
theorem htmlEscByte_ind (P : UInt8 → Bytes → Prop) (hent : ∀ p ∈ escTable, P p.1 p.2)
    (hoth : ∀ b : UInt8, b ≠ 0 → b ≠ 34 → b ≠ 38 → b ≠ 39 → b ≠ 43 → b ≠ 60 → b ≠ 62 → P b [b])
    (b : UInt8) : P b (htmlEscByte b) := by
  by_cases h : b ∈ escTable.map Prod.fst
  · obtain ⟨p, hp, rfl⟩ := List.mem_map.1 h
    rw [htmlEscByte_entry p hp]
    exact hent p hp
  · simp only [escTable, List.map_cons, List.map_nil, List.mem_cons, List.not_mem_nil, or_false,
      not_or] at h
    obtain ⟨h0, h34, h38, h39, h43, h60, h62⟩ := h
    rw [htmlEscByte_other b h0 h34 h38 h39 h43 h60 h62]
    exact hoth b h0 h34 h38 h39 h43 h60 h62

theorem htmlEscape_nil : htmlEscape [] = [] := rfl
theorem htmlEscape_cons (b : UInt8) (s : Bytes) : htmlEscape (b :: s) = htmlEscByte b ++ htmlEscape s := by
  simp [htmlEscape]
theorem htmlEscape_append (s t : Bytes) : htmlEscape (s ++ t) = htmlEscape s ++ htmlEscape t := by
  simp [htmlEscape]

theorem htmlEscByte_ne_nil (b : UInt8) : htmlEscByte b ≠ [] :=
  htmlEscByte_ind (fun _ e => e ≠ []) (by decide) (fun _ _ _ _ _ _ _ _ => List.cons_ne_nil _ _) b

theorem htmlEscape_eq_nil {s : Bytes} : htmlEscape s = [] ↔ s = [] := by
  cases s with
  | nil => simp [htmlEscape_nil]
  | cons b s => simp [htmlEscape_cons, htmlEscByte_ne_nil]

theorem htmlEscByte_inert (b : UInt8) : ∀ c ∈ htmlEscByte b, c ≠ 60 ∧ c ≠ 62 ∧ c ≠ 34 ∧ c ≠ 39 := by
  refine htmlEscByte_ind (fun _ e => ∀ c ∈ e, c ≠ 60 ∧ c ≠ 62 ∧ c ≠ 34 ∧ c ≠ 39) (by decide) ?_ b
  intro b _ h34 _ h39 _ h60 h62 c hc
  rw [List.mem_singleton.mp hc]
  exact ⟨h60, h62, h34, h39⟩

theorem htmlEscape_inert (s : Bytes) (c : UInt8) (hc : c ∈ htmlEscape s) :
    c ≠ 60 ∧ c ≠ 62 ∧ c ≠ 34 ∧ c ≠ 39 := by
  obtain ⟨b, _, hb⟩ := List.mem_flatMap.mp hc
  exact htmlEscByte_inert b c hb

/-- the six entities `htmlEscByte` can produce -/
def escEntities : List Bytes :=
  [[38, 35, 51, 52, 59], [38, 97, 109, 112, 59], [38, 35, 51, 57, 59],
   [38, 35, 52, 51, 59], [38, 108, 116, 59], [38, 103, 116, 59]]

theorem htmlEscByte_amp_tail (b : UInt8) : 38 ∉ (htmlEscByte b).tail :=
  htmlEscByte_ind (fun _ e => 38 ∉ e.tail) (by decide) (fun _ _ _ _ _ _ _ _ => List.not_mem_nil) b

theorem htmlEscByte_amp (b : UInt8) (h : (htmlEscByte b).head? = some 38) : htmlEscByte b ∈ escEntities :=
  htmlEscByte_ind (fun _ e => e.head? = some 38 → e ∈ escEntities) (by decide)
    (fun _ _ _ h38 _ _ _ _ h => absurd (Option.some.inj h) h38) b h

theorem htmlEscape_amp (s p r : Bytes) (h : htmlEscape s = p ++ 38 :: r) :
    ∃ e ∈ escEntities, e <+: 38 :: r := by
  obtain ⟨b, _, t, hb, hpre⟩ := flatMap_eq_append_cons htmlEscByte 38 htmlEscByte_amp_tail s p r h
  exact ⟨htmlEscByte b, htmlEscByte_amp b (by rw [hb]; rfl), hpre⟩

end Tab
