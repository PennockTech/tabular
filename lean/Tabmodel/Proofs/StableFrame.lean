/-
  Frame lemmas for C10 / C14: the user part of a property chain, and the readers of a world that
  see the same through `erase`.
-/
import Tabmodel.Proofs.StableDefs
import Tabmodel.Proofs.Chain
import Tabmodel.Proofs.Store
namespace Tab

namespace Chain

theorem get_set_some (c : Chain) (k : Key) (v : Val) (k' : Key) :
    (c.set k (some v)).get k' = if k = k' then some v else c.get k' := by
  by_cases h : k = k'
  · subst h; rw [if_pos rfl, get_set_same]
  · rw [if_neg h, get_set_ne c (some v) h]

theorem user_strip_priv (c : Chain) {k : Key} (hk : k.isPriv = true) : (c.strip k).user = c.user := by
  induction c with
  | nil => rfl
  | cons kv rest ih =>
    obtain ⟨k0, v0⟩ := kv
    unfold strip
    by_cases h0 : k0 = k
    · subst h0
      simp [user, hk]
    · simp only [h0, if_false]
      unfold user at ih ⊢
      simp only [List.filter_cons]
      rw [ih]

theorem user_set_priv (c : Chain) {k : Key} (hk : k.isPriv = true) (v : Val) :
    (c.set k (some v)).user = c.user := by
  unfold set
  show Chain.user ((k, v) :: c.strip k) = c.user
  have : Chain.user ((k, v) :: c.strip k) = (c.strip k).user := by
    simp [user, hk]
  rw [this, user_strip_priv c hk]

theorem get_user (c : Chain) {k : Key} (hk : k.isPriv = false) : c.user.get k = c.get k := by
  induction c with
  | nil => rfl
  | cons kv rest ih =>
    obtain ⟨k0, v0⟩ := kv
    unfold user at ih ⊢
    simp only [List.filter_cons]
    by_cases h0 : k0 = k
    · subst h0
      simp [hk, get]
    · cases hp : k0.isPriv
      · simp [get, h0, ih]
      · simp [get, h0, ih]

theorem user_user (c : Chain) : c.user.user = c.user := by
  unfold user; rw [List.filter_filter]; simp

end Chain

theorem userGet_user (c : Chain) : World.userGet c.user = World.userGet c := by
  funext k
  unfold World.userGet
  cases hk : k.isPriv
  · simp [Chain.get_user c hk]
  · simp

theorem getD_map_default_eq {α β : Type} (f : α → β) (l : List α) (i : Nat) (d : α) (d' : β) (hd : f d = d') :
    (l.map f).getD i d' = f (l.getD i d) := by
  simp only [List.getD_eq_getElem?_getD, List.getElem?_map]
  cases l[i]? with
  | none => simp [hd]
  | some a => simp

/-! ### reading through `erase` -/

@[simp] theorem Cell.erase_item (c : Cell) : c.erase.item = c.item := rfl
@[simp] theorem Cell.erase_str (c : Cell) : c.erase.str = c.str := rfl
@[simp] theorem Cell.erase_width (c : Cell) : c.erase.width = c.width := rfl
@[simp] theorem Cell.erase_height (c : Cell) : c.erase.height = c.height := rfl
@[simp] theorem Cell.erase_empty (c : Cell) : c.erase.empty = c.empty := rfl
@[simp] theorem Cell.erase_cbs (c : Cell) : c.erase.cbs = c.cbs := rfl
@[simp] theorem Cell.erase_columnNum (c : Cell) : c.erase.columnNum = c.columnNum := rfl
@[simp] theorem Cell.erase_inRow (c : Cell) : c.erase.inRow = c.inRow := rfl

namespace World

@[simp] theorem erase_table (w : World) (t : Nat) : w.erase.table t = w.table t := rfl
@[simp] theorem erase_item (w : World) (i : Nat) : w.erase.item i = w.item i := rfl
@[simp] theorem erase_column? (w : World) (t n : Nat) : w.erase.column? t n = w.column? t n := rfl

theorem erase_row (w : World) (r : Nat) : w.erase.row r = (w.row r).erase := by
  unfold row erase
  exact getD_map_default_eq Row.erase w.rows r {} {} rfl

theorem erase_rowCells (w : World) (r : Nat) : w.erase.rowCells r = (w.rowCells r).map Cell.erase := by
  unfold rowCells
  rw [erase_row]
  unfold Row.erase
  cases (w.row r).cells <;> rfl

theorem erase_cell? (w : World) (r c : Nat) : w.erase.cell? r c = (w.cell? r c).map Cell.erase := by
  unfold cell?
  rw [erase_rowCells, List.getElem?_map]

theorem of_erase_eq {α : Sort _} (f : World → α) (hf : ∀ w, f w.erase = f w) {w w0 : World}
    (h : w.erase = w0.erase) : f w = f w0 := by
  rw [← hf w, h, hf]

theorem rd_table (t : Nat) (w : World) : w.erase.table t = w.table t := rfl
theorem rd_rowSelf (r : Nat) (w : World) : (w.erase.row r).selfCbs = (w.row r).selfCbs := by rw [erase_row]; rfl
theorem rd_rowCell (r : Nat) (w : World) : (w.erase.row r).cellCbs = (w.row r).cellCbs := by rw [erase_row]; rfl
theorem rd_rowEc (r : Nat) (w : World) : (w.erase.row r).ec = (w.row r).ec := by rw [erase_row]; rfl
theorem rd_rowInTable (r : Nat) (w : World) : (w.erase.row r).inTable = (w.row r).inTable := by rw [erase_row]; rfl
theorem rd_rowCellsLen (r : Nat) (w : World) : (w.erase.rowCells r).length = (w.rowCells r).length := by
  rw [erase_rowCells, List.length_map]
theorem rd_cellCbs (r c : Nat) (w : World) :
    (w.erase.cell? r c).map (·.cbs) = (w.cell? r c).map (·.cbs) := by
  rw [erase_cell?]; cases w.cell? r c <;> rfl
theorem rd_rowECTaker (r : Nat) (w : World) : w.erase.rowECTaker r = w.rowECTaker r := by
  unfold rowECTaker; rw [rd_rowEc]

theorem rd_columnOf (r c : Nat) (w : World) : w.erase.columnOf r c = w.columnOf r c :=
  columnOf_congr r c (by rw [erase_cell?, Option.map_map]; rfl) (rd_rowInTable · w) (fun _ => rfl)

theorem rd_colCellCbs (tc : Option (Nat × Nat)) (tm : Time) (w : World) :
    w.erase.colCellCbs tc tm = w.colCellCbs tc tm := rfl

end World
end Tab
