/- A check of every callback list of the world need only visit the slots of `cbSlots` (those whose owner
   exists): every other slot is empty.  `uniqueInB` is such a check. -/
import Tabmodel.Proofs.C13World
namespace Tab
open World
namespace C13

theorem mem_cbTimes (tm : Time) : tm ∈ cbTimes := by cases tm <;> simp [cbTimes]

theorem mem_slots_table {w : World} {t : Nat} (h : t < w.tables.length) :
    CbSlot.tableSelf t ∈ w.cbSlots ∧ CbSlot.tableCell t ∈ w.cbSlots ∧ CbSlot.tableRow t ∈ w.cbSlots := by
  simp only [World.cbSlots, List.mem_append, List.mem_flatMap, List.mem_range, List.mem_cons]
  refine ⟨.inl (.inl ⟨t, h, .inl (.inl rfl)⟩), .inl (.inl ⟨t, h, .inl (.inr (.inl rfl))⟩),
    .inl (.inl ⟨t, h, .inl (.inr (.inr (.inl rfl)))⟩)⟩

theorem mem_slots_col {w : World} {t n : Nat} (h : t < w.tables.length) (hn : n < (w.table t).columns.length) :
    CbSlot.colSelf t n ∈ w.cbSlots ∧ CbSlot.colCell t n ∈ w.cbSlots := by
  simp only [World.cbSlots, List.mem_append, List.mem_flatMap, List.mem_range, List.mem_cons]
  exact ⟨.inl (.inl ⟨t, h, .inr ⟨n, hn, .inl rfl⟩⟩), .inl (.inl ⟨t, h, .inr ⟨n, hn, .inr (.inl rfl)⟩⟩)⟩

theorem mem_slots_row {w : World} {r : Nat} (h : r < w.rows.length) :
    CbSlot.rowSelf r ∈ w.cbSlots ∧ CbSlot.rowCell r ∈ w.cbSlots := by
  simp only [World.cbSlots, List.mem_append, List.mem_flatMap, List.mem_range, List.mem_cons]
  exact ⟨.inl (.inr ⟨r, h, .inl (.inl rfl)⟩), .inl (.inr ⟨r, h, .inl (.inr (.inl rfl))⟩)⟩

theorem mem_slots_cell {w : World} {r i : Nat} (h : r < w.rows.length) (hi : i < (w.rowCells r).length) :
    CbSlot.cellOwn r i ∈ w.cbSlots := by
  simp only [World.cbSlots, List.mem_append, List.mem_flatMap, List.mem_range, List.mem_cons, List.mem_map]
  exact .inl (.inr ⟨r, h, .inr ⟨i, hi, rfl⟩⟩)

theorem mem_slots_copy {w : World} {n : Nat} (h : n < w.copies.length) : CbSlot.copyOwn n ∈ w.cbSlots := by
  simp only [World.cbSlots, List.mem_append, List.mem_map, List.mem_range]
  exact .inr ⟨n, h, rfl⟩

theorem cbSet_of_not_mem_slots {w : World} {s : CbSlot} (h : s ∉ w.cbSlots) : w.cbSet s = {} := by
  cases s with
  | tableSelf t =>
    have : w.tables.length ≤ t := Nat.le_of_not_lt (fun hl => h (mem_slots_table hl).1)
    simp [World.cbSet, table_oob w t this]
  | tableCell t =>
    have : w.tables.length ≤ t := Nat.le_of_not_lt (fun hl => h (mem_slots_table hl).2.1)
    simp [World.cbSet, table_oob w t this]
  | tableRow t =>
    have : w.tables.length ≤ t := Nat.le_of_not_lt (fun hl => h (mem_slots_table hl).2.2)
    simp [World.cbSet, table_oob w t this]
  | colSelf t n =>
    simp only [World.cbSet, World.column?]
    by_cases ht : t < w.tables.length
    · have : (w.table t).columns.length ≤ n := Nat.le_of_not_lt (fun hn => h (mem_slots_col ht hn).1)
      simp [List.getElem?_eq_none this]
    · rw [table_oob w t (Nat.le_of_not_lt ht)]
      cases n <;> simp
  | colCell t n =>
    simp only [World.cbSet, World.column?]
    by_cases ht : t < w.tables.length
    · have : (w.table t).columns.length ≤ n := Nat.le_of_not_lt (fun hn => h (mem_slots_col ht hn).2)
      simp [List.getElem?_eq_none this]
    · rw [table_oob w t (Nat.le_of_not_lt ht)]
      cases n <;> simp
  | rowSelf r =>
    have : w.rows.length ≤ r := Nat.le_of_not_lt (fun hl => h (mem_slots_row hl).1)
    simp [World.cbSet, row_oob w r this]
  | rowCell r =>
    have : w.rows.length ≤ r := Nat.le_of_not_lt (fun hl => h (mem_slots_row hl).2)
    simp [World.cbSet, row_oob w r this]
  | cellOwn r i =>
    simp only [World.cbSet, World.cell?]
    by_cases hr : r < w.rows.length
    · have : (w.rowCells r).length ≤ i := Nat.le_of_not_lt (fun hi => h (mem_slots_cell hr hi))
      simp [List.getElem?_eq_none this]
    · simp [World.rowCells, row_oob w r (Nat.le_of_not_lt hr)]
  | copyOwn n =>
    have : w.copies.length ≤ n := Nat.le_of_not_lt (fun hl => h (mem_slots_copy hl))
    simp [World.cbSet, List.getElem?_eq_none this]

theorem cbsAt_of_not_mem_slots {w : World} {s : CbSlot} (h : s ∉ w.cbSlots) (tm : Time) : w.cbsAt s tm = [] := by
  simp only [World.cbsAt, cbSet_of_not_mem_slots h]
  cases tm <;> rfl

theorem cbsAt_check {w : World} (p : CbSlot → Time → List Cb → Bool) (hnil : ∀ s tm, p s tm [] = true)
    (h : w.cbSlots.all (fun s => cbTimes.all (fun tm => p s tm (w.cbsAt s tm))) = true) (s : CbSlot) (tm : Time) :
    p s tm (w.cbsAt s tm) = true := by
  by_cases hs : s ∈ w.cbSlots
  · exact List.all_eq_true.mp (List.all_eq_true.mp h s hs) tm (mem_cbTimes tm)
  · rw [cbsAt_of_not_mem_slots hs]; exact hnil s tm

theorem uniqueInB_sound {w : World} {id : Nat} {s : CbSlot} {tm : Time} (h : uniqueInB w id s tm = true) :
    UniqueIn w id s tm := by
  simp only [uniqueInB, Bool.and_eq_true, beq_iff_eq] at h
  refine ⟨h.1, fun s' tm' hm => ?_⟩
  have := cbsAt_check (fun s' tm' cbs => !(logIds cbs).contains id || (s' == s && tm' == tm)) (fun _ _ => rfl)
    h.2 s' tm'
  simpa [hm] using this

end C13
end Tab
