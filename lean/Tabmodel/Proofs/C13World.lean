/- Reading the stores after `modTable` / `modRow` / `modCell`: the fields a write does not touch, and an id in
   range read as `some`.  The read-after-write equations themselves are in `Proofs/Store.lean`. -/
import Tabmodel.Proofs.C13Spec
import Tabmodel.Proofs.Store
namespace Tab
open World
namespace C13

theorem table_of_lt {w : World} {t : Nat} (h : t < w.tables.length) : w.tables[t]? = some (w.table t) := by
  simp [table_eq, List.getElem?_eq_getElem h]
theorem row_of_lt {w : World} {r : Nat} (h : r < w.rows.length) : w.rows[r]? = some (w.row r) := by
  simp [row_eq, List.getElem?_eq_getElem h]

@[simp] theorem rows_modTable (w : World) (t : Nat) (f : Table → Table) : (w.modTable t f).rows = w.rows := rfl
@[simp] theorem row_modTable (w : World) (t : Nat) (f : Table → Table) (r : Nat) : (w.modTable t f).row r = w.row r := rfl
@[simp] theorem rowCells_modTable (w : World) (t : Nat) (f : Table → Table) (r : Nat) :
    (w.modTable t f).rowCells r = w.rowCells r := rfl
@[simp] theorem cell?_modTable (w : World) (t : Nat) (f : Table → Table) (r c : Nat) :
    (w.modTable t f).cell? r c = w.cell? r c := rfl
@[simp] theorem copies_modTable (w : World) (t : Nat) (f : Table → Table) : (w.modTable t f).copies = w.copies := rfl
@[simp] theorem events_modTable (w : World) (t : Nat) (f : Table → Table) : (w.modTable t f).events = w.events := rfl
@[simp] theorem items_modTable (w : World) (t : Nat) (f : Table → Table) : (w.modTable t f).items = w.items := rfl

@[simp] theorem tables_modRow (w : World) (r : Nat) (f : Row → Row) : (w.modRow r f).tables = w.tables := rfl
@[simp] theorem table_modRow (w : World) (r : Nat) (f : Row → Row) (t : Nat) : (w.modRow r f).table t = w.table t := rfl
@[simp] theorem column?_modRow (w : World) (r : Nat) (f : Row → Row) (t n : Nat) :
    (w.modRow r f).column? t n = w.column? t n := rfl
@[simp] theorem copies_modRow (w : World) (r : Nat) (f : Row → Row) : (w.modRow r f).copies = w.copies := rfl
@[simp] theorem events_modRow (w : World) (r : Nat) (f : Row → Row) : (w.modRow r f).events = w.events := rfl
@[simp] theorem items_modRow (w : World) (r : Nat) (f : Row → Row) : (w.modRow r f).items = w.items := rfl

@[simp] theorem table_modCell (w : World) (r c : Nat) (f : Cell → Cell) (t : Nat) : (w.modCell r c f).table t = w.table t := rfl
@[simp] theorem copies_modCell (w : World) (r c : Nat) (f : Cell → Cell) : (w.modCell r c f).copies = w.copies := rfl

end C13
end Tab
