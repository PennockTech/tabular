/- C13x helper lemmas: add-time callbacks for arbitrary callbacks. -/
import Tabmodel.Proofs.C13xRender
namespace Tab
open World C13
namespace C13x

theorem rowAddCell_eq (dw : Measure) (w : World) (r : Nat) (ce : Cell) (cs : List Cell)
    (hcs : (w.row r).cells = some cs) :
    rowAddCell dw w r ce =
      invoke dw (rowAddLinked w r ce cs) (((rowAddLinked w r ce cs).row r).cellCbs.at .add)
        (.cell r cs.length) (.rowLazy r) := by
  unfold rowAddCell
  rw [hcs]
  rfl

theorem rowAddCell_log (dw : Measure) {w : World} (h : LogOnlyAt w) (r : Nat) (ce : Cell) (cs : List Cell)
    (hcs : (w.row r).cells = some cs) :
    rowAddCell dw w r ce =
      (rowAddLinked w r ce cs).addEv (logEvents (w.cbsAt (.rowCell r) .add) (.cell r cs.length)) := by
  rw [rowAddCell_eq dw w r ce cs hcs, rowAddLinked_row_cbs]
  exact invoke_log dw _ _ _ _ (h (.rowCell r) .add)

theorem rowAddCell_any (dw : Measure) (w : World) (r : Nat) (ce : Cell) (cs : List Cell)
    (hcs : (w.row r).cells = some cs) :
    Traversal dw (rowAddLinked w r ce cs) (rowAddCell dw w r ce)
      (userEvents (w.cbsAt (.rowCell r) .add) (.cell r cs.length)) := by
  intro J hJ h0
  rw [rowAddCell_eq dw w r ce cs hcs]
  have := ext_invoke_slot dw hJ (.init h0) (.rowCell r) .add (cbs := ((rowAddLinked w r ce cs).row r).cellCbs.at .add)
    (fun _ => rfl) (.cell r cs.length) (.rowLazy r)
  refine Ext.cast this ?_
  simp only [List.nil_append, World.cbsAt, World.cbSet, rowAddLinked_row_cbs]

theorem addCellsExpectedAny_succ (w : World) (t r i n : Nat) :
    addCellsExpectedAny w t r i (n + 1) =
      userEvents (colCellAt w r i .add) (.cell r i) ++ userEvents (w.cbsAt (.tableCell t) .add) (.cell r i) ++
        addCellsExpectedAny w t r (i + 1) n := by
  simp [addCellsExpectedAny, List.range'_succ]

theorem addTimeCells_any (dw : Measure) {w0 : World} {J : World → List Event → Prop} (hJ : StepInv dw w0 J)
    (t r : Nat) (colTaker : World → Taker) : ∀ (n i : Nat) (w' : World) (es : List Event), Ext w0 J w' es →
      Ext w0 J (addTimeCells dw t r colTaker n i w') (es ++ addCellsExpectedAny w0 t r i n) := by
  intro n
  induction n with
  | zero => intro i w' es h; simpa [addTimeCells, addCellsExpectedAny] using h
  | succ n ih =>
    intro i w' es h
    rw [addCellsExpectedAny_succ]
    simp only [addTimeCells, ← List.append_assoc]
    apply ih
    refine ext_invoke_slot dw hJ ?_ (.tableCell t) .add (fun hs => same_cbsAt hs _ _) _ _
    exact ext_invoke_col dw hJ h r i .add (fun hs => same_colCellCbs hs hs r i .add) _ _

theorem addRow_eq (dw : Measure) (w : World) (t r : Nat) :
    addRow dw w t r =
      (let wl := addRowLinked w t r
       let w1 := invoke dw wl ((wl.row r).selfCbs.at .add) (.row r) (.table t)
       let w2 := invoke dw w1 ((w1.table t).rowCbs.at .add) (.row r) (.table t)
       addTimeCells dw t r (fun w => rowECTaker w r) (w2.rowCells r).length 0 w2) := rfl

theorem addRow_any (dw : Measure) (w : World) (t r : Nat) :
    Traversal dw (addRowLinked w t r) (addRow dw w t r) (expectedAddRowAny (addRowLinked w t r) t r) := by
  intro J hJ h0
  rw [addRow_eq]
  obtain ⟨wl, hwl⟩ : ∃ wl, wl = addRowLinked w t r := ⟨_, rfl⟩
  rw [← hwl] at hJ h0 ⊢
  extract_lets wl0 w1 w2
  have e1 : Ext wl J w1 ([] ++ userEvents (wl.cbsAt (.rowSelf r) .add) (.row r)) :=
    ext_invoke_slot dw hJ (.init h0) (.rowSelf r) .add (fun _ => rfl) _ _
  have e2 : Ext wl J w2 ([] ++ userEvents (wl.cbsAt (.rowSelf r) .add) (.row r) ++
      userEvents (wl.cbsAt (.tableRow t) .add) (.row r)) :=
    ext_invoke_slot dw hJ e1 (.tableRow t) .add (fun hs => same_cbsAt hs (.tableRow t) .add) _ _
  have e3 := addTimeCells_any dw hJ t r (fun w => rowECTaker w r) (w2.rowCells r).length 0 _ _ e2
  refine Ext.cast e3 ?_
  simp only [expectedAddRowAny, same_rowCells_length e2.same r, List.nil_append]

theorem expectedAddRowAny_wf {w : World} {t r : Nat} (ht : t < w.tables.length) (hr : r < w.rows.length)
    (hwf : RowAddWF w r) : expectedAddRowAny (addRowLinked w t r) t r = expectedAddRowAnyWF w t r := by
  unfold expectedAddRowAny expectedAddRowAnyWF addCellsExpectedAny
  simp only [World.cbsAt, cbSet_addRowLinked, addRowLinked_rowCells, ← List.range_eq_range']
  refine congrArg (_ ++ ·) (flatMap_congr' fun j hj => ?_)
  simp only [colCellAt, columnOf_addRowLinked ht hr hwf (List.mem_range.mp hj), World.cbsAt, cbSet_addRowLinked]

theorem addHeaders_any (dw : Measure) (w : World) (t : Nat) (items : List Nat) :
    Traversal dw (addHeadersLinked dw w t items) (addHeaders dw w t items) (expectedAddHeadersAny w t items) := by
  intro J hJ h0
  rw [addHeaders_pre]
  have hcb := cbSet_addHeadersLinked dw w t items
  have hcol := addHeadersLinked_columnOf dw w t items
  have hcells := addHeadersLinked_rowCells dw w t items
  obtain ⟨wl, hwl⟩ : ∃ wl, wl = addHeadersLinked dw w t items := ⟨_, rfl⟩
  rw [← hwl] at hJ h0 hcb hcol hcells ⊢
  extract_lets wl' hr w5
  have e1 : Ext wl J w5 ([] ++ userEvents (wl.cbsAt (.tableRow t) .add) (.row hr)) :=
    ext_invoke_slot dw hJ (.init h0) (.tableRow t) .add (fun _ => rfl) _ _
  have e2 := addTimeCells_any dw hJ t hr (fun _ => Taker.table t) (w5.rowCells hr).length 0 _ _ e1
  refine Ext.cast e2 ?_
  have h4 : ∀ j, colCellAt wl hr j .add = [] := by
    intro j; simp only [colCellAt]; rw [show hr = w.rows.length from rfl, hcol]
  have hlen : (w5.rowCells hr).length = items.length := by
    rw [same_rowCells_length e1.same hr, show hr = w.rows.length from rfl, hcells, addHeadersCells_length]
  simp only [hlen, expectedAddHeadersAny, addCellsExpectedAny, h4, userEvents_nil, List.nil_append, World.cbsAt,
    hcb, List.range_eq_range']
  rfl

/-! ### log-only worlds: the add-time operations leave the linked state with the documented events appended -/

theorem expectedAddRowAny_log {w : World} (h : LogOnlyAt w) (t r : Nat) :
    expectedAddRowAny w t r = expectedAddRow w t r := by
  simp only [expectedAddRowAny, expectedAddRow, addCellsExpectedAny, addCellsExpected, userEvents_cbsAt_log h,
    userEvents_colCellAt_log h]

theorem expectedAddHeadersAny_log {w : World} (h : LogOnlyAt w) (t : Nat) (items : List Nat) :
    expectedAddHeadersAny w t items = expectedAddHeaders w t items := by
  simp only [expectedAddHeadersAny, expectedAddHeaders, userEvents_cbsAt_log h]

theorem addRow_log (dw : Measure) {w : World} (h : LogOnlyAt w) (t r : Nat) :
    addRow dw w t r = (addRowLinked w t r).addEv (expectedAddRow (addRowLinked w t r) t r) :=
  have hl := logOnlyAt_of_cbSet h (cbSet_addRowLinked w t r)
  expectedAddRowAny_log hl t r ▸ (addRow_any dw w t r).log hl

theorem addHeaders_log (dw : Measure) {w : World} (h : LogOnlyAt w) (t : Nat) (items : List Nat) :
    addHeaders dw w t items = (addHeadersLinked dw w t items).addEv (expectedAddHeaders w t items) :=
  expectedAddHeadersAny_log h t items ▸
    (addHeaders_any dw w t items).log (logOnlyAt_of_cbSet h (cbSet_addHeadersLinked dw w t items))

end C13x
end Tab
