/-
  C12h: the primitive world updates (`modTable`, `modRow`, `modCell`, `modColumn`, the copies list, new tables
  and rows) seen through property chains, callback sets, copies and the event log — the four things `CSame` compares.
  Each update touches the chain of one owner at most: the lemmas take the owner read as a variable and ask
  for the update to preserve `props` only if it is the owner written.
-/
import Tabmodel.Proofs.C12hDefs
import Tabmodel.Proofs.C13xLive
import Tabmodel.Proofs.C13xAdd
import Tabmodel.Proofs.Store
namespace Tab
open World C13 C13x
namespace C12h

theorem cbsAll_of_cbs {P : Cb → Bool} {w w' : World} (h : CbsAll P w) (e : ∀ s, w'.cbSet s = w.cbSet s) :
    CbsAll P w' := by
  intro s tm
  simp only [World.cbsAt, e s]
  exact h s tm

theorem quiet_iff_cbsAll {k : Key} {w : World} : Quiet k w ↔ CbsAll (fun cb => !cb.writes k) w := by
  simp only [Quiet, CbsAll, Bool.not_eq_true']

theorem getProp_of_chain {w' w : World} {o : Target} (h : w'.chainOf o = w.chainOf o) (k : Key) :
    w'.getProp o k = w.getProp o k := by
  rw [getProp_eq_get, getProp_eq_get, h]

theorem allNodup_csame {w' w : World} (e : CSame w' w) (h : AllNodup w) : AllNodup w' := by
  intro o; rw [e.chain]; exact h o

theorem _root_.Tab.CSame.refl (w : World) : CSame w w := ⟨fun _ => rfl, fun _ => rfl, rfl, rfl⟩
theorem _root_.Tab.CSame.trans {a b c : World} (h1 : CSame a b) (h2 : CSame b c) : CSame a c :=
  ⟨fun o => (h1.chain o).trans (h2.chain o), fun s => (h1.cbs s).trans (h2.cbs s), h1.ncopies.trans h2.ncopies,
   h1.events.trans h2.events⟩

theorem _root_.Tab.CSame.keeps {w' w : World} (h : CSame w' w) (k : Key) : Keeps k w w' :=
  ⟨fun _ o => getProp_of_chain (h.chain o) k, h.cbs, h.ncopies, allNodup_csame h⟩

theorem _root_.Tab.Keeps.quiet {k : Key} {w w' : World} (h : Keeps k w w') (hq : Quiet k w) : Quiet k w' :=
  quiet_iff_cbsAll.mpr (cbsAll_of_cbs (quiet_iff_cbsAll.mp hq) h.cbs)

theorem _root_.Tab.Keeps.refl (k : Key) (w : World) : Keeps k w w := ⟨fun _ _ => rfl, fun _ => rfl, rfl, id⟩
theorem _root_.Tab.Keeps.trans {k : Key} {a b c : World} (h1 : Keeps k a b) (h2 : Keeps k b c) : Keeps k a c :=
  ⟨fun hq o => (h2.val (h1.quiet hq) o).trans (h1.val hq o), fun s => (h2.cbs s).trans (h1.cbs s),
   h2.ncopies.trans h1.ncopies, fun h => h2.nodup (h1.nodup h)⟩

theorem csame_modTable_fields (w : World) (t : Nat) (f : Table → Table)
    (h0 : ∀ tb, (f tb).props = tb.props) (hc : ∀ tb, (f tb).columns = tb.columns)
    (h1 : ∀ tb, (f tb).selfCbs = tb.selfCbs) (h2 : ∀ tb, (f tb).cellCbs = tb.cellCbs)
    (h3 : ∀ tb, (f tb).rowCbs = tb.rowCbs) : CSame (w.modTable t f) w :=
  ⟨fun o => chainOf_modTable_of w t f o (fun _ => h0) (fun n _ tb => by rw [hc]),
   cbSet_modTable_of w t f h1 h2 h3 (by intro tb n; rw [hc]) (by intro tb n; rw [hc]), rfl, rfl⟩

theorem csame_modRow_fields (w : World) (r : Nat) (f : Row → Row)
    (h0 : ∀ rw, (f rw).props = rw.props) (hc : ∀ rw, (f rw).cells = rw.cells)
    (h1 : ∀ rw, (f rw).selfCbs = rw.selfCbs) (h2 : ∀ rw, (f rw).cellCbs = rw.cellCbs) :
    CSame (w.modRow r f) w :=
  ⟨fun o => chainOf_modRow_of w r f o (fun _ => h0) hc, cbSet_modRow_of w r f h1 h2 hc, rfl, rfl⟩

theorem csame_modCell_fields (w : World) (r c : Nat) (f : Cell → Cell)
    (h0 : ∀ ce, (f ce).props = ce.props) (h1 : ∀ ce, (f ce).cbs = ce.cbs) : CSame (w.modCell r c f) w :=
  ⟨fun o => chainOf_modCell_of w r c f o (fun _ => h0), cbSet_modCell_of w r c f h1, rfl, rfl⟩

theorem resize_props (tb : Table) (n : Nat) : (resizeColumnsAtLeast tb n).props = tb.props := by
  unfold resizeColumnsAtLeast; split <;> rfl

theorem resize_col_props (tb : Table) (m n : Nat) :
    ((((resizeColumnsAtLeast tb m).columns)[n]?).map Column.props).getD [] =
      ((tb.columns[n]?).map Column.props).getD [] := by
  unfold resizeColumnsAtLeast
  split
  · rfl
  · by_cases h : n < tb.columns.length
    · simp only [List.getElem?_append_left h]
    · have h' : tb.columns.length ≤ n := Nat.le_of_not_lt h
      rw [List.getElem?_append_right h', List.getElem?_eq_none h', List.getElem?_replicate]
      split <;> rfl

theorem csame_resize (w : World) (t m : Nat) : CSame (w.modTable t (fun tb => resizeColumnsAtLeast tb m)) w :=
  ⟨fun o => chainOf_modTable_of w t _ o (fun _ tb => resize_props tb m) (fun n _ tb => resize_col_props tb m n),
   cbSet_resize w t m, rfl, rfl⟩

theorem chainOf_events (w : World) (es : List Event) (o : Target) :
    ({ w with events := es } : World).chainOf o = w.chainOf o := by cases o <;> rfl

theorem csame_items (w : World) (its : List Item) : CSame ({ w with items := its } : World) w :=
  ⟨fun o => by cases o <;> rfl, fun s => by cases s <;> rfl, rfl, rfl⟩

theorem csame_addErrTo (w : World) (tk : Taker) (e : Nat) : CSame (w.addErrTo tk e) w := by
  unfold World.addErrTo
  cases tk with
  | drop => exact CSame.refl w
  | table t =>
    exact csame_modTable_fields w t _ (fun _ => rfl) (fun _ => rfl) (fun _ => rfl) (fun _ => rfl) (fun _ => rfl)
  | rowOwn r =>
    refine csame_modRow_fields w r _ ?_ ?_ ?_ ?_ <;> (intro rw; split <;> rfl)
  | rowLazy r =>
    dsimp only
    split
    · exact csame_modRow_fields w r _ (fun _ => rfl) (fun _ => rfl) (fun _ => rfl) (fun _ => rfl)
    · exact csame_modRow_fields w r _ (fun _ => rfl) (fun _ => rfl) (fun _ => rfl) (fun _ => rfl)
    · exact csame_modTable_fields w _ _ (fun _ => rfl) (fun _ => rfl) (fun _ => rfl) (fun _ => rfl) (fun _ => rfl)

theorem csame_newTable (w : World) : CSame w.newTable.1 w := by
  have ht : ∀ t, (w.newTable.1).table t = w.table t := World.table_newTable w
  refine ⟨fun o => ?_, fun s => ?_, rfl, rfl⟩
  · cases o <;> simp only [World.chainOf, World.column?, ht] <;> rfl
  · cases s <;> simp only [World.cbSet, World.column?, ht] <;> rfl

/-- a fresh row with no properties, no callbacks and no cells: it reads like the default row that stood for the
    missing one -/
theorem csame_newRow (w : World) (rw : Row) (h0 : rw.props = []) (h1 : rw.selfCbs = {}) (h2 : rw.cellCbs = {})
    (h3 : rw.cells.getD [] = []) : CSame (w.newRow rw).1 w := by
  have hg : ∀ {β : Type} (g : Row → β), g rw = g {} → ∀ r, g ((w.newRow rw).1.row r) = g (w.row r) := by
    intro β g e r
    by_cases h : r = w.rows.length
    · subst h; rw [World.row_newRow_self, World.row_oob _ _ (Nat.le_refl _), e]
    · rw [World.row_newRow_ne w rw r h]
  have hcells : ∀ r, ((w.newRow rw).1).rowCells r = w.rowCells r := hg (fun rw => rw.cells.getD []) h3
  refine ⟨fun o => ?_, fun s => ?_, rfl, rfl⟩
  · cases o <;> simp only [World.chainOf, World.cell?, hcells]
    case row r => exact hg (·.props) h0 r
    all_goals rfl
  · cases s <;> simp only [World.cbSet, World.cell?, hcells]
    case rowSelf r => exact hg (·.selfCbs) h1 r
    case rowCell r => exact hg (·.cellCbs) h2 r
    all_goals rfl

end C12h
end Tab
