/- C08 helpers, part 1: byte-level facts about `mdEscape` and the spec-side readers. -/
import Tabmodel.Spec.Markdown
import Tabmodel.Proofs.Length
import Tabmodel.Proofs.Literals
import Tabmodel.Proofs.Lists
namespace Tab
attribute [local instance] lawfulBEq_uint8

/-! ### `mdEscByte` is a lookup in `mdEntities` -/

theorem mdEscByte_entity : ∀ p ∈ mdEntities, mdEscByte p.2 = p.1 := by decide +kernel

theorem mdEscByte_other (b : UInt8) (h1 : b ≠ 38) (h2 : b ≠ 39) (h3 : b ≠ 60) (h4 : b ≠ 62)
    (h5 : b ≠ 34) (h6 : b ≠ 124) (h7 : b ≠ 10) : mdEscByte b = [b] := by
  simp [mdEscByte, h1, h2, h3, h4, h5, h6, h7]

theorem mdEscByte_spec (b : UInt8) :
    (mdEscByte b, b) ∈ mdEntities ∨
    (b ≠ 38 ∧ b ≠ 39 ∧ b ≠ 60 ∧ b ≠ 62 ∧ b ≠ 34 ∧ b ≠ 124 ∧ b ≠ 10 ∧ mdEscByte b = [b]) := by
  by_cases h : b ∈ mdEntities.map Prod.snd
  · obtain ⟨p, hp, rfl⟩ := List.mem_map.1 h
    left; rw [mdEscByte_entity p hp]; exact hp
  · right
    simp only [mdEntities, List.map_cons, List.map_nil, List.mem_cons, List.not_mem_nil, or_false,
      not_or] at h
    obtain ⟨h1, h2, h3, h4, h5, h6, h7⟩ := h
    exact ⟨h1, h2, h3, h4, h5, h6, h7, mdEscByte_other b h1 h2 h3 h4 h5 h6 h7⟩

theorem mdEscByte_ind (P : UInt8 → Bytes → Prop) (hent : ∀ p ∈ mdEntities, P p.2 p.1)
    (hoth : ∀ b : UInt8, b ≠ 38 → b ≠ 39 → b ≠ 60 → b ≠ 62 → b ≠ 34 → b ≠ 124 → b ≠ 10 → P b [b])
    (b : UInt8) : P b (mdEscByte b) := by
  rcases mdEscByte_spec b with h | ⟨h1, h2, h3, h4, h5, h6, h7, h⟩
  · exact hent _ h
  · rw [h]; exact hoth b h1 h2 h3 h4 h5 h6 h7

@[simp] theorem mdEscape_nil : mdEscape [] = [] := rfl
@[simp] theorem mdEscape_cons (b : UInt8) (s : Bytes) : mdEscape (b :: s) = mdEscByte b ++ mdEscape s := by
  simp [mdEscape]
theorem mdEscape_append (s t : Bytes) : mdEscape (s ++ t) = mdEscape s ++ mdEscape t := by
  simp [mdEscape]

theorem mdEscByte_inert (b : UInt8) :
    ∀ x ∈ mdEscByte b, x ≠ 124 ∧ x ≠ 10 ∧ x ≠ 60 ∧ x ≠ 62 ∧ x ≠ 34 ∧ x ≠ 39 := by
  refine mdEscByte_ind (fun _ e => ∀ x ∈ e, x ≠ 124 ∧ x ≠ 10 ∧ x ≠ 60 ∧ x ≠ 62 ∧ x ≠ 34 ∧ x ≠ 39) ?_ ?_ b
  · decide +kernel
  · intro b _ h2 h3 h4 h5 h6 h7 x hx
    rw [List.mem_singleton.1 hx]
    exact ⟨h6, h7, h3, h4, h5, h2⟩

theorem mdEscByte_ne_nil (b : UInt8) : mdEscByte b ≠ [] := by
  refine mdEscByte_ind (fun _ e => e ≠ []) ?_ ?_ b
  · decide
  · intros; simp

theorem mdEscByte_sp : mdEscByte 32 = [32] := by decide

theorem mdEscByte_nonsp (b : UInt8) (hb : b ≠ 32) :
    (mdEscByte b).head? ≠ some 32 ∧ trimR (mdEscByte b) = mdEscByte b := by
  refine mdEscByte_ind (fun b e => b ≠ 32 → e.head? ≠ some 32 ∧ trimR e = e) ?_ ?_ b hb
  · decide
  · intro b _ _ _ _ _ _ _ hb
    simp [trimR, hb]

theorem mdDecode_escByte (b : UInt8) : ∀ r, mdDecode (mdEscByte b ++ r) = b :: mdDecode r := by
  refine mdEscByte_ind (fun b e => ∀ r, mdDecode (e ++ r) = b :: mdDecode r) ?_ ?_ b
  · -- each of the seven entries is decoded by evaluation, the rest `r` staying a variable
    intro p hp r
    simp only [mdEntities, List.mem_cons, List.not_mem_nil, or_false] at hp
    rcases hp with rfl | rfl | rfl | rfl | rfl | rfl | rfl <;> rfl
  · intro b h1 _ _ _ _ _ _ r
    have : entityAt mdEntities (b :: r) = none := by
      simp [entityAt, mdEntities, List.isPrefixOf, Ne.symm h1]
    simp [mdDecode, mdDecodeFrom, this]

theorem mdDecode_mdEscape (s : Bytes) : mdDecode (mdEscape s) = s := by
  induction s with
  | nil => rfl
  | cons b s ih => rw [mdEscape_cons, mdDecode_escByte, ih]

theorem mdEscape_inert (s : Bytes) :
    ∀ x ∈ mdEscape s, x ≠ 124 ∧ x ≠ 10 ∧ x ≠ 60 ∧ x ≠ 62 ∧ x ≠ 34 ∧ x ≠ 39 := by
  intro x hx
  simp only [mdEscape, List.mem_flatMap] at hx
  obtain ⟨b, _, hb⟩ := hx
  exact mdEscByte_inert b x hb

theorem mdEscape_eq_nil {s : Bytes} : mdEscape s = [] ↔ s = [] := by
  cases s with
  | nil => simp
  | cons b s => simp [mdEscByte_ne_nil]

/-! ### trimming -/

@[simp] theorem trimL_nil : trimL [] = [] := rfl
@[simp] theorem trimR_nil : trimR [] = [] := rfl

theorem trimL_spaces_append (n : Nat) (x : Bytes) : trimL (spaces n ++ x) = trimL x := by
  induction n with
  | zero => rfl
  | succ n ih =>
    show trimL (32 :: (spaces n ++ x)) = _
    rw [trimL, if_pos rfl]; exact ih

theorem trimL_of_head {e : Bytes} (hne : e ≠ []) (hh : e.head? ≠ some 32) (x : Bytes) :
    trimL (e ++ x) = e ++ x := by
  cases e with
  | nil => exact absurd rfl hne
  | cons h t =>
    have : h ≠ 32 := by simpa using hh
    simp [trimL, this]

theorem trimR_append (x y : Bytes) :
    trimR (x ++ y) = if trimR y = [] then trimR x else x ++ trimR y := by
  induction x with
  | nil => by_cases h : trimR y = [] <;> simp [h]
  | cons b x ih =>
    simp only [List.cons_append, trimR, ih]
    by_cases h : trimR y = []
    · simp [h]
    · simp [h]

theorem trimR_spaces (n : Nat) : trimR (spaces n) = [] := by
  induction n with
  | zero => rfl
  | succ n ih =>
    show trimR (32 :: spaces n) = _
    rw [trimR, ih, if_pos ⟨rfl, rfl⟩]

theorem trimR_append_spaces (x : Bytes) (n : Nat) : trimR (x ++ spaces n) = trimR x := by
  rw [trimR_append, trimR_spaces]; simp

theorem trimSp_spaces_append (n : Nat) (x : Bytes) : trimSp (spaces n ++ x) = trimSp x := by
  unfold trimSp
  rw [trimR_append]
  by_cases h : trimR x = []
  · simp [h, trimR_spaces]
  · simp [h, trimL_spaces_append]

theorem trimSp_append_spaces (x : Bytes) (n : Nat) : trimSp (x ++ spaces n) = trimSp x := by
  unfold trimSp; rw [trimR_append_spaces]

theorem trimL_mdEscape (s : Bytes) : trimL (mdEscape s) = mdEscape (trimL s) := by
  induction s with
  | nil => rfl
  | cons b s ih =>
    by_cases hb : b = 32
    · subst hb
      rw [mdEscape_cons, mdEscByte_sp]
      simp [trimL, ih]
    · rw [mdEscape_cons, trimL_of_head (mdEscByte_ne_nil b) (mdEscByte_nonsp b hb).1]
      simp [trimL, hb]

theorem trimR_mdEscape (s : Bytes) : trimR (mdEscape s) = mdEscape (trimR s) := by
  induction s with
  | nil => rfl
  | cons b s ih =>
    rw [mdEscape_cons, trimR_append, ih]
    by_cases hb : b = 32
    · subst hb
      by_cases h : trimR s = []
      · simp [h, trimR, mdEscByte_sp]
      · simp [h, trimR, mdEscape_eq_nil]
    · by_cases h : trimR s = []
      · simp [h, trimR, hb, (mdEscByte_nonsp b hb).2]
      · simp [h, trimR, hb, mdEscape_eq_nil]

theorem trimSp_mdEscape (s : Bytes) : trimSp (mdEscape s) = mdEscape (trimSp s) := by
  unfold trimSp; rw [trimR_mdEscape, trimL_mdEscape]

theorem mdEscByte_amp_tail (b : UInt8) : 38 ∉ (mdEscByte b).tail :=
  mdEscByte_ind (fun _ e => 38 ∉ e.tail) (by decide +kernel) (fun _ _ _ _ _ _ _ _ => List.not_mem_nil) b

theorem mdEscape_amp (s : Bytes) : ∀ pre post, mdEscape s = pre ++ 38 :: post →
    ∃ p ∈ mdEntities, p.1 <+: (38 :: post) := by
  intro pre post h
  obtain ⟨b, _, t, hb, hpre⟩ := flatMap_eq_append_cons mdEscByte 38 mdEscByte_amp_tail s pre post h
  -- an escaped byte that starts with `&` is a table entry
  rcases mdEscByte_spec b with hent | ⟨h1, _, _, _, _, _, _, hk⟩
  · exact ⟨_, hent, hpre⟩
  · rw [hk] at hb
    exact absurd (List.cons.inj hb).1 h1

/-! ### pipes -/

/-- "the last byte read is a backslash" after reading `s` from state `p` -/
def bsAfter (p : Bool) (s : Bytes) : Bool :=
  match s.getLast? with
  | none => p
  | some b => b == 92

theorem bsAfter_nil (p : Bool) : bsAfter p [] = p := rfl
theorem bsAfter_cons (p : Bool) (b : UInt8) (s : Bytes) : bsAfter p (b :: s) = bsAfter (b == 92) s := by
  cases s with
  | nil => rfl
  | cons c s =>
    cases h : (c :: s).getLast? with
    | none => simp at h
    | some x => simp [bsAfter, List.getLast?_cons_cons, h]

theorem splitPipesFrom_piece (s rest : Bytes) : ∀ p, 124 ∉ s → bsAfter p s = false →
    splitPipesFrom p (s ++ 124 :: rest) = s :: splitPipesFrom false rest := by
  induction s with
  | nil => intro p _ hp; rw [bsAfter_nil] at hp; subst hp; simp [splitPipesFrom]
  | cons b s ih =>
    intro p hmem hbs
    rw [bsAfter_cons] at hbs
    have hb : b ≠ 124 := fun h => hmem (by simp [h])
    have hs : 124 ∉ s := fun h => hmem (by simp [h])
    simp [splitPipesFrom, hb, ih _ hs hbs]

theorem length_splitPipesFrom (s : Bytes) :
    ∀ p, (splitPipesFrom p s).length = unescapedPipesFrom p s + 1 := by
  induction s with
  | nil => intro p; rfl
  | cons b s ih =>
    intro p
    rw [splitPipesFrom, unescapedPipesFrom]
    split
    · next h =>
      have : (b == 92) = false := by rw [h.1]; rfl
      rw [List.length_cons, ih, this]; omega
    · rw [List.length_cons, List.length_tail, ih]; omega

/-- a piece that may stand between two structural pipes -/
def GoodPiece (s : Bytes) : Prop := 124 ∉ s ∧ 10 ∉ s ∧ s.getLast? ≠ some 92

theorem GoodPiece.bsAfter {s : Bytes} (h : GoodPiece s) : bsAfter false s = false := by
  unfold Tab.bsAfter
  cases hl : s.getLast? with
  | none => rfl
  | some b =>
    have := h.2.2; rw [hl] at this
    simp at this; simpa using this

theorem splitPipesFrom_pieces (bs : List Bytes) (h : ∀ b ∈ bs, GoodPiece b) :
    splitPipesFrom false (bs.flatMap (· ++ [124])) = bs ++ [[]] := by
  induction bs with
  | nil => simp [splitPipesFrom]
  | cons b bs ih =>
    have hb := h b (by simp)
    simp only [List.flatMap_cons, List.append_assoc, List.cons_append]
    rw [splitPipesFrom_piece _ _ _ hb.1 hb.bsAfter]
    simp only [List.nil_append]
    rw [ih (fun c hc => h c (by simp [hc]))]

theorem count_pipe_pieces (bs : List Bytes) (h : ∀ b ∈ bs, GoodPiece b) :
    (bs.flatMap (· ++ [124])).count 124 = bs.length := by
  induction bs with
  | nil => simp
  | cons b bs ih =>
    have hb := h b (by simp)
    simp only [List.flatMap_cons, List.count_append, List.length_cons]
    rw [ih (fun c hc => h c (by simp [hc])), List.count_eq_zero_of_not_mem hb.1]
    simp; omega

theorem not_mem_lf_pieces (bs : List Bytes) (h : ∀ b ∈ bs, GoodPiece b) :
    LF ∉ (124 :: bs.flatMap (· ++ [124])) := by
  intro hm
  simp only [List.mem_cons, List.mem_flatMap, List.mem_append] at hm
  rcases hm with hm | ⟨b, hb, hm | hm⟩
  · exact absurd hm (by decide)
  · exact (h b hb).2.1 hm
  · exact absurd hm (by decide)

/-- the form of every line the renderer writes -/
def pipeLine (bs : List Bytes) : Bytes := 124 :: bs.flatMap (· ++ [124])

theorem splitPipes_pipeLine (bs : List Bytes) (h : ∀ b ∈ bs, GoodPiece b) :
    splitPipes (pipeLine bs) = [] :: (bs ++ [[]]) := by
  simp [splitPipes, pipeLine, splitPipesFrom, splitPipesFrom_pieces bs h]

theorem unescapedPipes_pipeLine (bs : List Bytes) (h : ∀ b ∈ bs, GoodPiece b) :
    unescapedPipes (pipeLine bs) = bs.length + 1 := by
  have := length_splitPipesFrom (pipeLine bs) false
  rw [← splitPipes, ← unescapedPipes, splitPipes_pipeLine bs h] at this
  simp only [List.length_cons, List.length_append, List.length_nil] at this
  omega

theorem count_pipeLine (bs : List Bytes) (h : ∀ b ∈ bs, GoodPiece b) :
    (pipeLine bs).count 124 = bs.length + 1 := by
  simp [pipeLine, count_pipe_pieces bs h]

theorem splitPipes_pipeLine_get (bs : List Bytes) (h : ∀ b ∈ bs, GoodPiece b) (i : Nat) (hi : i < bs.length) :
    (splitPipes (pipeLine bs))[i + 1]? = bs[i]? := by
  rw [splitPipes_pipeLine bs h]
  simp [List.getElem?_append_left hi]

end Tab
