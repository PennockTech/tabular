/-
  C11, history level — spec definitions (lemmas are in `Proofs/C11hCount.lean`, `C11hGood`,
  `C11hSteps`, `C11hAttach`, `C11hLedger` and, for the static sums, `C11hSame`, `C11hSums`;
  theorems in `Props/C11h.lean`).

  * `raisedBy dw w op e`: how many times error id `e` is *raised* when `op` is applied in `w`.
    It is computed by re-running the operation with a counter (`…K` functions): every
    `invoke` call adds the number of callbacks of the list it is given that return `e` on the
    target (`raiseCount`, which looks only at the callbacks and the target), a misuse of a
    separator / zero row adds one `errNonCellRow`, a direct `addErr` through a live taker adds
    one.  No error container is ever inspected.  The first components of the `…K` functions are
    the model's functions (`applyOpK_fst`).
  * `Src`, `BuildOp.dest`, `ownerOf`, the ledger of a history and `charged`: who an
    operation's errors are raised on, and whose list reports them.
  * `HdrSafe`: the one thing `Valid` does not exclude and the Go API does (the header row is
    not reachable by callers): attaching a row that was created by `AddHeaders`.
  * `HInv`: the invariant of valid histories that makes every taker live.
-/
import Tabmodel.Proofs.C11
import Tabmodel.Spec.World
namespace Tab
namespace World

/-! ### counting what an operation raises -/

/-- a world and a counter -/
abbrev Cnt := World × Nat

/-- `invoke`, counting the callbacks of the list that return `e` on `tgt` -/
def invokeK (dw : Measure) (e : Nat) (c : Cnt) (cbs : World → List Cb) (tgt : Target)
    (tk : World → Taker) : Cnt :=
  (invoke dw c.1 (cbs c.1) tgt (tk c.1), c.2 + raiseCount tgt e (cbs c.1))

/-- `rowAddCell` (`Row.Add`): one `errNonCellRow` on a row without a cell slice, otherwise the
    row's add-time cell callbacks on the new cell -/
def rowAddCellK (dw : Measure) (e : Nat) (c : Cnt) (r : Nat) (ce : Cell) : Cnt :=
  match (c.1.row r).cells with
  | none => (addErrTo c.1 (.rowLazy r) errNonCellRow, c.2 + if errNonCellRow = e then 1 else 0)
  | some cs =>
    invokeK dw e (rowAddCellPre c.1 r ce cs, c.2) (fun w => (w.row r).cellCbs.at .add)
      (.cell r cs.length) (fun _ => .rowLazy r)

def rowAddManyK (dw : Measure) (e : Nat) (r : Nat) : List Nat → Cnt → Cnt
  | [], c => c
  | i :: is, c => rowAddManyK dw e r is (rowAddCellK dw e c r (newCell dw i (c.1.item i)))

def addTimeCellsK (dw : Measure) (e : Nat) (t r : Nat) (tkf : World → Taker) : Nat → Nat → Cnt → Cnt
  | 0, _, c => c
  | n + 1, i, c =>
    let c := invokeK dw e c (fun w => colCellCbs w (columnOf w r i) .add) (.cell r i) tkf
    let c := invokeK dw e c (fun w => (w.table t).cellCbs.at .add) (.cell r i) tkf
    addTimeCellsK dw e t r tkf n (i + 1) c

/-- `addRow`: the structural part (`addRowCore`, which raises nothing) and then the add-time
    callbacks of the row, of the table for rows, of the columns and of the table for cells -/
def addRowK (dw : Measure) (e : Nat) (c : Cnt) (t r : Nat) : Cnt :=
  let c : Cnt := (addRowCore c.1 t r, c.2)
  let c := invokeK dw e c (fun w => (w.row r).selfCbs.at .add) (.row r) (fun _ => .table t)
  let c := invokeK dw e c (fun w => (w.table t).rowCbs.at .add) (.row r) (fun _ => .table t)
  addTimeCellsK dw e t r (fun w => rowECTaker w r) (c.1.rowCells r).length 0 c

def addHeadersK (dw : Measure) (e : Nat) (c : Cnt) (t : Nat) (items : List Nat) : Cnt :=
  let w := c.1.modTable t (fun tb => resizeColumnsAtLeast tb items.length)
  let hr := w.rows.length
  let w := (w.newRow { ec := .table t }).1
  let c := rowAddManyK dw e hr items (w, c.2)
  let c : Cnt := (c.1.modTable t (fun tb => { tb with header := some hr }), c.2)
  let c := invokeK dw e c (fun w => (w.table t).rowCbs.at .add) (.row hr) (fun _ => .table t)
  addTimeCellsK dw e t hr (fun _ => .table t) (c.1.rowCells hr).length 0 c

def renderCellK (dw : Measure) (e : Nat) (t r i : Nat) (c : Cnt) : Cnt :=
  (cellCalls t r i (columnOf c.1 r i)).foldl (fun c d => invokeK dw e c d.1 (.cell r i) d.2) c

def renderCellsK (dw : Measure) (e : Nat) (t r : Nat) : Nat → Nat → Cnt → Cnt
  | 0, _, c => c
  | n + 1, i, c => renderCellsK dw e t r n (i + 1) (renderCellK dw e t r i c)

def renderRowK (dw : Measure) (e : Nat) (t : Nat) (c : Cnt) (r : Nat) : Cnt :=
  let c := invokeK dw e c (fun w => (w.row r).selfCbs.at .pre) (.row r) (fun _ => .table t)
  let c := renderCellsK dw e t r (c.1.rowCells r).length 0 c
  invokeK dw e c (fun w => (w.row r).selfCbs.at .post) (.row r) (fun _ => .table t)

def renderColumnsK (dw : Measure) (e : Nat) (t : Nat) (tm : Time) : Nat → Nat → Cnt → Cnt
  | 0, _, c => c
  | n + 1, i, c =>
    let c := invokeK dw e c (fun w => ((w.column? t i).map (·.selfCbs.at tm)).getD [])
      (.column t i) (fun _ => .table t)
    renderColumnsK dw e t tm n (i + 1) c

def renderHeaderK (dw : Measure) (e : Nat) (t : Nat) (c : Cnt) : Cnt :=
  match (c.1.table t).header with
  | some hr => renderRowK dw e t c hr
  | none => c

def renderK (dw : Measure) (e : Nat) (c : Cnt) (t : Nat) : Cnt :=
  let c := invokeK dw e c (fun w => (w.table t).selfCbs.at .pre) (.table t) (fun _ => .table t)
  let ncol := (c.1.table t).columns.length
  let c := renderColumnsK dw e t .pre ncol 0 c
  let c := renderHeaderK dw e t c
  let c := (c.1.table t).rows.foldl (renderRowK dw e t) c
  let c := renderColumnsK dw e t .post ncol 0 c
  invokeK dw e c (fun w => (w.table t).selfCbs.at .post) (.table t) (fun _ => .table t)

end World
open World

/-- one operation, counting the raises of `e` -/
def applyOpK (dw : Measure) (e : Nat) (c : Cnt) : BuildOp → Cnt
  | .addHeaders t items => addHeadersK dw e c t items
  | .addRowItems t items =>
    addRowK dw e (rowAddManyK dw e c.1.rows.length items ((c.1.newRow {}).1, c.2)) t c.1.rows.length
  | .appendNewRow t => addRowK dw e ((c.1.newRow {}).1, c.2) t c.1.rows.length
  | .rowAdd r i => rowAddCellK dw e c r (newCell dw i (c.1.item i))
  | .rowAddCell r ce => rowAddCellK dw e c r ce
  | .addRow t r => addRowK dw e c t r
  | .addErr tk e' => (addErrTo c.1 tk e', c.2 + if live c.1 tk ∧ e' = e then 1 else 0)
  | .render t => renderK dw e c t
  | op => (applyOp dw c.1 op, c.2)

/-- how many times error id `e` is raised by applying `op` in world `w` -/
def raisedBy (dw : Measure) (w : World) (op : BuildOp) (e : Nat) : Nat := (applyOpK dw e (w, 0) op).2

/-- … summed over a history started in `w` -/
def raisedFrom (dw : Measure) (e : Nat) (w : World) : List BuildOp → Nat
  | [] => 0
  | op :: ops => raisedBy dw w op e + raisedFrom dw e (applyOp dw w op) ops

/-! ### sources, owners, the ledger -/

/-- an object errors are raised on / reported by -/
inductive Src
  | table (t : Nat)
  | row (r : Nat)
  deriving DecidableEq, Repr

/-- the object whose error list reports what is raised on `s`: a table reports its own, a row
    that shares a table's container is reported by that table, any other row by itself -/
def World.ownerOf (w : World) : Src → Src
  | .table t => .table t
  | .row r => match (w.row r).ec with
    | .table t => .table t
    | _ => .row r

/-- occurrences of `e` in the list held for `s` -/
def World.cnt (w : World) (e : Nat) : Src → Nat
  | .table t => (w.table t).errs.count e
  | .row r => ownCount e (w.row r)

/-- the object the errors of an operation are raised on (`none`: the operation raises nothing,
    or, for `addErr .drop`, there is no object) -/
def BuildOp.dest : BuildOp → Option Src
  | .addErr (.table t) _ => some (.table t)
  | .addErr (.rowOwn r) _ => some (.row r)
  | .addErr (.rowLazy r) _ => some (.row r)
  | .rowAdd r _ => some (.row r)
  | .rowAddCell r _ => some (.row r)
  | .addRow t _ => some (.table t)
  | .addHeaders t _ => some (.table t)
  | .addRowItems t _ => some (.table t)
  | .appendNewRow t => some (.table t)
  | .addSeparator t => some (.table t)
  | .render t => some (.table t)
  | _ => none

/-- the ledger of a history: per operation, where its errors are raised and how many `e` -/
def ledgerFrom (dw : Measure) (e : Nat) (w : World) : List BuildOp → List (Option Src × Nat)
  | [] => []
  | op :: ops => (op.dest, raisedBy dw w op e) :: ledgerFrom dw e (applyOp dw w op) ops

/-- the ledger entries whose source is, in world `w`, reported by `g` -/
def World.charged (w : World) (g : Src) (L : List (Option Src × Nat)) : Nat :=
  ((L.filter (fun p => p.1.map w.ownerOf == some g)).map (·.2)).sum

/-! ### validity beyond `Valid`: rows made by `AddHeaders` are never attached -/

def BuildOp.hdrStep (n : Nat) (hs : List Nat) : BuildOp → List Nat
  | .addHeaders _ _ => n :: hs
  | _ => hs

def BuildOp.hdrOk (hs : List Nat) : BuildOp → Bool
  | .addRow _ r => !hs.contains r
  | _ => true

/-- `n`: rows in the store so far; `hs`: ids of rows created by `addHeaders` so far -/
def hdrSafeFrom (n : Nat) (hs : List Nat) : List BuildOp → Bool
  | [] => true
  | op :: ops => op.hdrOk hs && hdrSafeFrom (n + op.newRows) (op.hdrStep n hs) ops

def HdrSafe (ops : List BuildOp) : Bool := hdrSafeFrom 0 [] ops

/-- header-row ids created by a history started with `n` rows and `hs` -/
def hdrIdsFrom (n : Nat) (hs : List Nat) : List BuildOp → List Nat
  | [] => hs
  | op :: ops => hdrIdsFrom (n + op.newRows) (op.hdrStep n hs) ops

/-! ### the invariant of valid histories -/

/-- structural invariant of C02; every existing table has all its rows and its header row
    sharing its container; and a row shares a table's container only if the table exists and
    the row is in its list or was created by `AddHeaders` (so every other row is `unattached`:
    it has no container or its own) -/
structure HInv (hs : List Nat) (w : World) : Prop where
  inv : Inv w
  att : ∀ t, t < w.tables.length → attachedAll w t
  ect : ∀ r t, (w.row r).ec = .table t → t < w.tables.length ∧ (r ∈ (w.table t).rows ∨ r ∈ hs)

end Tab
