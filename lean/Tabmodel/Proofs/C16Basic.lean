/-
  C16, the vocabulary of state-locality.  A step is called on table `t`, on rows in `P`, holding items in `I`.

  `Inv t P I w`       : the rows in `P` exist, refer only to table `t` (`inTable`, `ec`), their cells point back to
                        their own row and hold items in `I`; the footprint of `t` (header + rows) lies in `P`.
  `Frame t P w w'`    : `w'` differs from `w` at most on table `t`, on rows in `P`, and by rows appended to the
                        store (writes are local).
  `Sim ρ t P I w w₂`  : the `t`-component of `w₂` is the `ρ`-renaming of the `t`-component of `w`: row `r` of `w`
                        is row `ρ r` of `w₂`, and the row ids stored in the table and in the cells' back pointers
                        are renamed accordingly (what a step on `t` may read, up to the names of rows).
                        `Agree t P I` is the case `ρ = id`.
  `Both ρ t P I f f₂` : under `Inv`, `f` is framed, keeps `Inv` and the size of the row store, and the pair
                        `(f, f₂)` maps similar worlds to similar worlds.
-/
import Tabmodel.Proofs.Store
import Tabmodel.Model.Render
namespace Tab
namespace C16
open World

/-! ### footprint and ownership predicates -/

def FootT (tb : Table) (r : Nat) : Prop := tb.header = some r ∨ r ∈ tb.rows

/-- a row's error container is nil, its own, or table `t`'s -/
def ecOK (t : Nat) : ECRef → Prop
  | .table t' => t' = t
  | _ => True

instance (t : Nat) (e : ECRef) : Decidable (ecOK t e) := by
  cases e <;> unfold ecOK <;> infer_instance

def CellOK (r : Nat) (I : Nat → Prop) (ce : Cell) : Prop :=
  (ce.inRow = none ∨ ce.inRow = some r) ∧ I ce.item

structure RowOK (t r : Nat) (I : Nat → Prop) (rw : Row) : Prop where
  inT : rw.inTable = none ∨ rw.inTable = some t
  ec : ecOK t rw.ec
  cells : ∀ ce ∈ rw.cells.getD [], CellOK r I ce

structure Inv (t : Nat) (P I : Nat → Prop) (w : World) : Prop where
  inrange : ∀ r, P r → r < w.rows.length
  rowok : ∀ r, P r → RowOK t r I (w.row r)
  foot : ∀ r, FootT (w.table t) r → P r

structure Frame (t : Nat) (P : Nat → Prop) (w w' : World) : Prop where
  tlen : w'.tables.length = w.tables.length
  tabs : ∀ t', t' ≠ t → w'.tables[t']? = w.tables[t']?
  rlen : w.rows.length ≤ w'.rows.length
  rows : ∀ r, ¬ P r → r < w.rows.length → w'.rows[r]? = w.rows[r]?
  items : w'.items = w.items

structure Agree (t : Nat) (P I : Nat → Prop) (w w₂ : World) : Prop where
  tab : w.tables[t]? = w₂.tables[t]?
  rows : ∀ r, P r → w.rows[r]? = w₂.rows[r]?
  items : ∀ i, I i → w.item i = w₂.item i

def TakerOK (t : Nat) (P : Nat → Prop) : Taker → Prop
  | .drop => True
  | .table t' => t' = t
  | .rowOwn r => P r
  | .rowLazy r => P r

/-- a property owner belonging to table `t` / rows `P` (`copy`: a by-value cell held by the caller) -/
def TgtOK (t : Nat) (P : Nat → Prop) : Target → Prop
  | .table t' => t' = t
  | .column t' _ => t' = t
  | .row r => P r
  | .cell r _ => P r
  | .copy _ => True

/-! ### renaming of row ids -/

def renCell (ρ : Nat → Nat) (ce : Cell) : Cell := { ce with inRow := ce.inRow.map ρ }
def renRow (ρ : Nat → Nat) (rw : Row) : Row := { rw with cells := rw.cells.map (List.map (renCell ρ)) }
def renTable (ρ : Nat → Nat) (tb : Table) : Table :=
  { tb with header := tb.header.map ρ, rows := tb.rows.map ρ }

def renTaker (ρ : Nat → Nat) : Taker → Taker
  | .rowOwn r => .rowOwn (ρ r)
  | .rowLazy r => .rowLazy (ρ r)
  | .drop => .drop
  | .table t => .table t

def renTarget (ρ : Nat → Nat) : Target → Target
  | .row r => .row (ρ r)
  | .cell r c => .cell (ρ r) c
  | .table t => .table t
  | .column t n => .column t n
  | .copy n => .copy n

structure Sim (ρ : Nat → Nat) (t : Nat) (P I : Nat → Prop) (w w₂ : World) : Prop where
  tab : w₂.tables[t]? = (w.tables[t]?).map (renTable ρ)
  rows : ∀ r, P r → w₂.rows[ρ r]? = (w.rows[r]?).map (renRow ρ)
  items : ∀ i, I i → w.item i = w₂.item i
  inj : ∀ r r', P r → P r' → ρ r = ρ r' → r = r'

theorem table_def (w : World) (t : Nat) : w.table t = (w.tables[t]?).getD {} := by
  simp [table, List.getD_eq_getElem?_getD]

theorem row_def (w : World) (r : Nat) : w.row r = (w.rows[r]?).getD {} := by
  simp [row, List.getD_eq_getElem?_getD]

theorem Frame.refl (t : Nat) (P : Nat → Prop) (w : World) : Frame t P w w :=
  ⟨rfl, fun _ _ => rfl, Nat.le_refl _, fun _ _ _ => rfl, rfl⟩

theorem Frame.trans {t : Nat} {P : Nat → Prop} {w w' w'' : World}
    (h₁ : Frame t P w w') (h₂ : Frame t P w' w'') : Frame t P w w'' where
  tlen := h₂.tlen.trans h₁.tlen
  tabs := fun t' ht => (h₂.tabs t' ht).trans (h₁.tabs t' ht)
  rlen := Nat.le_trans h₁.rlen h₂.rlen
  rows := fun r hr hl => (h₂.rows r hr (Nat.lt_of_lt_of_le hl h₁.rlen)).trans (h₁.rows r hr hl)
  items := h₂.items.trans h₁.items

theorem Frame.mono {t : Nat} {P P' : Nat → Prop} {w w' : World}
    (h : Frame t P w w') (hp : ∀ r, r < w.rows.length → P r → P' r) : Frame t P' w w' where
  tlen := h.tlen
  tabs := h.tabs
  rlen := h.rlen
  rows := fun r hr hl => h.rows r (fun hP => hr (hp r hl hP)) hl
  items := h.items

theorem Frame.table {t : Nat} {P : Nat → Prop} {w w' : World} (h : Frame t P w w')
    {t' : Nat} (ht : t' ≠ t) : w'.table t' = w.table t' := by
  rw [table_def, table_def, h.tabs t' ht]

theorem Frame.row {t : Nat} {P : Nat → Prop} {w w' : World} (h : Frame t P w w')
    {r : Nat} (hr : ¬ P r) (hl : r < w.rows.length) : w'.row r = w.row r := by
  rw [row_def, row_def, h.rows r hr hl]

theorem Agree.refl (t : Nat) (P I : Nat → Prop) (w : World) : Agree t P I w w :=
  ⟨rfl, fun _ _ => rfl, fun _ _ => rfl⟩

theorem Agree.symm {t : Nat} {P I : Nat → Prop} {w w₂ : World} (h : Agree t P I w w₂) :
    Agree t P I w₂ w :=
  ⟨h.tab.symm, fun r hr => (h.rows r hr).symm, fun i hi => (h.items i hi).symm⟩

theorem Agree.trans {t : Nat} {P I : Nat → Prop} {w w₂ w₃ : World}
    (h : Agree t P I w w₂) (h' : Agree t P I w₂ w₃) : Agree t P I w w₃ :=
  ⟨h.tab.trans h'.tab, fun r hr => (h.rows r hr).trans (h'.rows r hr),
   fun i hi => (h.items i hi).trans (h'.items i hi)⟩

theorem Agree.mono {t : Nat} {P P' I : Nat → Prop} {w w₂ : World} (h : Agree t P I w w₂)
    (e : ∀ r, P' r → P r) : Agree t P' I w w₂ :=
  ⟨h.tab, fun r hr => h.rows r (e r hr), h.items⟩

theorem Inv.congr {t : Nat} {P P' I : Nat → Prop} {w : World} (h : Inv t P I w) (e : ∀ r, P' r ↔ P r) :
    Inv t P' I w :=
  ⟨fun r hr => h.inrange r ((e r).1 hr), fun r hr => h.rowok r ((e r).1 hr), fun r hr => (e r).2 (h.foot r hr)⟩

theorem Inv.of_agree {t : Nat} {P I : Nat → Prop} {w w₂ : World} (h : Inv t P I w) (ha : Agree t P I w w₂) :
    Inv t P I w₂ where
  inrange r hr := by
    have e := ha.rows r hr
    rw [List.getElem?_eq_getElem (h.inrange r hr)] at e
    exact (List.getElem?_eq_some_iff.1 e.symm).1
  rowok r hr := by rw [row_def, ← ha.rows r hr, ← row_def]; exact h.rowok r hr
  foot r hr := h.foot r (by rw [table_def, ha.tab, ← table_def]; exact hr)

/-- a read that steps on `t` may perform: determined by the agreed part, and satisfying `Q` under `Inv` -/
structure Rd {α : Type} (t : Nat) (P I : Nat → Prop) (r : World → α) (Q : α → Prop) : Prop where
  q : ∀ w, Inv t P I w → Q (r w)
  ag : ∀ w w₂, Inv t P I w → Agree t P I w w₂ → r w = r w₂

theorem Rd.weaken {α : Type} {t : Nat} {P I : Nat → Prop} {r : World → α} {Q Q' : α → Prop}
    (hr : Rd t P I r Q) (hq : ∀ a, Q a → Q' a) : Rd t P I r Q' :=
  ⟨fun w h => hq _ (hr.q w h), hr.ag⟩

theorem Rd.const {α : Type} (t : Nat) (P I : Nat → Prop) (a : α) : Rd t P I (fun _ => a) (fun x => x = a) :=
  ⟨fun _ _ => rfl, fun _ _ _ _ => rfl⟩

variable {ρ : Nat → Nat} {t : Nat} {P I : Nat → Prop}

theorem Sim.table {w w₂ : World} (h : Sim ρ t P I w w₂) : w₂.table t = renTable ρ (w.table t) := by
  rw [table_def, table_def, h.tab]
  cases w.tables[t]? <;> rfl

theorem Sim.row {w w₂ : World} (h : Sim ρ t P I w w₂) {r : Nat} (hr : P r) :
    w₂.row (ρ r) = renRow ρ (w.row r) := by
  rw [row_def, row_def, h.rows r hr]
  cases w.rows[r]? <;> rfl

theorem Sim.mono {P' : Nat → Prop} {w w₂ : World} (h : Sim ρ t P I w w₂) (e : ∀ r, P' r → P r) :
    Sim ρ t P' I w w₂ :=
  ⟨h.tab, fun r hr => h.rows r (e r hr), h.items, fun r r' hr hr' => h.inj r r' (e r hr) (e r' hr')⟩

theorem Sim.of_agree_left {w w' w₂ : World} (ha : Agree t P I w' w) (h : Sim ρ t P I w w₂) :
    Sim ρ t P I w' w₂ :=
  ⟨by rw [ha.tab]; exact h.tab, fun r hr => by rw [ha.rows r hr]; exact h.rows r hr,
   fun i hi => (ha.items i hi).trans (h.items i hi), h.inj⟩

theorem Sim.inrange {w w₂ : World} (hi : Inv t P I w) (h : Sim ρ t P I w w₂) {r : Nat} (hr : P r) :
    ρ r < w₂.rows.length := by
  have h1 := h.rows r hr
  rw [List.getElem?_eq_getElem (hi.inrange r hr)] at h1
  exact (List.getElem?_eq_some_iff.1 h1).1

/-! ### the identity renaming: `Sim` is `Agree` -/

theorem renCell_id (ce : Cell) : renCell (fun r => r) ce = ce := by
  cases ce; simp [renCell]

theorem renRow_id (rw : Row) : renRow (fun r => r) rw = rw := by
  have : renCell (fun r => r) = id := funext renCell_id
  cases rw; simp [renRow, this]

theorem renTable_id (tb : Table) : renTable (fun r => r) tb = tb := by
  cases tb; simp [renTable]

theorem renTarget_id (o : Target) : renTarget (fun r => r) o = o := by cases o <;> rfl

theorem sim_id_iff {w w₂ : World} : Sim (fun r => r) t P I w w₂ ↔ Agree t P I w w₂ := by
  have e1 : ∀ o : Option Table, o.map (renTable (fun r => r)) = o := fun o => by
    rw [funext renTable_id, Option.map_id']
  have e2 : ∀ o : Option Row, o.map (renRow (fun r => r)) = o := fun o => by
    rw [funext renRow_id, Option.map_id']
  constructor
  · intro h
    exact ⟨(h.tab.trans (e1 _)).symm, fun r hr => ((h.rows r hr).trans (e2 _)).symm, h.items⟩
  · intro h
    exact ⟨h.tab.symm.trans (e1 _).symm, fun r hr => (h.rows r hr).symm.trans (e2 _).symm, h.items,
      fun _ _ _ _ e => e⟩

/-! ### combinators -/

def seq (f g : World → World) : World → World := fun w => g (f w)

def rd {α : Type} (r : World → α) (g : α → World → World) : World → World := fun w => g (r w) w

structure Keeps (t : Nat) (P I : Nat → Prop) (w w' : World) : Prop where
  frame : Frame t P w w'
  inv : Inv t P I w'
  len : w'.rows.length = w.rows.length

structure Both (ρ : Nat → Nat) (t : Nat) (P I : Nat → Prop) (f f₂ : World → World) : Prop where
  keeps : ∀ w, Inv t P I w → Keeps t P I w (f w)
  sim : ∀ w w₂, Inv t P I w → Sim ρ t P I w w₂ → Sim ρ t P I (f w) (f₂ w₂)

/-- a read that steps on `t` may perform: under `Inv` its value satisfies `Q`, and on similar worlds the renamed
    read `r₂` returns the `φ`-renaming of what `r` returns -/
structure Reads (ρ : Nat → Nat) (t : Nat) (P I : Nat → Prop) {α α₂ : Type} (r : World → α) (r₂ : World → α₂)
    (φ : α → α₂) (Q : α → Prop) : Prop where
  q : ∀ w, Inv t P I w → Q (r w)
  rel : ∀ w w₂, Inv t P I w → Sim ρ t P I w w₂ → r₂ w₂ = φ (r w)

theorem Both.id' (ρ : Nat → Nat) (t : Nat) (P I : Nat → Prop) : Both ρ t P I (fun w => w) (fun w => w) :=
  ⟨fun w h => ⟨Frame.refl t P w, h, rfl⟩, fun _ _ _ h => h⟩

theorem Both.seq {f g f₂ g₂ : World → World} (hf : Both ρ t P I f f₂) (hg : Both ρ t P I g g₂) :
    Both ρ t P I (seq f g) (seq f₂ g₂) where
  keeps w h :=
    have h1 := hf.keeps w h
    have h2 := hg.keeps (f w) h1.inv
    ⟨h1.frame.trans h2.frame, h2.inv, h2.len.trans h1.len⟩
  sim w w₂ hi hs := hg.sim (f w) (f₂ w₂) (hf.keeps w hi).inv (hf.sim w w₂ hi hs)

theorem Both.rd {α α₂ : Type} {r : World → α} {r₂ : World → α₂} {φ : α → α₂} {Q : α → Prop}
    {g : α → World → World} {g₂ : α₂ → World → World} (hr : Reads ρ t P I r r₂ φ Q)
    (hg : ∀ a, Q a → Both ρ t P I (g a) (g₂ (φ a))) : Both ρ t P I (rd r g) (rd r₂ g₂) where
  keeps w h := (hg (r w) (hr.q w h)).keeps w h
  sim w w₂ hi hs := by
    show Sim ρ t P I (g (r w) w) (g₂ (r₂ w₂) w₂)
    rw [hr.rel w w₂ hi hs]
    exact (hg (r w) (hr.q w hi)).sim w w₂ hi hs

theorem Both.foldl {β β₂ : Type} (h : World → β → World) (h₂ : World → β₂ → World) (φ : β → β₂)
    (xs : List β) (hh : ∀ x ∈ xs, Both ρ t P I (fun w => h w x) (fun w => h₂ w (φ x))) :
    Both ρ t P I (fun w => xs.foldl h w) (fun w => (xs.map φ).foldl h₂ w) := by
  induction xs with
  | nil => exact Both.id' ρ t P I
  | cons x xs ih =>
    exact Both.seq (hh x (by simp)) (ih (fun y hy => hh y (by simp [hy])))

theorem Reads.map {α α₂ β β₂ : Type} {r : World → α} {r₂ : World → α₂} {φ : α → α₂} {Q : α → Prop}
    (hr : Reads ρ t P I r r₂ φ Q) (f : α → β) (f₂ : α₂ → β₂) (ψ : β → β₂) (Q' : β → Prop)
    (hc : ∀ a, f₂ (φ a) = ψ (f a)) (hq : ∀ a, Q a → Q' (f a)) :
    Reads ρ t P I (fun w => f (r w)) (fun w => f₂ (r₂ w)) ψ Q' :=
  ⟨fun w h => hq _ (hr.q w h), fun w w₂ h hs => by rw [hr.rel w w₂ h hs, hc]⟩

/-! ### primitive reads -/

theorem reads_row {r : Nat} (hr : P r) :
    Reads ρ t P I (fun w => w.row r) (fun w => w.row (ρ r)) (renRow ρ) (RowOK t r I) :=
  ⟨fun _ h => h.rowok r hr, fun _ _ _ hs => hs.row hr⟩

theorem reads_table (ρ : Nat → Nat) (t : Nat) (P I : Nat → Prop) :
    Reads ρ t P I (fun w => w.table t) (fun w => w.table t) (renTable ρ) (fun tb => ∀ r, FootT tb r → P r) :=
  ⟨fun _ h => h.foot, fun _ _ _ hs => hs.table⟩

theorem reads_item {i : Nat} (hi : I i) :
    Reads ρ t P I (fun w => w.item i) (fun w => w.item i) (fun it => it) (fun _ => True) :=
  ⟨fun _ _ => trivial, fun _ _ _ hs => (hs.items i hi).symm⟩

theorem reads_rowf {α : Type} {r : Nat} (hr : P r) (f : Row → α) (hf : ∀ rw, f (renRow ρ rw) = f rw) :
    Reads ρ t P I (fun w => f (w.row r)) (fun w => f (w.row (ρ r))) (fun a => a) (fun _ => True) :=
  (reads_row hr).map f f _ _ hf (fun _ _ => trivial)

theorem reads_tablef {α : Type} (f : Table → α) (hf : ∀ tb, f (renTable ρ tb) = f tb) :
    Reads ρ t P I (fun w => f (w.table t)) (fun w => f (w.table t)) (fun a => a) (fun _ => True) :=
  (reads_table ρ t P I).map f f _ _ hf (fun _ _ => trivial)

/-! ### primitive updates -/

@[simp] theorem modTable_rows (w : World) (t : Nat) (g : Table → Table) : (w.modTable t g).rows = w.rows := rfl
@[simp] theorem modTable_items (w : World) (t : Nat) (g : Table → Table) : (w.modTable t g).items = w.items := rfl
@[simp] theorem modTable_tables (w : World) (t : Nat) (g : Table → Table) :
    (w.modTable t g).tables = w.tables.modify t g := rfl
@[simp] theorem modRow_tables (w : World) (r : Nat) (g : Row → Row) : (w.modRow r g).tables = w.tables := rfl
@[simp] theorem modRow_items (w : World) (r : Nat) (g : Row → Row) : (w.modRow r g).items = w.items := rfl
@[simp] theorem modRow_rows (w : World) (r : Nat) (g : Row → Row) :
    (w.modRow r g).rows = w.rows.modify r g := rfl
theorem modRow_table (w : World) (r : Nat) (g : Row → Row) (t : Nat) : (w.modRow r g).table t = w.table t := rfl
theorem modTable_row (w : World) (t : Nat) (g : Table → Table) (r : Nat) : (w.modTable t g).row r = w.row r := rfl
theorem modTable_item (w : World) (t : Nat) (g : Table → Table) (i : Nat) : (w.modTable t g).item i = w.item i := rfl
theorem modRow_item (w : World) (r : Nat) (g : Row → Row) (i : Nat) : (w.modRow r g).item i = w.item i := rfl

theorem both_modTable (g g₂ : Table → Table) (hg : ∀ tb r, FootT (g tb) r → FootT tb r ∨ P r)
    (hren : ∀ tb, g₂ (renTable ρ tb) = renTable ρ (g tb)) :
    Both ρ t P I (fun w => w.modTable t g) (fun w => w.modTable t g₂) where
  keeps w h := by
    refine ⟨⟨by simp, fun t' ht => by simp [List.getElem?_modify_ne g w.tables (Ne.symm ht)], Nat.le_refl _,
      fun _ _ _ => rfl, rfl⟩, ⟨h.inrange, h.rowok, fun r hr => ?_⟩, rfl⟩
    rw [table_modTable] at hr
    split at hr
    · exact (hg _ _ hr).elim (h.foot r) id
    · exact h.foot r hr
  sim w w₂ _ hs := by
    refine ⟨?_, hs.rows, hs.items, hs.inj⟩
    show (w₂.tables.modify t g₂)[t]? = ((w.tables.modify t g)[t]?).map (renTable ρ)
    rw [List.getElem?_modify_eq, List.getElem?_modify_eq, hs.tab]
    simp only [Option.map_eq_map, Option.map_map]
    exact Option.map_congr (fun tb _ => hren tb)

theorem both_modRow {r : Nat} (hr : P r) (g g₂ : Row → Row)
    (hg : ∀ rw, RowOK t r I rw → RowOK t r I (g rw))
    (hren : ∀ rw, g₂ (renRow ρ rw) = renRow ρ (g rw)) :
    Both ρ t P I (fun w => w.modRow r g) (fun w => w.modRow (ρ r) g₂) where
  keeps w h := by
    refine ⟨⟨rfl, fun _ _ => rfl, by simp, fun r' hr' _ => ?_, rfl⟩,
      ⟨fun r' hr' => by simpa using h.inrange r' hr', fun r' hr' => ?_, h.foot⟩, by simp⟩
    · exact List.getElem?_modify_ne g w.rows (fun e => hr' (e ▸ hr))
    · rw [row_modRow]
      split
      next e =>
        obtain ⟨rfl, _⟩ := e
        exact hg _ (h.rowok r hr)
      next => exact h.rowok r' hr'
  sim w w₂ _ hs := by
    refine ⟨hs.tab, fun r' hr' => ?_, hs.items, hs.inj⟩
    show (w₂.rows.modify (ρ r) g₂)[ρ r']? = ((w.rows.modify r g)[r']?).map (renRow ρ)
    by_cases e : r = r'
    · subst e
      rw [List.getElem?_modify_eq, List.getElem?_modify_eq, hs.rows r hr]
      simp only [Option.map_eq_map, Option.map_map]
      exact Option.map_congr (fun rw _ => hren rw)
    · rw [List.getElem?_modify_ne g₂ _ (fun h => e (hs.inj r r' hr hr' h)), List.getElem?_modify_ne g _ e]
      exact hs.rows r' hr'

/-- updates that touch neither tables, rows nor items (event log, caller-held cell copies) -/
theorem both_other (f f₂ : World → World)
    (hf : ∀ w, (f w).tables = w.tables ∧ (f w).rows = w.rows ∧ (f w).items = w.items)
    (hf₂ : ∀ w, (f₂ w).tables = w.tables ∧ (f₂ w).rows = w.rows ∧ (f₂ w).items = w.items) :
    Both ρ t P I f f₂ where
  keeps w h := by
    obtain ⟨h1, h2, h3⟩ := hf w
    exact ⟨⟨by rw [h1], fun _ _ => by rw [h1], by rw [h2]; exact Nat.le_refl _, fun _ _ _ => by rw [h2], h3⟩,
      h.of_agree ⟨by rw [h1], fun _ _ => by rw [h2], fun _ _ => by rw [item, item, h3]⟩, by rw [h2]⟩
  sim w w₂ _ hs := by
    obtain ⟨h1, h2, h3⟩ := hf w
    obtain ⟨g1, g2, g3⟩ := hf₂ w₂
    refine ⟨by rw [h1, g1]; exact hs.tab, fun r hr => by rw [h2, g2]; exact hs.rows r hr, fun i hi => ?_, hs.inj⟩
    have e1 : (f w).item i = w.item i := by simp [item, h3]
    have e2 : (f₂ w₂).item i = w₂.item i := by simp [item, g3]
    rw [e1, e2]; exact hs.items i hi

theorem rowOK_modCell {r : Nat} (c : Nat) (f : Cell → Cell)
    (hf : ∀ ce, (f ce).inRow = ce.inRow ∧ (f ce).item = ce.item) (rw : Row) (h : RowOK t r I rw) :
    RowOK t r I { rw with cells := rw.cells.map (fun cs => cs.modify c f) } := by
  refine ⟨h.inT, h.ec, fun ce hce => ?_⟩
  cases hc : rw.cells with
  | none => simp [hc] at hce
  | some cs =>
    simp only [hc, Option.map_some, Option.getD_some] at hce
    have hcs : ∀ ce ∈ cs, CellOK r I ce := by
      intro ce h'; apply h.cells; simp [hc, h']
    rcases mem_modify f cs c ce hce with h1 | ⟨b, hb, rfl⟩
    · exact hcs ce h1
    · have := hcs b hb
      unfold CellOK at *
      rw [(hf b).1, (hf b).2]; exact this

theorem both_modCell {r : Nat} (hr : P r) (c : Nat) (f : Cell → Cell)
    (hf : ∀ ce, (f ce).inRow = ce.inRow ∧ (f ce).item = ce.item)
    (hfr : ∀ ce, renCell ρ (f ce) = f (renCell ρ ce)) :
    Both ρ t P I (fun w => w.modCell r c f) (fun w => w.modCell (ρ r) c f) := by
  refine both_modRow hr _ _ (rowOK_modCell c f hf) (fun rw => ?_)
  unfold renRow
  cases rw.cells with
  | none => rfl
  | some cs =>
    simp only [Option.map_some]
    rw [map_modify_comm (renCell ρ) f f hfr]

theorem both_modColumn (n : Nat) (f : Column → Column) :
    Both ρ t P I (fun w => w.modColumn t n f) (fun w => w.modColumn t n f) :=
  both_modTable _ _ (fun _ _ h => .inl h) (fun _ => rfl)

end C16
end Tab
