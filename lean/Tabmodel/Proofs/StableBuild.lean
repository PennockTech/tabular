/-
  Content building commutes with wrapping: `X.Wrap` only appends to the table's cell/render
  callback list, which no add-time code path reads.  So a table made by `X.New()` and then
  filled is the core-made, equally filled table with the wrap applied afterwards.
  Each lemma pulls the wrap `Wr cb t` out of one operation: `op (Wr cb t w) = Wr cb t (op w)`.
-/
import Tabmodel.Proofs.StableWrap
namespace Tab
namespace World

theorem modify_comm {α : Type} (l : List α) (i j : Nat) (f g : α → α) (h : i = j → ∀ a, f (g a) = g (f a)) :
    (l.modify j g).modify i f = (l.modify i f).modify j g := by
  apply List.ext_getElem?
  intro n
  simp only [List.getElem?_modify]
  cases l[n]? with
  | none => rfl
  | some a =>
    by_cases hi : i = n <;> by_cases hj : j = n <;> simp [hi, hj]
    subst hi; subst hj
    exact h rfl a

section
variable (cb : Cb) (t : Nat)

theorem Wr_modTable (w : World) (t' : Nat) (f : Table → Table)
    (h : t' = t → ∀ tb, f (wrapG cb tb) = wrapG cb (f tb)) :
    (Wr cb t w).modTable t' f = Wr cb t (w.modTable t' f) := by
  unfold Wr modTable
  simp only
  rw [modify_comm w.tables t' t f (wrapG cb) h]

theorem pull_modRow (w : World) (r : Nat) (f : Row → Row) : (Wr cb t w).modRow r f = Wr cb t (w.modRow r f) := rfl
theorem Wr_modCell (w : World) (r c : Nat) (f : Cell → Cell) : Wr cb t (w.modCell r c f) = (Wr cb t w).modCell r c f := rfl
theorem Wr_events (w : World) (e : List Event) : Wr cb t { w with events := e } = { Wr cb t w with events := e } := rfl

theorem Wr_modColumn (w : World) (t' n : Nat) (f : Column → Column) :
    (Wr cb t w).modColumn t' n f = Wr cb t (w.modColumn t' n f) :=
  Wr_modTable cb t w t' _ (fun _ _ => rfl)

theorem Wr_setProp (w : World) (o : Target) (k : Key) (v : Option Val) :
    (Wr cb t w).setProp o k v = Wr cb t (w.setProp o k v) := by
  cases o with
  | table t' => exact Wr_modTable cb t w t' _ (fun _ _ => rfl)
  | column t' n => exact Wr_modColumn cb t w t' n _
  | row r => rfl
  | cell r c => rfl
  | copy n => rfl

theorem Wr_addErrTo (w : World) (tk : Taker) (e : Nat) : (Wr cb t w).addErrTo tk e = Wr cb t (w.addErrTo tk e) := by
  cases tk with
  | drop => rfl
  | table t' => exact Wr_modTable cb t w t' _ (fun _ _ => rfl)
  | rowOwn r => rfl
  | rowLazy r =>
    unfold addErrTo
    simp only [Wr_row]
    cases (w.row r).ec with
    | none => rfl
    | own es => rfl
    | table t' => exact Wr_modTable cb t w t' _ (fun _ _ => rfl)

theorem Wr_invokeOne (dw : Measure) (w : World) (c : Cb) (tgt : Target) (tk : Taker) :
    invokeOne dw (Wr cb t w) c tgt tk = Wr cb t (invokeOne dw w c tgt tk) := by
  cases c with
  | log id => rfl
  | setProp id k v => exact Wr_setProp cb t { w with events := w.events ++ [⟨id, tgt⟩] } tgt k v
  | fail id e => exact Wr_addErrTo cb t { w with events := w.events ++ [⟨id, tgt⟩] } tk e
  | dimSetter =>
    cases tgt with
    | cell r c =>
      unfold invokeOne
      simp only [Wr_cell?, Wr_item]
      cases w.cell? r c with
      | none => rfl
      | some ce => simp only [Wr_setProp]
    | _ => exact Wr_addErrTo cb t w tk _
  | widthSetter =>
    cases tgt with
    | cell r c =>
      unfold invokeOne
      simp only [Wr_cell?]
      cases w.cell? r c with
      | none => rfl
      | some ce => simp only [Wr_setProp]
    | _ => exact Wr_addErrTo cb t w tk _

theorem Wr_invoke (dw : Measure) (cbs : List Cb) (w : World) (tgt : Target) (tk : Taker) :
    invoke dw (Wr cb t w) cbs tgt tk = Wr cb t (invoke dw w cbs tgt tk) := by
  induction cbs generalizing w with
  | nil => rfl
  | cons c cbs ih => rw [invoke_cons, invoke_cons, Wr_invokeOne, ih]

/-! what the building operations read of a table -/

theorem Wr_table_rows (w : World) (t' : Nat) : ((Wr cb t w).table t').rows = (w.table t').rows :=
  Wr_table_proj cb t (·.rows) (fun _ _ => rfl) w t'
theorem Wr_table_rowCbs (w : World) (t' : Nat) : ((Wr cb t w).table t').rowCbs = (w.table t').rowCbs :=
  Wr_table_proj cb t (·.rowCbs) (fun _ _ => rfl) w t'
theorem Wr_table_cellCbs_add (w : World) (t' : Nat) :
    ((Wr cb t w).table t').cellCbs.at .add = (w.table t').cellCbs.at .add := by
  rw [table_Wr]; split <;> rfl

/-! the changes they make to a table -/

theorem resize_wrapG (tb : Table) (n : Nat) :
    resizeColumnsAtLeast (wrapG cb tb) n = wrapG cb (resizeColumnsAtLeast tb n) := by
  unfold resizeColumnsAtLeast
  show (if n ≤ tb.nColumns then _ else _) = _
  split <;> rfl

theorem pull_resize (w : World) (t' n : Nat) :
    (Wr cb t w).modTable t' (fun tb => resizeColumnsAtLeast tb n) =
      Wr cb t (w.modTable t' (fun tb => resizeColumnsAtLeast tb n)) :=
  Wr_modTable cb t w t' _ (fun _ tb => resize_wrapG cb tb n)
theorem pull_rows (w : World) (t' r : Nat) :
    (Wr cb t w).modTable t' (fun tb => { tb with rows := tb.rows ++ [r] }) =
      Wr cb t (w.modTable t' (fun tb => { tb with rows := tb.rows ++ [r] })) :=
  Wr_modTable cb t w t' _ (fun _ _ => rfl)
theorem pull_errs (w : World) (t' : Nat) (es : List Nat) :
    (Wr cb t w).modTable t' (fun tb => { tb with errs := tb.errs ++ es }) =
      Wr cb t (w.modTable t' (fun tb => { tb with errs := tb.errs ++ es })) :=
  Wr_modTable cb t w t' _ (fun _ _ => rfl)
theorem pull_header (w : World) (t' : Nat) (h : Option Nat) :
    (Wr cb t w).modTable t' (fun tb => { tb with header := h }) =
      Wr cb t (w.modTable t' (fun tb => { tb with header := h })) :=
  Wr_modTable cb t w t' _ (fun _ _ => rfl)
theorem pull_newRow (w : World) (rw : Row) :
    (Wr cb t w).newRow rw = (Wr cb t (w.newRow rw).1, (w.newRow rw).2) := rfl

/-! the building operations -/

theorem Wr_rowAddCell (dw : Measure) (w : World) (r : Nat) (ce : Cell) :
    rowAddCell dw (Wr cb t w) r ce = Wr cb t (rowAddCell dw w r ce) := by
  unfold rowAddCell
  simp only [Wr_row]
  cases (w.row r).cells with
  | none => exact Wr_addErrTo cb t w _ _
  | some cs =>
    simp only [pull_modRow, Wr_row]
    cases ((w.modRow r fun rw => { rw with cells := some (cs ++ [{ ce with inRow := some r, columnNum := cs.length + 1 }]) }).row r).inTable with
    | none => exact Wr_invoke cb t dw _ _ _ _
    | some t' => simp only [pull_resize, Wr_row, Wr_invoke]

theorem Wr_rowAddMany (dw : Measure) (r : Nat) : ∀ (is : List Nat) (w : World),
    rowAddMany dw r is (Wr cb t w) = Wr cb t (rowAddMany dw r is w)
  | [], _ => rfl
  | i :: is, w => by
    unfold rowAddMany rowAdd
    rw [Wr_item, Wr_rowAddCell, Wr_rowAddMany dw r is]

theorem Wr_addTimeCells (dw : Measure) (t' r : Nat) (colTaker : World → Taker)
    (hct : ∀ w, colTaker (Wr cb t w) = colTaker w) : ∀ (n i : Nat) (w : World),
    addTimeCells dw t' r colTaker n i (Wr cb t w) = Wr cb t (addTimeCells dw t' r colTaker n i w)
  | 0, _, _ => rfl
  | n + 1, i, w => by
    rw [addTimeCells_succ, addTimeCells_succ]
    simp only [Wr_colCellCbs, Wr_columnOf, hct, Wr_invoke, Wr_table_cellCbs_add]
    exact Wr_addTimeCells dw t' r colTaker hct n (i + 1) _

theorem Wr_addRow (dw : Measure) (w : World) (t' r : Nat) :
    addRow dw (Wr cb t w) t' r = Wr cb t (addRow dw w t' r) := by
  unfold addRow
  simp only [pull_rows, pull_errs, pull_resize, pull_modRow, Wr_invoke, Wr_table_rows, Wr_table_rowCbs,
    Wr_row, Wr_rowCells, Wr_rowErrors]
  exact Wr_addTimeCells cb t dw t' r _ (fun _ => rfl) _ 0 _

theorem Wr_addSeparator (w : World) (t' : Nat) :
    addSeparator (Wr cb t w) t' = Wr cb t (addSeparator w t') := by
  unfold addSeparator
  rw [pull_newRow]
  simp only [pull_rows, pull_modRow, Wr_table_rows]

theorem Wr_addHeaders (dw : Measure) (w : World) (t' : Nat) (items : List Nat) :
    addHeaders dw (Wr cb t w) t' items = Wr cb t (addHeaders dw w t' items) := by
  unfold addHeaders
  simp only [pull_resize, pull_newRow, Wr_rowAddMany, pull_header, Wr_invoke, Wr_table_rowCbs, Wr_rowCells]
  exact Wr_addTimeCells cb t dw t' _ (fun _ => Taker.table t') (fun _ => rfl) _ 0 _

theorem Wr_addRowItems (dw : Measure) (w : World) (t' : Nat) (items : List Nat) :
    addRowItems dw (Wr cb t w) t' items =
      (Wr cb t (addRowItems dw w t' items).1, (addRowItems dw w t' items).2) := by
  unfold addRowItems
  simp only [pull_newRow, Wr_rowAddMany, Wr_addRow]

theorem Wr_appendNewRow (dw : Measure) (w : World) (t' : Nat) :
    appendNewRow dw (Wr cb t w) t' = (Wr cb t (appendNewRow dw w t').1, (appendNewRow dw w t').2) := by
  unfold appendNewRow
  simp only [pull_newRow, Wr_addRow]

/-- registering on the wrapped table's own cell/render list is the one registration that does not commute -/
theorem Wr_registerCb (w : World) (o : Target) (tm : Time) (tg : CbTarget) (c : Cb)
    (hok : (ContentOp.register o tm tg c).okFor t) :
    (registerCb (Wr cb t w) o tm tg c).getD (Wr cb t w) = Wr cb t ((registerCb w o tm tg c).getD w) := by
  cases o with
  | table t' =>
    cases tg with
    | itself => exact Wr_modTable cb t w t' _ (fun _ _ => rfl)
    | row => exact Wr_modTable cb t w t' _ (fun _ _ => rfl)
    | cell =>
      refine Wr_modTable cb t w t' (fun tb => { tb with cellCbs := tb.cellCbs.push tm c }) (fun ht tb => ?_)
      cases tm with
      | render => exact absurd ht hok
      | add => rfl
      | pre => rfl
      | post => rfl
  | column t' n =>
    cases tg with
    | itself => exact Wr_modColumn cb t w t' n _
    | cell => exact Wr_modColumn cb t w t' n _
    | row => rfl
  | row r => cases tg <;> rfl
  | cell r c' => cases tg <;> rfl
  | copy n => cases tg <;> rfl

theorem Wr_buildOp (dw : Measure) (w : World) (op : ContentOp) (hok : op.okFor t) :
    op.run dw (Wr cb t w) = Wr cb t (op.run dw w) := by
  cases op with
  | newRow => rfl
  | rowAdd r i => exact Wr_rowAddCell cb t dw w r _
  | addRow t' r => exact Wr_addRow cb t dw w t' r
  | addHeaders t' is => exact Wr_addHeaders cb t dw w t' is
  | addRowItems t' is => exact congrArg Prod.fst (Wr_addRowItems cb t dw w t' is)
  | addSeparator t' => exact Wr_addSeparator cb t w t'
  | appendNewRow t' => exact congrArg Prod.fst (Wr_appendNewRow cb t dw w t')
  | setProp o k v => exact Wr_setProp cb t w o k v
  | addErr tk e => exact Wr_addErrTo cb t w tk e
  | register o tm tg c => exact Wr_registerCb cb t w o tm tg c hok

end

theorem wrapEffect_buildOps (dw : Measure) (k : WKind) (t : Nat) (ops : List ContentOp)
    (hops : ∀ op ∈ ops, op.okFor t) (w : World) :
    ops.foldl (ContentOp.run dw) (w.wrapEffect k t) = (ops.foldl (ContentOp.run dw) w).wrapEffect k t := by
  rw [wrapEffect_eq, wrapEffect_eq]
  cases wrapCb k with
  | none => rfl
  | some cb =>
    simp only
    induction ops generalizing w with
    | nil => rfl
    | cons op ops ih =>
      rw [List.foldl_cons, List.foldl_cons, Wr_buildOp cb t dw w op (hops op List.mem_cons_self)]
      exact ih (fun op' hop' => hops op' (List.mem_cons_of_mem _ hop')) _

end World
end Tab
