/-
  The `core` normal form of a world — everything a callback of the model's callback language can NOT
  change: structure, texts, items, callback sets, and the KIND of each row's error container.
  Forgotten: every property chain, every error list, the event log.

  * `core_setProp`, `core_addErrTo`: the two writes a callback has keep the core, provided the error
    taker is not the lazily allocating `*Row` taker (`Taker.eager`; a render pass never uses that one);
  * the readers the render traversal uses factor through `core` (`rd_*`).
-/
import Tabmodel.Proofs.StableFrame
import Tabmodel.Proofs.Store
import Tabmodel.Model.View
namespace Tab

def Cell.core (c : Cell) : Cell := { c with props := [] }

/-- the kind of a row's container pointer: nil, its own, the table's -/
def ECRef.kind : ECRef → ECRef
  | .none => .none
  | .own _ => .own []
  | .table t => .table t

def Row.core (r : Row) : Row :=
  { r with cells := r.cells.map (·.map Cell.core), props := [], ec := r.ec.kind }
def Column.core (c : Column) : Column := { c with props := [] }
def Table.core (t : Table) : Table :=
  { t with errs := [], props := [], columns := t.columns.map Column.core }

def World.core (w : World) : World :=
  { tables := w.tables.map Table.core, rows := w.rows.map Row.core, items := w.items,
    copies := w.copies.map Cell.core, events := [] }

/-- every taker but the `*Row` itself (whose `AddError` may allocate the row's container) -/
def Taker.eager : Taker → Bool
  | .rowLazy _ => false
  | _ => true

namespace E2Ecb
open World

/-! ### writers keep the core -/

theorem core_events (w : World) (es : List Event) : ({ w with events := es } : World).core = w.core := rfl

theorem core_modTable (w : World) (t : Nat) (f : Table → Table) (hf : ∀ tb, (f tb).core = tb.core) :
    (w.modTable t f).core = w.core := by
  unfold World.modTable World.core
  simp only
  congr 1
  exact map_modify_inv Table.core f hf w.tables t

theorem core_modRow (w : World) (r : Nat) (f : Row → Row) (hf : ∀ rw, (f rw).core = rw.core) :
    (w.modRow r f).core = w.core := by
  unfold World.modRow World.core
  simp only
  congr 1
  exact map_modify_inv Row.core f hf w.rows r

theorem core_modColumn (w : World) (t n : Nat) (f : Column → Column) (hf : ∀ c, (f c).core = c.core) :
    (w.modColumn t n f).core = w.core := by
  unfold World.modColumn
  apply core_modTable
  intro tb
  unfold Table.core
  simp only
  congr 1
  exact map_modify_inv Column.core f hf tb.columns n

theorem core_modCell (w : World) (r c : Nat) (f : Cell → Cell) (hf : ∀ ce, (f ce).core = ce.core) :
    (w.modCell r c f).core = w.core := by
  unfold World.modCell
  apply core_modRow
  intro rw
  unfold Row.core
  simp only
  congr 1
  cases rw.cells with
  | none => rfl
  | some cs =>
    simp only [Option.map_some]
    congr 1
    exact map_modify_inv Cell.core f hf cs c

theorem core_modCopy (w : World) (n : Nat) (f : Cell → Cell) (hf : ∀ ce, (f ce).core = ce.core) :
    ({ w with copies := w.copies.modify n f } : World).core = w.core := by
  unfold World.core
  simp only
  congr 1
  exact map_modify_inv Cell.core f hf w.copies n

theorem core_setProp (w : World) (o : Target) (k : Key) (v : Option Val) : (w.setProp o k v).core = w.core := by
  cases o with
  | table t => exact core_modTable w t _ (fun _ => rfl)
  | column t n => exact core_modColumn w t n _ (fun _ => rfl)
  | row r => exact core_modRow w r _ (fun _ => rfl)
  | cell r c => exact core_modCell w r c _ (fun _ => rfl)
  | copy n => exact core_modCopy w n _ (fun _ => rfl)

theorem core_addErrTo (w : World) (tk : Taker) (e : Nat) (h : tk.eager = true) :
    (w.addErrTo tk e).core = w.core := by
  cases tk with
  | drop => rfl
  | table t => exact core_modTable w t _ (fun _ => rfl)
  | rowOwn r =>
    apply core_modRow
    intro rw
    obtain ⟨cells, props, cc, sc, it, sep, rn, ec⟩ := rw
    cases ec <;> rfl
  | rowLazy r => cases h

/-! ### reading through the core -/

theorem Table.core_default : Table.core {} = {} := rfl
theorem Row.core_default : Row.core {} = {} := rfl

theorem core_table (w : World) (t : Nat) : w.core.table t = (w.table t).core := by
  unfold World.table World.core
  exact getD_map_default_eq Table.core w.tables t {} {} Table.core_default

theorem core_row (w : World) (r : Nat) : w.core.row r = (w.row r).core := by
  unfold World.row World.core
  exact getD_map_default_eq Row.core w.rows r {} {} Row.core_default

theorem core_rowCells (w : World) (r : Nat) : w.core.rowCells r = (w.rowCells r).map Cell.core := by
  unfold World.rowCells
  rw [core_row]
  unfold Row.core
  cases (w.row r).cells <;> rfl

theorem core_cell? (w : World) (r c : Nat) : w.core.cell? r c = (w.cell? r c).map Cell.core := by
  unfold World.cell?
  rw [core_rowCells, List.getElem?_map]

theorem core_item (w : World) (i : Nat) : w.core.item i = w.item i := rfl

theorem core_column? (w : World) (t n : Nat) : w.core.column? t n = (w.column? t n).map Column.core := by
  unfold World.column?
  rw [core_table]
  unfold Table.core
  simp only [List.getElem?_map]

theorem of_core_eq {α : Sort _} (f : World → α) (hf : ∀ w, f w.core = f w) {w w0 : World}
    (h : w.core = w0.core) : f w = f w0 := by
  rw [← hf w, h, hf]

theorem rd_tableSelf (t : Nat) (tm : Time) (w : World) : (w.core.table t).selfCbs.at tm = (w.table t).selfCbs.at tm := by
  rw [core_table]; rfl
theorem rd_tableCell (t : Nat) (tm : Time) (w : World) : (w.core.table t).cellCbs.at tm = (w.table t).cellCbs.at tm := by
  rw [core_table]; rfl
theorem rd_header (t : Nat) (w : World) : (w.core.table t).header = (w.table t).header := by
  rw [core_table]; rfl
theorem rd_rows (t : Nat) (w : World) : (w.core.table t).rows = (w.table t).rows := by
  rw [core_table]; rfl
theorem rd_nColumns (t : Nat) (w : World) : (w.core.table t).nColumns = (w.table t).nColumns := by
  rw [core_table]; rfl
theorem rd_ncolrecs (t : Nat) (w : World) : (w.core.table t).columns.length = (w.table t).columns.length := by
  rw [core_table]; unfold Table.core; simp
theorem rd_rowSelf (r : Nat) (tm : Time) (w : World) : (w.core.row r).selfCbs.at tm = (w.row r).selfCbs.at tm := by
  rw [core_row]; rfl
theorem rd_rowCell (r : Nat) (tm : Time) (w : World) : (w.core.row r).cellCbs.at tm = (w.row r).cellCbs.at tm := by
  rw [core_row]; rfl
theorem rd_isSep (r : Nat) (w : World) : (w.core.row r).isSep = (w.row r).isSep := by
  rw [core_row]; rfl
theorem rd_inTable (r : Nat) (w : World) : (w.core.row r).inTable = (w.row r).inTable := by
  rw [core_row]; rfl
theorem rd_rowCellsLen (r : Nat) (w : World) : (w.core.rowCells r).length = (w.rowCells r).length := by
  rw [core_rowCells, List.length_map]
theorem rd_cellCbs (r c : Nat) (tm : Time) (w : World) :
    ((w.core.cell? r c).map (·.cbs.at tm)).getD [] = ((w.cell? r c).map (·.cbs.at tm)).getD [] := by
  rw [core_cell?]; cases w.cell? r c <;> rfl
theorem rd_colSelf (t n : Nat) (tm : Time) (w : World) :
    ((w.core.column? t n).map (·.selfCbs.at tm)).getD [] = ((w.column? t n).map (·.selfCbs.at tm)).getD [] := by
  rw [core_column?]; cases w.column? t n <;> rfl

theorem rd_rowECTaker (r : Nat) (w : World) : w.core.rowECTaker r = w.rowECTaker r := by
  unfold World.rowECTaker
  rw [core_row]
  unfold Row.core
  cases (w.row r).ec <;> rfl

theorem rd_columnOf (r c : Nat) (w : World) : w.core.columnOf r c = w.columnOf r c :=
  columnOf_congr r c (by rw [core_cell?, Option.map_map]; rfl) (rd_inTable · w) (rd_nColumns · w)

theorem rd_colCellCbs (tc : Option (Nat × Nat)) (tm : Time) (w : World) :
    w.core.colCellCbs tc tm = w.colCellCbs tc tm := by
  unfold World.colCellCbs
  cases tc with
  | none => rfl
  | some p =>
    obtain ⟨t, n⟩ := p
    simp only
    rw [core_column?]
    cases w.column? t n <;> rfl

theorem rowECTaker_eager (w : World) (r : Nat) : (w.rowECTaker r).eager = true := by
  unfold World.rowECTaker
  cases (w.row r).ec <;> rfl

end E2Ecb
end Tab
