/-
  C06e helpers: the template with a stateful row-class generator (`htmlBytesSt`,
  Proofs/C06eSpec.lean) against the pure model `htmlBytes` and the stepping spec `stepGen`.
-/
import Tabmodel.Proofs.C06eSpec
namespace Tab
namespace C06e

/-- the generator arguments of a list of indexed rows -/
def bodyArgs (l : List (Option (List RCell) × Nat)) : List Nat :=
  l.filterMap (fun (r, i) => if r.isSome then some (i + 1) else none)

theorem bodyArgs_nil : bodyArgs [] = [] := rfl
theorem bodyArgs_none (i : Nat) (l : List (Option (List RCell) × Nat)) :
    bodyArgs ((none, i) :: l) = bodyArgs l := by simp [bodyArgs]
theorem bodyArgs_some (cells : List RCell) (i : Nat) (l : List (Option (List RCell) × Nat)) :
    bodyArgs ((some cells, i) :: l) = (i + 1) :: bodyArgs l := by simp [bodyArgs]

theorem rowClassArgs_eq (v : RTable) : rowClassArgs v = 0 :: bodyArgs v.rows.zipIdx := rfl

/-! ### state -/

theorem stepGen_cons {σ : Type} (gen : RowGen σ) (s : σ) (n : Nat) (ns : List Nat) :
    stepGen gen s (n :: ns) = ((gen s n).1 :: (stepGen gen (gen s n).2 ns).1, (stepGen gen (gen s n).2 ns).2) := rfl

theorem stepGen_length {σ : Type} (gen : RowGen σ) (s : σ) (ns : List Nat) :
    (stepGen gen s ns).1.length = ns.length := by
  induction ns generalizing s with
  | nil => rfl
  | cons n ns ih => rw [stepGen_cons]; simp [ih]

theorem bodySt_state {σ : Type} (gen : RowGen σ) (s : σ) (l : List (Option (List RCell) × Nat)) :
    (htmlBodySt gen s l).2 = (stepGen gen s (bodyArgs l)).2 := by
  induction l generalizing s with
  | nil => rfl
  | cons p l ih =>
    obtain ⟨r, i⟩ := p
    cases r with
    | none => rw [bodyArgs_none]; exact ih s
    | some cells =>
      rw [bodyArgs_some, stepGen_cons]
      exact ih _

theorem bytesSt_state {σ : Type} (cfg : HtmlCfg) (gen : RowGen σ) (s₀ : σ) (v : RTable) :
    (htmlBytesSt cfg gen s₀ v).2 = (stepGen gen s₀ (rowClassArgs v)).2 := by
  rw [rowClassArgs_eq, stepGen_cons]
  exact bodySt_state gen _ _

theorem stepGen_log {σ : Type} (gen : RowGen σ) (s : σ) (log : List Nat) (ns : List Nat) :
    stepGen (logGen gen) (s, log) ns =
      ((stepGen gen s ns).1, ((stepGen gen s ns).2, log ++ ns)) := by
  induction ns generalizing s log with
  | nil => simp [stepGen]
  | cons n ns ih =>
    rw [stepGen_cons, stepGen_cons]
    simp only [logGen]
    rw [ih]
    simp

/-! ### output -/

theorem trSt_eq {σ : Type} (cfg : HtmlCfg) (gen : RowGen σ) (F : Nat → Bytes) (s : σ) (n : Nat) (tag : String)
    (cells : List RCell) (hF : F n = (gen s n).1) :
    (htmlTrSt gen s n tag cells).1 = htmlTr { cfg with rowClass := some F } n tag cells := by
  unfold htmlTrSt htmlTr
  simp only [hF]

theorem trSt_state {σ : Type} (gen : RowGen σ) (s : σ) (n : Nat) (tag : String) (cells : List RCell) :
    (htmlTrSt gen s n tag cells).2 = (gen s n).2 := rfl

theorem bodySt_eq {σ : Type} (cfg : HtmlCfg) (gen : RowGen σ) (F : Nat → Bytes)
    (G : Option (List RCell) × Nat → Bytes) (hG0 : ∀ i, G (none, i) = [])
    (hG1 : ∀ cells i, G (some cells, i) = htmlTr { cfg with rowClass := some F } (i + 1) "td" cells)
    (l : List (Option (List RCell) × Nat)) (s : σ)
    (hF : (bodyArgs l).map F = (stepGen gen s (bodyArgs l)).1) :
    (htmlBodySt gen s l).1 = l.flatMap G := by
  induction l generalizing s with
  | nil => rfl
  | cons p l ih =>
    obtain ⟨r, i⟩ := p
    cases r with
    | none =>
      rw [bodyArgs_none] at hF
      rw [List.flatMap_cons, hG0, List.nil_append]
      exact ih s hF
    | some cells =>
      rw [bodyArgs_some, stepGen_cons, List.map_cons, List.cons.injEq] at hF
      rw [List.flatMap_cons, hG1, ← ih _ hF.2, ← trSt_eq cfg gen F s (i + 1) "td" cells hF.1]
      rfl

/-! ### the arguments are distinct -/

theorem bodyArgs_gt (l : List (Option (List RCell))) (k : Nat) : ∀ n ∈ bodyArgs (l.zipIdx k), k < n := by
  induction l generalizing k with
  | nil => intro n hn; cases hn
  | cons r l ih =>
    intro n hn
    rw [List.zipIdx_cons] at hn
    cases r with
    | none => rw [bodyArgs_none] at hn; have := ih (k + 1) n hn; omega
    | some cells =>
      rw [bodyArgs_some] at hn
      rcases List.mem_cons.mp hn with rfl | hn
      · omega
      · have := ih (k + 1) n hn; omega

theorem bodyArgs_nodup (l : List (Option (List RCell))) (k : Nat) : (bodyArgs (l.zipIdx k)).Nodup := by
  induction l generalizing k with
  | nil => exact List.nodup_nil
  | cons r l ih =>
    rw [List.zipIdx_cons]
    cases r with
    | none => rw [bodyArgs_none]; exact ih (k + 1)
    | some cells =>
      rw [bodyArgs_some, List.nodup_cons]
      refine ⟨fun hm => ?_, ih (k + 1)⟩
      have := bodyArgs_gt l (k + 1) _ hm
      omega

theorem rowClassArgs_nodup (v : RTable) : (rowClassArgs v).Nodup := by
  rw [rowClassArgs_eq, List.nodup_cons]
  refine ⟨fun hm => ?_, bodyArgs_nodup v.rows 0⟩
  have := bodyArgs_gt v.rows 0 _ hm
  omega

theorem genFun_cons (a : Nat) (args : List Nat) (o : Bytes) (outs : List Bytes) (n : Nat) :
    genFun (a :: args) (o :: outs) n = if n = a then o else genFun args outs n := by
  unfold genFun
  rw [List.zip_cons_cons, List.lookup_cons]
  by_cases h : n = a
  · simp [h]
  · rw [beq_false_of_ne h, if_neg h]

theorem map_genFun (args : List Nat) (outs : List Bytes) (hnd : args.Nodup) (hlen : outs.length = args.length) :
    args.map (genFun args outs) = outs := by
  induction args generalizing outs with
  | nil => exact (List.length_eq_zero_iff.mp hlen).symm
  | cons a args ih =>
    cases outs with
    | nil => cases hlen
    | cons o outs =>
      rw [List.nodup_cons] at hnd
      rw [List.map_cons, genFun_cons, if_pos rfl]
      congr 1
      refine (List.map_congr_left fun n hn => ?_).trans (ih outs hnd.2 (Nat.succ.inj hlen))
      rw [genFun_cons, if_neg (fun e : n = a => hnd.1 (e ▸ hn))]

theorem bytesSt_eq {σ : Type} (cfg : HtmlCfg) (gen : RowGen σ) (s₀ : σ) (v : RTable) :
    (htmlBytesSt cfg gen s₀ v).1 =
      htmlBytes { cfg with rowClass := some (genFun (rowClassArgs v) (stepGen gen s₀ (rowClassArgs v)).1) } v := by
  have hmap := map_genFun (rowClassArgs v) (stepGen gen s₀ (rowClassArgs v)).1 (rowClassArgs_nodup v)
    (stepGen_length gen s₀ _)
  generalize genFun (rowClassArgs v) (stepGen gen s₀ (rowClassArgs v)).1 = F at hmap ⊢
  rw [rowClassArgs_eq, stepGen_cons, List.map_cons, List.cons.injEq] at hmap
  have hbody := bodySt_eq cfg gen F
    (fun (r, i) => match r with
      | none => []
      | some cells => htmlTr { cfg with rowClass := some F } (i + 1) "td" cells)
    (fun _ => rfl) (fun _ _ => rfl) v.rows.zipIdx (gen s₀ 0).2 hmap.2
  unfold htmlBytesSt htmlBytes
  simp only [trSt_state]
  rw [trSt_eq cfg gen F s₀ 0 "th" _ hmap.1, hbody]
  congr 3

end C06e
end Tab
