/-
  The JSON renderer never panics, proved from the model alone: every checked index of `renderJson` is in
  range (`jsonKeys` reads `headers[i]` for `i < ncols ≤ headers.length`; `jsonEmitCells` reads `keys[i]`
  for `i < cells.length ≤ keys.length`, the latter guarded by the `structural` refusal).

  The file stays clear of `Spec/Json.lean`, whose `PState` clashes with the `PState` of
  `Proofs/C12hDefs.lean`: `Props/C09h.lean` needs the C12h side and this fact.  `c07_no_panic` is
  `renderJson_noPanic`.
-/
import Tabmodel.Model.Json
import Tabmodel.Proofs.EmitLemmas
namespace Tab
open Emit

theorem jsonRows_cons (js : JsonStr) (keys : List (Bytes × Bool)) (lastObj : Nat) (r : Option (List RCell))
    (rs : List (Option (List RCell))) (i : Nat) (nc : Bool) :
    jsonRows js keys lastObj (r :: rs) i nc =
      bind' (if nc then write [44, LF] else pure' ()) fun _ =>
        match r with
        | none => bind' (write [LF]) fun _ => jsonRows js keys lastObj rs (i + 1) false
        | some cells =>
          bind' (jsonEmitRow js keys cells) fun _ =>
            jsonRows js keys lastObj rs (i + 1) (decide (i + 1 < lastObj)) := by
  cases nc <;> cases r <;> rfl

namespace C09h

theorem asBoolOr_noPanic (v : Option Val) (d : Bool) : NoPanicE (asBoolOr v d) := by
  intro s
  unfold asBoolOr
  split <;> (intro h; cases h)

theorem jsonKeys_noPanic (js : JsonStr) (v : RTable) (headers : List RCell) (defSkip : Bool) :
    ∀ (n i : Nat) (seen : List Bytes) (acc : List (Bytes × Bool)), i + n ≤ headers.length →
      NoPanicE (jsonKeys js v headers defSkip n i seen acc) := by
  intro n
  induction n with
  | zero => intro i seen acc _ s h; cases h
  | succ n ih =>
    intro i seen acc hle
    rw [jsonKeys]
    exact noPanicE_bind (idxE_noPanic (by omega) _) fun h _ =>
      noPanicE_ite (noPanicE_err _) <| noPanicE_ite (noPanicE_err _) <|
        noPanicE_bind (asBoolOr_noPanic _ _) fun sk _ => ih (i + 1) _ _ (by omega)

theorem jsonEmitCells_noPanic (js : JsonStr) (keys : List (Bytes × Bool)) :
    ∀ (cs : List RCell) (i : Nat) (opened : Bool), i + cs.length ≤ keys.length →
      NoPanic (jsonEmitCells js keys cs i opened) := by
  intro cs
  induction cs with
  | nil => intro i opened _; exact noPanic_pure _
  | cons c cs ih =>
    intro i opened hle
    rw [List.length_cons] at hle
    rw [jsonEmitCells]
    refine noPanic_bind (idx_noPanic (by omega) _) fun ⟨key, sk⟩ _ =>
      noPanic_ite (fun _ => ih (i + 1) opened (by omega)) fun _ => ?_
    refine noPanic_bind (noPanic_write _) fun _ _ => noPanic_bind (noPanic_write _) fun _ _ => ?_
    refine noPanic_bind ?_ fun t _ => noPanic_bind (noPanic_write _) fun _ _ => ih (i + 1) true (by omega)
    cases c.json with
    | none => exact noPanic_fail _
    | some t => exact noPanic_pure _

theorem jsonEmitRow_noPanic (js : JsonStr) (keys : List (Bytes × Bool)) (cells : List RCell) :
    NoPanic (jsonEmitRow js keys cells) := by
  unfold jsonEmitRow
  exact noPanic_ite (fun _ => noPanic_fail _) fun hl =>
    noPanic_bind (jsonEmitCells_noPanic js keys cells 0 false (by omega)) fun o _ =>
      noPanic_ite (fun _ => noPanic_write _) fun _ => noPanic_write _

theorem jsonRows_noPanic (js : JsonStr) (keys : List (Bytes × Bool)) (lastObj : Nat) :
    ∀ (rs : List (Option (List RCell))) (i : Nat) (nc : Bool), NoPanic (jsonRows js keys lastObj rs i nc) := by
  intro rs
  induction rs with
  | nil => intro i nc; exact noPanic_pure _
  | cons r rs ih =>
    intro i nc
    rw [jsonRows_cons]
    refine noPanic_bind (noPanic_ite (fun _ => noPanic_write _) fun _ => noPanic_pure _) fun _ _ => ?_
    cases r with
    | none => exact noPanic_bind (noPanic_write _) fun _ _ => ih _ _
    | some cells => exact noPanic_bind (jsonEmitRow_noPanic js keys cells) fun _ _ => ih _ _

/-- The JSON renderer never panics, on any view at all. -/
theorem renderJson_noPanic (js : JsonStr) (v : RTable) : ∀ s, (renderJson js v).res ≠ .error (.panic s) := by
  show NoPanic (renderJson js v)
  unfold renderJson
  refine noPanic_ite (fun _ => noPanic_fail _) fun _ =>
    noPanic_bind (noPanic_lift (asBoolOr_noPanic _ _)) fun defSkip _ => ?_
  cases v.header with
  | none => exact noPanic_fail _
  | some headers =>
    exact noPanic_ite (fun _ => noPanic_fail _) fun hlen =>
      noPanic_bind (noPanic_lift (jsonKeys_noPanic js v headers defSkip v.ncols 0 [] [] (by omega))) fun keys _ =>
        noPanic_bind (noPanic_write _) fun _ _ =>
          noPanic_bind (jsonRows_noPanic js keys _ _ _ _) fun _ _ => noPanic_write _

end C09h
end Tab
