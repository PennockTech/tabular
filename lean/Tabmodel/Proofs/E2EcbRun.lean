/-
  What one invocation of an arbitrary callback changes: exactly, for a table's error list and a column's
  property chain; frame lemmas for everything else; and the two exact statements for a list of steps.
-/
import Tabmodel.Proofs.E2EcbSched
import Tabmodel.Proofs.Store
namespace Tab

/-- the effect of a callback on the property chain of a NON-cell owner it is handed: a
    `.setProp` sets / removes its key, every other callback leaves the chain alone (the measuring
    callbacks only write on cells) -/
def Cb.applyChain (ch : Chain) : Cb → Chain
  | .setProp _ k v => ch.set k v
  | _ => ch

def Table.noErrs (tb : Table) : Table := { tb with errs := [] }

/-- what a view reads of a table is kept by `noErrs` -/
theorem Table.eq_of_noErrs_eq {a b : Table} (h : a.noErrs = b.noErrs) :
    a.nColumns = b.nColumns ∧ a.header = b.header ∧ a.rows = b.rows ∧ a.columns = b.columns := by
  have h1 := congrArg Table.nColumns h
  have h2 := congrArg Table.header h
  have h3 := congrArg Table.rows h
  have h4 := congrArg Table.columns h
  exact ⟨h1, h2, h3, h4⟩

/-- the error a step appends to the list of table `t2` (`none`: nothing) -/
def Step.errTo (t2 : Nat) (s : Step) : Option Nat :=
  if s.tk = .table t2 then World.raises s.tgt s.cb else none

namespace E2Ecb
open World

/-! ### `setProp` -/

theorem table_setProp_other (w : World) (o : Target) (k : Key) (v : Option Val) (t2 : Nat)
    (h : o ≠ .table t2 ∧ ∀ n, o ≠ .column t2 n) : (w.setProp o k v).table t2 = w.table t2 := by
  cases o with
  | table t => exact table_modTable_ne w t t2 _ (fun e => h.1 (by rw [e]))
  | column t n => exact table_modTable_ne w t t2 _ (fun e => h.2 n (by rw [e]))
  | _ => rfl

theorem errs_setProp (w : World) (o : Target) (k : Key) (v : Option Val) (t2 : Nat) :
    ((w.setProp o k v).table t2).errs = (w.table t2).errs := by
  cases o with
  | table t => apply table_modTable_proj (g := Table.errs); exact fun _ => rfl
  | column t n => apply table_modTable_proj (g := Table.errs); exact fun _ => rfl
  | _ => rfl

/-- (a table that does not exist reads as the empty table, whose defaults column no `setProp` reaches) -/
theorem column?_setProp (w : World) (o : Target) (k : Key) (v : Option Val) (t n : Nat)
    (ht : t < w.tables.length) :
    (w.setProp o k v).column? t n =
      if o = .column t n then (w.column? t n).map (fun c => { c with props := c.props.set k v })
      else w.column? t n := by
  cases o with
  | table t' =>
    simp only [reduceCtorEq, if_false]
    apply table_modTable_proj (g := (·.columns[n]?)); exact fun _ => rfl
  | column t' n' =>
    simp only [World.setProp, column?_modColumn, Target.column.injEq]
    by_cases h : t' = t ∧ n' = n
    · obtain ⟨rfl, rfl⟩ := h; simp [ht]
    · have : ¬ (t' = t ∧ t < w.tables.length ∧ n' = n) := fun hh => h ⟨hh.1, hh.2.2⟩
      simp [h, this]
  | _ => simp only [reduceCtorEq, if_false]; rfl

theorem row_setProp_other (w : World) (o : Target) (k : Key) (v : Option Val) (r0 : Nat)
    (h : o ≠ .row r0 ∧ ∀ c, o ≠ .cell r0 c) : (w.setProp o k v).row r0 = w.row r0 := by
  cases o with
  | row r => exact row_modRow_ne w r r0 _ (fun e => h.1 (by rw [e]))
  | cell r c => exact row_modRow_ne w r r0 _ (fun e => h.2 c (by rw [e]))
  | _ => rfl

theorem items_setProp (w : World) (o : Target) (k : Key) (v : Option Val) : (w.setProp o k v).items = w.items := by
  cases o <;> rfl

theorem copies_setProp (w : World) (o : Target) (k : Key) (v : Option Val) (h : ∀ n, o ≠ .copy n) :
    (w.setProp o k v).copies = w.copies := by
  cases o with
  | copy n => exact absurd rfl (h n)
  | _ => rfl

theorem tables_length_setProp (w : World) (o : Target) (k : Key) (v : Option Val) :
    (w.setProp o k v).tables.length = w.tables.length := by
  cases o <;> simp [World.setProp, World.modColumn, World.modCell]

theorem rows_length_setProp (w : World) (o : Target) (k : Key) (v : Option Val) :
    (w.setProp o k v).rows.length = w.rows.length := by
  cases o <;> simp [World.setProp, World.modColumn, World.modCell]

/-! ### `addErrTo` -/

theorem errs_addErrTo (w : World) (tk : Taker) (e : Nat) (t2 : Nat) (h : tk.eager = true)
    (ht : t2 < w.tables.length) :
    ((w.addErrTo tk e).table t2).errs = (w.table t2).errs ++ if tk = .table t2 then [e] else [] := by
  cases tk with
  | table t =>
    simp only [World.addErrTo, table_modTable, Taker.table.injEq]
    by_cases htt : t = t2
    · subst htt; simp [ht]
    · simp [htt]
  | rowLazy r => cases h
  | _ => simp only [reduceCtorEq, if_false, List.append_nil]; rfl

theorem noErrs_addErrTo (w : World) (tk : Taker) (e : Nat) (t2 : Nat) :
    ((w.addErrTo tk e).table t2).noErrs = (w.table t2).noErrs := by
  unfold World.addErrTo
  cases tk with
  | table t => apply table_modTable_proj (g := Table.noErrs); exact fun _ => rfl
  | rowLazy r =>
    dsimp only
    split
    · rfl
    · rfl
    · apply table_modTable_proj (g := Table.noErrs); exact fun _ => rfl
  | _ => rfl

theorem column?_addErrTo (w : World) (tk : Taker) (e : Nat) (t n : Nat) :
    (w.addErrTo tk e).column? t n = w.column? t n :=
  congrArg (·[n]?) (Table.eq_of_noErrs_eq (noErrs_addErrTo w tk e t)).2.2.2

theorem row_addErrTo_other (w : World) (tk : Taker) (e : Nat) (r0 : Nat)
    (h : tk ≠ .rowOwn r0 ∧ tk ≠ .rowLazy r0) : (w.addErrTo tk e).row r0 = w.row r0 := by
  unfold World.addErrTo
  cases tk with
  | rowOwn r => exact row_modRow_ne w r r0 _ (fun e => h.1 (by rw [e]))
  | rowLazy r =>
    have hr : r ≠ r0 := fun e => h.2 (by rw [e])
    dsimp only
    split
    · exact row_modRow_ne w r r0 _ hr
    · exact row_modRow_ne w r r0 _ hr
    · rfl
  | _ => rfl

theorem items_addErrTo (w : World) (tk : Taker) (e : Nat) : (w.addErrTo tk e).items = w.items := by
  unfold World.addErrTo
  cases tk with
  | rowLazy r => dsimp only; split <;> rfl
  | _ => rfl

theorem tables_length_addErrTo (w : World) (tk : Taker) (e : Nat) :
    (w.addErrTo tk e).tables.length = w.tables.length := by
  unfold World.addErrTo
  cases tk with
  | table t => simp
  | rowLazy r => dsimp only; split <;> simp
  | _ => rfl

theorem rows_length_addErrTo (w : World) (tk : Taker) (e : Nat) :
    (w.addErrTo tk e).rows.length = w.rows.length := by
  unfold World.addErrTo
  cases tk with
  | rowOwn r => simp
  | rowLazy r => dsimp only; split <;> simp
  | _ => rfl

/-! ### one invocation -/

theorem tables_length_invokeOne (dw : Measure) (w : World) (cb : Cb) (tgt : Target) (tk : Taker) :
    (invokeOne dw w cb tgt tk).tables.length = w.tables.length :=
  invokeOne_frame (P := fun w' => w'.tables.length = w.tables.length) dw w cb tgt tk
    (fun _ _ h => h) (fun _ _ _ h => (tables_length_setProp _ _ _ _).trans h)
    (fun _ _ h => (tables_length_addErrTo _ _ _).trans h) rfl

theorem invokeOne_of_raises (dw : Measure) (w : World) {cb : Cb} {tgt : Target} (tk : Taker) {e : Nat}
    (h : raises tgt cb = some e) :
    ∃ es, invokeOne dw w cb tgt tk = ({ w with events := es } : World).addErrTo tk e := by
  cases cb with
  | fail id e' => cases h; exact ⟨_, rfl⟩
  | dimSetter =>
    cases tgt with
    | cell r c => cases h
    | _ => cases h; exact ⟨w.events, rfl⟩
  | widthSetter =>
    cases tgt with
    | cell r c => cases h
    | _ => cases h; exact ⟨w.events, rfl⟩
  | _ => cases h

/-- a callback that returns no error does not use the taker: it only logs and sets properties on its target -/
theorem invokeOne_of_not_raises {P : World → Prop} (dw : Measure) (w : World) {cb : Cb} {tgt : Target}
    (tk : Taker) (h : raises tgt cb = none)
    (hev : ∀ w' es, P w' → P ({ w' with events := es } : World))
    (hset : ∀ w' k v, P w' → P (w'.setProp tgt k v)) (h0 : P w) : P (invokeOne dw w cb tgt tk) := by
  have hd : invokeOne dw w cb tgt tk = invokeOne dw w cb tgt .drop := by
    cases cb with
    | fail id e => cases h
    | dimSetter =>
      cases tgt with
      | cell r c => rfl
      | _ => cases h
    | widthSetter =>
      cases tgt with
      | cell r c => rfl
      | _ => cases h
    | _ => rfl
  rw [hd]
  exact invokeOne_frame dw w cb tgt .drop hev hset (fun _ _ h' => h') h0

theorem errs_invokeOne (dw : Measure) (w : World) (cb : Cb) (tgt : Target) (tk : Taker) (t2 : Nat)
    (h : tk.eager = true) (ht : t2 < w.tables.length) :
    ((invokeOne dw w cb tgt tk).table t2).errs =
      (w.table t2).errs ++ (Step.errTo t2 ⟨cb, tgt, tk⟩).toList := by
  unfold Step.errTo
  cases hr : raises tgt cb with
  | none =>
    simp only [ite_self, Option.toList_none, List.append_nil]
    exact invokeOne_of_not_raises (P := fun w' => (w'.table t2).errs = (w.table t2).errs) dw w tk hr
      (fun _ _ h' => h') (fun _ _ _ h' => (errs_setProp _ _ _ _ t2).trans h') rfl
  | some e =>
    obtain ⟨es, he⟩ := invokeOne_of_raises dw w tk hr
    rw [he, errs_addErrTo { w with events := es } tk e t2 h ht]
    by_cases hk : tk = .table t2 <;> simp [hk] <;> rfl

theorem colProps_invokeOne (dw : Measure) (w : World) (cb : Cb) (tgt : Target) (tk : Taker) (t n : Nat)
    (ht : t < w.tables.length) :
    ((invokeOne dw w cb tgt tk).column? t n).map (·.props) =
      ((w.column? t n).map (·.props)).map (fun ch => if tgt = .column t n then cb.applyChain ch else ch) := by
  by_cases hc : tgt = .column t n
  · subst hc
    simp only [if_true]
    cases cb with
    | log id => exact Option.map_id'.symm
    | setProp id k v =>
      show ((World.setProp _ (.column t n) k v).column? t n).map (·.props) = _
      rw [column?_setProp _ _ _ _ _ _ (by exact ht), if_pos rfl]
      show ((w.column? t n).map _).map _ = _
      cases w.column? t n <;> rfl
    | fail id e => exact (congrArg (Option.map _) (column?_addErrTo _ tk e t n)).trans Option.map_id'.symm
    | dimSetter => exact (congrArg (Option.map _) (column?_addErrTo _ tk _ t n)).trans Option.map_id'.symm
    | widthSetter => exact (congrArg (Option.map _) (column?_addErrTo _ tk _ t n)).trans Option.map_id'.symm
  · simp only [hc, if_false, Option.map_id']
    -- the table count rides along: `column?_setProp` asks for it
    exact congrArg (Option.map _) (invokeOne_frame
      (P := fun w' => w'.column? t n = w.column? t n ∧ t < w'.tables.length) dw w cb tgt tk
      (fun _ _ h => h)
      (fun _ _ _ h => ⟨by rw [column?_setProp _ _ _ _ _ _ h.2, if_neg hc]; exact h.1,
        by rw [tables_length_setProp]; exact h.2⟩)
      (fun _ _ h => ⟨(column?_addErrTo _ _ _ t n).trans h.1, by rw [tables_length_addErrTo]; exact h.2⟩)
      ⟨rfl, ht⟩).1

theorem errs_runSteps (dw : Measure) (ss : List Step) (w : World) (t2 : Nat)
    (h : ∀ s ∈ ss, s.tk.eager = true) (ht : t2 < w.tables.length) :
    ((runSteps dw w ss).table t2).errs = (w.table t2).errs ++ ss.filterMap (Step.errTo t2) := by
  induction ss generalizing w with
  | nil => simp [runSteps_nil]
  | cons s ss ih =>
    rw [runSteps_cons, ih _ (fun s' hs' => h s' (by simp [hs'])) (by rw [tables_length_invokeOne]; exact ht),
      errs_invokeOne dw w s.cb s.tgt s.tk t2 (h s (by simp)) ht, List.filterMap_cons]
    cases Step.errTo t2 s <;> simp

theorem colProps_runSteps (dw : Measure) (ss : List Step) (w : World) (t n : Nat) (ht : t < w.tables.length) :
    ((runSteps dw w ss).column? t n).map (·.props) =
      ((w.column? t n).map (·.props)).map (fun ch =>
        ((ss.filter (fun s => decide (s.tgt = .column t n))).map (·.cb)).foldl Cb.applyChain ch) := by
  induction ss generalizing w with
  | nil => exact Option.map_id'.symm
  | cons s ss ih =>
    rw [runSteps_cons, ih _ (by rw [tables_length_invokeOne]; exact ht), colProps_invokeOne dw w s.cb s.tgt s.tk t n ht,
      Option.map_map, List.filter_cons]
    congr 1
    funext ch
    by_cases hs : s.tgt = .column t n <;> simp [hs]

end E2Ecb
end Tab
