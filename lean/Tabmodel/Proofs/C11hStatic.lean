/-
  C11, history level — spec definitions: what `addRow`'s callbacks and a render raise, written
  as plain sums over the callback lists registered in ONE world (no re-run, no intermediate
  worlds).  `Props/C11h.lean` proves `raisedBy` equal to these.
-/
import Tabmodel.Proofs.C11hSame
namespace Tab
namespace World

/-- add-time cell callbacks (of the cell's column, then of the table) on cells `i … i+n-1` of row `r` -/
def addCellsCount (w : World) (e t r : Nat) : Nat → Nat → Nat
  | 0, _ => 0
  | n + 1, i =>
    raiseCount (.cell r i) e (colCellCbs w (columnOf w r i) .add)
      + raiseCount (.cell r i) e ((w.table t).cellCbs.at .add)
      + addCellsCount w e t r n (i + 1)

/-- all add-time callbacks `addRow t r` / `addHeaders` run on row `r`: the row's own, the table's
    row callbacks, then the cell callbacks, all as registered in `w` -/
def addCbsCount (w : World) (e t r : Nat) (withSelf : Bool) : Nat :=
  (if withSelf then raiseCount (.row r) e ((w.row r).selfCbs.at .add) else 0)
    + raiseCount (.row r) e ((w.table t).rowCbs.at .add)
    + addCellsCount w e t r (w.rowCells r).length 0

/-- the eight render-time calls on cell `i` of row `r` -/
def cellRenderCount (w : World) (e t r i : Nat) : Nat :=
  ((cellCalls t r i (columnOf w r i)).map (fun d => raiseCount (.cell r i) e (d.1 w))).sum

def cellsRenderCount (w : World) (e t r : Nat) : Nat → Nat → Nat
  | 0, _ => 0
  | n + 1, i => cellRenderCount w e t r i + cellsRenderCount w e t r n (i + 1)

def rowRenderCount (w : World) (e t : Nat) (r : Nat) : Nat :=
  raiseCount (.row r) e ((w.row r).selfCbs.at .pre)
    + cellsRenderCount w e t r (w.rowCells r).length 0
    + raiseCount (.row r) e ((w.row r).selfCbs.at .post)

def colsRenderCount (w : World) (e t : Nat) (tm : Time) : Nat → Nat → Nat
  | 0, _ => 0
  | n + 1, i =>
    raiseCount (.column t i) e (((w.column? t i).map (·.selfCbs.at tm)).getD [])
      + colsRenderCount w e t tm n (i + 1)

/-- the header row's part of a render (nothing when there is no header) -/
def hdrRenderCount (w : World) (e t : Nat) : Nat :=
  match (w.table t).header with
  | some hr => rowRenderCount w e t hr
  | none => 0

/-- everything a render of table `t` raises, as registered in `w` -/
def renderCount (w : World) (e t : Nat) : Nat :=
  raiseCount (.table t) e ((w.table t).selfCbs.at .pre)
    + colsRenderCount w e t .pre (w.table t).columns.length 0
    + hdrRenderCount w e t
    + ((w.table t).rows.map (rowRenderCount w e t)).sum
    + colsRenderCount w e t .post (w.table t).columns.length 0
    + raiseCount (.table t) e ((w.table t).selfCbs.at .post)

end World
end Tab
