/-
  The concrete history used by the non-vacuity examples of `Props/E2E.lean` (`dw := List.length`),
  and the (decidable) hypotheses of the capstone theorems evaluated on it.

  items "a" … "f"; one table with a logging user callback on its cells; headers `a b`; a row
  `c d`; a separator; a pre-built ragged row `e` attached afterwards; column 1 right-aligned; an
  earlier render; then wrapped as text and as markdown (`wrapOps`).
-/
import Tabmodel.Props.C07
import Tabmodel.Props.C14
import Tabmodel.Proofs.TextExample
import Tabmodel.Generated.Decorations
import Tabmodel.Proofs.E2EText
import Tabmodel.Proofs.E2ENeeds
namespace Tab
open World hiding CellOK

def e2eHist : List BuildOp :=
  [ .setItems [exItem 97, exItem 98, exItem 99, exItem 100, exItem 101, exItem 102],
    .newTable,
    .regCb (.table 0) .pre .cell (.log 1),
    .addHeaders 0 [0, 1],            -- row id 0
    .addRowItems 0 [2, 3],           -- row id 1
    .addSeparator 0,                 -- row id 2
    .newRow, .rowAdd 3 4, .addRow 0 3,
    .setProp (.column 0 1) .align (some (.align 2)),
    .render 0 ]

def e2eOps : List BuildOp := e2eHist ++ wrapOps .text 0 ++ wrapOps .markdown 0
def e2eX : Ext := ⟨List.length, c07JsQ⟩
def e2eCsv : Wrapper := { kind := .csv, core := 0 }
def e2eJson : Wrapper := { kind := .json, core := 0 }
def e2eMd : Wrapper := { kind := .markdown, core := 0 }
def e2eText : Wrapper := { kind := .text, core := 0, decor := TextExample.asciiSimple }
def e2eBoxless : Wrapper := { kind := .text, core := 0, decor := TextExample.boxlessDeco }
def e2eHeavy : Wrapper := { kind := .text, core := 0, decor := Generated.heavy }

namespace E2EExample

theorem hvH : Valid e2eHist = true := by decide +kernel
theorem htH : 0 < (run e2eX.dw e2eHist).tables.length := by
  rw [← shape_tables_length, shape_run]; decide +kernel

theorem hv : Valid e2eOps = true := by decide +kernel
theorem ht : 0 < (run e2eX.dw e2eOps).tables.length := by
  rw [← shape_tables_length, shape_run]; decide +kernel
theorem hL : LogOnly (run e2eX.dw e2eOps) 0 := by decide +kernel
theorem hNt : Needs (run e2eX.dw e2eOps) e2eText :=
  needs_of_wrapped e2eX.dw e2eHist (wrapOps .markdown 0) e2eText htH
theorem hNb : Needs (run e2eX.dw e2eOps) e2eBoxless :=
  needs_of_wrapped e2eX.dw e2eHist (wrapOps .markdown 0) e2eBoxless htH
theorem hNm : Needs (run e2eX.dw e2eOps) e2eMd := by
  have h := needs_of_wrapped e2eX.dw (e2eHist ++ wrapOps .text 0) [] e2eMd
    (by rw [run_wrapOps, ntables_wrapEffect]; exact htH)
  rwa [List.append_nil] at h
theorem ha : AlignOK ((run e2eX.dw e2eOps).view 0) := alignOK_of_alignOKb _ (by decide +kernel)
theorem hn : 1 ≤ ((run e2eX.dw e2eOps).table 0).nColumns := by
  rw [← shape_table_nColumns, shape_run]; decide +kernel
theorem hF : TableFits e2eX.dw (run e2eX.dw e2eOps) 0 := by decide +kernel

/-! what the examples read off the built world, each evaluated once -/

theorem hJ : JsonOK ((run e2eX.dw e2eOps).view 0) := by decide +kernel
theorem hH : ((run e2eX.dw e2eOps).table 0).header.isSome = true := by
  rw [← shape_table_header, shape_run]; decide +kernel
theorem hB : (run e2eX.dw e2eOps).bodyRowCount 0 = 2 := by decide +kernel
theorem hCsv : (run e2eX.dw e2eOps).csvRecords 0 = [[[97], [98]], [[99], [100]], [[101], []]] := by
  decide +kernel
theorem hCW : ((invokeRenderCallbacks e2eX.dw (run e2eX.dw e2eOps) 0).view 0).colWidths = [1, 1] := by
  decide +kernel

/-! the example history of C02 -/

theorem htx : 0 < (run e2eX.dw exHist).tables.length :=
  Nat.lt_of_lt_of_eq Nat.one_pos (c02_ex_facts e2eX.dw).1.symm
theorem hLx : LogOnly (run e2eX.dw exHist) 0 := by decide +kernel
theorem hnJx : ¬ JsonOK ((run e2eX.dw exHist).view 0) := by decide +kernel

end E2EExample
end Tab
