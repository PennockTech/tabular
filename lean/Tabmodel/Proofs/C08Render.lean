/- C08 helpers, part 2: what `mdEmitRow` and `renderMarkdown` write. -/
import Tabmodel.Proofs.C08Bytes
import Tabmodel.Proofs.EmitLemmas
namespace Tab
open Emit

/-! ### one row -/

/-- what stands between two structural pipes for a present cell -/
def mdSeg (addPads : Bool) (x : Bytes) : Bytes := if addPads then [32] ++ x ++ [32] else x

/-- the pieces between the `ncols + 1` structural pipes of one row -/
def mdRowBodies (dw : Measure) (ncols : Nat) (cells : List RCell) (widths : List Int) (aligns : List Nat)
    (addPads : Bool) : List Bytes :=
  cells.zipIdx.map (fun p => mdSeg addPads (mdPadded dw p.1 (widths.getD p.2 0) (aligns.getD p.2 0))) ++
    List.replicate (ncols - cells.length) [32]

def mdRowLine (dw : Measure) (ncols : Nat) (cells : List RCell) (widths : List Int) (aligns : List Nat)
    (addPads : Bool) : Bytes :=
  pipeLine (mdRowBodies dw ncols cells widths aligns addPads)

theorem mdRowBodies_length (dw : Measure) (ncols : Nat) (cells : List RCell) (widths : List Int)
    (aligns : List Nat) (addPads : Bool) (h : cells.length ≤ ncols) :
    (mdRowBodies dw ncols cells widths aligns addPads).length = ncols := by
  rw [mdRowBodies, List.length_append, List.length_map, List.length_zipIdx, List.length_replicate]; omega

theorem mdEmitCells_cons (dw : Measure) (widths : List Int) (aligns : List Nat) (bc br : Bytes) (c : RCell)
    (cs : List RCell) (i : Nat) (hw : i < widths.length) (ha : i < aligns.length) :
    mdEmitCells dw widths aligns bc br (c :: cs) i =
      bind' (write (mdPadded dw c (widths.getD i 0) (aligns.getD i 0) ++ if cs.isEmpty then br else bc))
        fun _ => mdEmitCells dw widths aligns bc br cs (i + 1) := by
  rw [mdEmitCells, bind_eq, idx_ok (getElem?_eq_some_getD hw 0), bind'_pure', bind_eq,
    idx_ok (getElem?_eq_some_getD ha 0), bind'_pure']
  rfl

/-- A separator is the right bar followed by `sp`, the space that opens the next cell (none without
    pads): so every cell after the first is written as `sp ++ cell ++ barRight`, and the first as well
    once the left bar has given it its `sp`. -/
theorem mdEmitCells_writes (dw : Measure) (widths : List Int) (aligns : List Nat) (sp br : Bytes) :
    ∀ (cs : List RCell) (c : RCell) (i : Nat), i + cs.length < widths.length → i + cs.length < aligns.length →
      Writes (mdEmitCells dw widths aligns (br ++ sp) br (c :: cs) i) ()
        (mdPadded dw c (widths.getD i 0) (aligns.getD i 0) ++ br ++
          (cs.zipIdx (i + 1)).flatMap fun p => sp ++ mdPadded dw p.1 (widths.getD p.2 0) (aligns.getD p.2 0) ++ br) := by
  intro cs
  induction cs with
  | nil =>
    intro c i hw ha
    rw [mdEmitCells_cons dw widths aligns _ _ c [] i hw ha]
    exact (Writes.write _).bind (.pure ())
  | cons c' cs ih =>
    intro c i hw ha
    rw [List.length_cons] at hw ha
    rw [mdEmitCells_cons dw widths aligns _ _ c _ i (by omega) (by omega)]
    refine ((Writes.write _).bind (ih c' (i + 1) (by omega) (by omega))).congr ?_
    simp only [List.isEmpty_cons, Bool.false_eq_true, if_false, List.zipIdx_cons, List.flatMap_cons, List.append_assoc]

theorem mdEmitRow_ok (dw : Measure) (ncols : Nat) (cells : List RCell) (widths : List Int)
    (aligns : List Nat) (addPads : Bool) (hc : cells.length ≤ ncols) (hw : widths.length = ncols)
    (ha : aligns.length = ncols) :
    Writes (mdEmitRow dw ncols cells widths aligns addPads) ()
      (mdRowLine dw ncols cells widths aligns addPads ++ [LF]) := by
  unfold mdEmitRow
  simp only [Nat.not_lt.2 hc, if_false, bind_eq, forM'_const_write]
  have fill : Writes (bind' (⟨List.replicate (ncols - cells.length) [32, 124], .ok ()⟩ : Emit Unit) fun _ => write [LF]) ()
      ((List.replicate (ncols - cells.length) ([32] : Bytes)).flatMap (· ++ [124]) ++ [LF]) :=
    Writes.congr (.bind ⟨rfl, rfl⟩ (.write _)) (by rw [List.flatMap_replicate]; rfl)
  cases cells with
  | nil => exact (Writes.write _).bind ((Writes.pure ()).bind fill)
  | cons c cs =>
    rw [List.length_cons] at hc
    -- the bars in terms of the left space `sp` and the right bar `br`
    obtain ⟨sp, br, hl, hcen, hr, hseg⟩ : ∃ sp br : Bytes,
        (if ((c :: cs).length == 0 || !addPads) = true then [124] else [124, 32]) = 124 :: sp ∧
        (if addPads = true then [32, 124, 32] else [124]) = br ++ sp ∧
        (if addPads = true then [32, 124] else [124]) = br ∧
        ∀ x, mdSeg addPads x ++ [124] = sp ++ x ++ br := by
      cases addPads
      · exact ⟨[], [124], rfl, rfl, rfl, fun _ => rfl⟩
      · exact ⟨[32], [32, 124], rfl, rfl, rfl, fun _ => List.append_assoc _ _ _⟩
    rw [hl, hcen, hr]
    refine ((Writes.write _).bind <|
      (mdEmitCells_writes dw widths aligns sp br cs c 0 (by omega) (by omega)).bind fill).congr ?_
    simp only [mdRowLine, pipeLine, mdRowBodies, List.flatMap_append, List.flatMap_map, hseg, List.zipIdx_cons,
      List.flatMap_cons, List.append_assoc, List.cons_append]
/-! ### the pieces are good -/

theorem mdPadded_shape (dw : Measure) (c : RCell) (want : Int) (al : Nat) :
    ∃ l r, mdPadded dw c want al = spaces l ++ mdEscape c.text ++ spaces r ∧
      (want ≤ (dw (mdEscape c.text) : Nat) → l = 0 ∧ r = 0) := by
  unfold mdPadded
  simp only
  by_cases hge : (dw (mdEscape c.text) : Int) ≥ want
  · rw [if_pos hge]; exact ⟨0, 0, (List.append_nil _).symm, fun _ => ⟨rfl, rfl⟩⟩
  · rw [if_neg hge]
    by_cases h2 : al = 2
    · rw [if_pos h2]; exact ⟨_, 0, (List.append_nil _).symm, fun h => absurd h hge⟩
    · rw [if_neg h2]
      by_cases h3 : al = 3
      · rw [if_pos h3]; exact ⟨_, _, rfl, fun h => absurd h hge⟩
      · rw [if_neg h3]; exact ⟨0, _, rfl, fun h => absurd h hge⟩

/-- between its two pipes a padded cell is the escaped text with at least one space on either side -/
theorem mdSeg_true_padded (dw : Measure) (c : RCell) (want : Int) (al : Nat) :
    ∃ l r, mdSeg true (mdPadded dw c want al) = spaces (l + 1) ++ mdEscape c.text ++ spaces (r + 1) := by
  obtain ⟨l, r, h, _⟩ := mdPadded_shape dw c want al
  have e1 : spaces (l + 1) = [32] ++ spaces l := rfl
  have e2 : spaces (r + 1) = spaces r ++ [32] := List.replicate_succ'
  refine ⟨l, r, ?_⟩
  rw [h, e1, e2]
  simp only [mdSeg, if_true, List.append_assoc]

theorem mdPadded_mem (dw : Measure) (c : RCell) (want : Int) (al : Nat) :
    ∀ x ∈ mdPadded dw c want al, x = 32 ∨ x ∈ mdEscape c.text := by
  obtain ⟨l, r, h, _⟩ := mdPadded_shape dw c want al
  intro x hx
  rw [h] at hx
  simp only [List.mem_append, spaces, List.mem_replicate] at hx
  rcases hx with (hx | hx) | hx
  · exact .inl hx.2
  · exact .inr hx
  · exact .inl hx.2

theorem goodPiece_sp : GoodPiece [32] := by unfold GoodPiece; decide

theorem goodPiece_seg_true (dw : Measure) (c : RCell) (want : Int) (al : Nat) :
    GoodPiece (mdSeg true (mdPadded dw c want al)) := by
  have hm : ∀ x ∈ mdSeg true (mdPadded dw c want al), x ≠ 124 ∧ x ≠ 10 := by
    intro x hx
    have : x = 32 ∨ x ∈ mdEscape c.text := by
      simp only [mdSeg, if_true, List.mem_append, List.mem_singleton] at hx
      rcases hx with (h | h) | h
      · exact .inl h
      · exact mdPadded_mem dw c want al x h
      · exact .inl h
    rcases this with rfl | h
    · decide
    · exact ⟨(mdEscape_inert _ _ h).1, (mdEscape_inert _ _ h).2.1⟩
  exact ⟨fun h => (hm _ h).1 rfl, fun h => (hm _ h).2 rfl, by simp [mdSeg, List.getLast?_cons, List.getLast?_append]⟩

def DelimByte (x : UInt8) : Prop := x = 32 ∨ x = 45 ∨ x = 58

theorem mdControlCell_eq (w : Int) (al : Nat) :
    mdControlCell w al =
      (mdMarkers al).1 :: List.replicate (if w < 3 then 3 else w).toNat 45 ++ [(mdMarkers al).2] := by
  unfold mdControlCell mdMarkers
  by_cases h2 : al = 2
  · simp [h2]
  · by_cases h3 : al = 3
    · simp [h3]
    · simp [h2, h3]

theorem mdControlCell_bytes (w : Int) (al : Nat) : ∀ x ∈ mdControlCell w al, DelimByte x := by
  have hm : DelimByte (mdMarkers al).1 ∧ DelimByte (mdMarkers al).2 := by
    unfold mdMarkers
    split
    · exact ⟨.inl rfl, .inr (.inr rfl)⟩
    · split
      · exact ⟨.inr (.inr rfl), .inr (.inr rfl)⟩
      · exact ⟨.inl rfl, .inl rfl⟩
  intro x hx
  rw [mdControlCell_eq] at hx
  simp only [List.mem_cons, List.mem_append, List.mem_replicate, List.not_mem_nil, or_false] at hx
  rcases hx with (rfl | ⟨_, rfl⟩) | rfl
  · exact hm.1
  · exact .inr (.inl rfl)
  · exact hm.2

theorem mdEscape_id {s : Bytes}
    (h : ∀ x ∈ s, x ≠ 38 ∧ x ≠ 39 ∧ x ≠ 60 ∧ x ≠ 62 ∧ x ≠ 34 ∧ x ≠ 124 ∧ x ≠ 10) : mdEscape s = s := by
  induction s with
  | nil => rfl
  | cons b s ih =>
    obtain ⟨h1, h2, h3, h4, h5, h6, h7⟩ := h b (by simp)
    rw [mdEscape_cons, mdEscByte_other b h1 h2 h3 h4 h5 h6 h7, ih (fun x hx => h x (by simp [hx]))]
    rfl

theorem mdEscape_controlCell (w : Int) (al : Nat) : mdEscape (mdControlCell w al) = mdControlCell w al := by
  apply mdEscape_id
  intro x hx
  rcases mdControlCell_bytes w al x hx with h | h | h <;> subst h <;> decide

theorem goodPiece_of_delimBytes {s : Bytes} (h : ∀ x ∈ s, DelimByte x) : GoodPiece s := by
  have hm : ∀ x ∈ s, x ≠ 124 ∧ x ≠ 10 ∧ x ≠ 92 := by
    intro x hx
    rcases h x hx with h | h | h <;> subst h <;> decide
  exact ⟨fun hx => (hm _ hx).1 rfl, fun hx => (hm _ hx).2.1 rfl,
    fun hl => (hm _ (List.mem_of_getLast? hl)).2.2 rfl⟩

theorem goodPiece_seg_control (dw : Measure) (w want : Int) (al al' : Nat) :
    GoodPiece (mdSeg false (mdPadded dw { text := mdControlCell w al } want al')) := by
  apply goodPiece_of_delimBytes
  intro x hx
  rcases mdPadded_mem dw _ want al' x hx with h | h
  · exact .inl h
  · rw [mdEscape_controlCell] at h
    exact mdControlCell_bytes w al x h

/-! ### widths and alignments -/

def mdWidths0 (ncols : Nat) (headers : List RCell) : List Int :=
  (List.range ncols).map (fun i => match headers[i]? with | some h => h.mdw | none => 0)

def mdWidthsOf (v : RTable) (headers : List RCell) : List Int :=
  v.rows.foldl (fun ws r => match r with | none => ws | some cells => mdWiden ws cells)
    (mdWidths0 v.ncols headers)

def mdAlignsOf (v : RTable) : List Nat := (List.range v.ncols).map (effAlignNat v)

/-- the renderer's width pass over the body rows: structural check, then widen -/
def mdWidthsM (v : RTable) (headers : List RCell) : Except Stop (List Int) :=
  v.rows.foldlM (fun (ws : List Int) r =>
    match r with
    | none => .ok ws
    | some cells => if cells.length > v.ncols then .error (.err .structural) else .ok (mdWiden ws cells))
    (mdWidths0 v.ncols headers)

/-- the renderer's alignment pass -/
def mdAlignsM (v : RTable) : Except Stop (List Nat) :=
  (List.range v.ncols).mapM (fun i => alignOf (effAlign v i))

def mdControlRow (v : RTable) (widths : List Int) (aligns : List Nat) : List RCell :=
  (List.range v.ncols).map (fun i => { text := mdControlCell (widths.getD i 0) (aligns.getD i 0) })

/-- the renderer's emitting pass: header, delimiter row, body rows -/
def mdEmitRows (dw : Measure) (v : RTable) (headers : List RCell) (widths : List Int)
    (aligns : List Nat) : Emit Unit := do
  mdEmitRow dw v.ncols headers widths aligns true
  mdEmitRow dw v.ncols (mdControlRow v widths aligns) widths aligns false
  forM' v.rows (fun r =>
    match r with
    | none => pure ()
    | some cells => mdEmitRow dw v.ncols cells widths aligns true)

theorem renderMarkdown_some (dw : Measure) (v : RTable) (hs : List RCell) (hh : v.header = some hs) :
    renderMarkdown dw v =
      if v.ncols < 1 then fail .noColumns else
      if hs.length > v.ncols then fail .structural else
      bind' (lift (mdWidthsM v hs)) fun ws => bind' (lift (mdAlignsM v)) fun as =>
        mdEmitRows dw v hs ws as := by
  unfold renderMarkdown; rw [hh]; rfl

theorem renderMarkdown_eq (dw : Measure) (v : RTable) (hs : List RCell) (hn : ¬ v.ncols < 1)
    (hh : v.header = some hs) (hl : ¬ hs.length > v.ncols) :
    renderMarkdown dw v =
      bind' (lift (mdWidthsM v hs)) fun ws => bind' (lift (mdAlignsM v)) fun as =>
        mdEmitRows dw v hs ws as := by
  rw [renderMarkdown_some dw v hs hh, if_neg hn, if_neg hl]

theorem mdWiden_length (ws : List Int) (cells : List RCell) : (mdWiden ws cells).length = ws.length := by
  simp [mdWiden]

theorem foldl_widen_length (rows : List (Option (List RCell))) : ∀ ws : List Int,
    (rows.foldl (fun ws r => match r with | none => ws | some cells => mdWiden ws cells) ws).length = ws.length := by
  induction rows with
  | nil => intro ws; rfl
  | cons r rows ih =>
    intro ws
    rw [List.foldl_cons, ih]
    cases r with
    | none => rfl
    | some cells => exact mdWiden_length ws cells

theorem mdWidthsOf_length (v : RTable) (hs : List RCell) : (mdWidthsOf v hs).length = v.ncols := by
  rw [mdWidthsOf, foldl_widen_length, mdWidths0, List.length_map, List.length_range]

theorem mdAlignsOf_length (v : RTable) : (mdAlignsOf v).length = v.ncols := by simp [mdAlignsOf]

theorem mdWiden_get (ws : List Int) (cells : List RCell) (i : Nat) :
    (mdWiden ws cells)[i]? = ws[i]?.map (fun w =>
      match cells[i]? with | some c => if c.mdw > w then c.mdw else w | none => w) := by
  unfold mdWiden
  rw [List.getElem?_map, List.getElem?_zipIdx]
  cases ws[i]? with
  | none => rfl
  | some w => rw [Option.map_some, Option.map_some, Option.map_some, Nat.zero_add]; rfl

theorem foldl_widen_get (rows : List (Option (List RCell))) (i : Nat) : ∀ ws : List Int,
    (rows.foldl (fun ws r => match r with | none => ws | some cells => mdWiden ws cells) ws)[i]? =
    ws[i]?.map (fun w => rows.foldl (fun w r =>
      match r with
      | some cells => (match cells[i]? with | some c => if c.mdw > w then c.mdw else w | none => w)
      | none => w) w) := by
  induction rows with
  | nil => intro ws; rw [List.foldl_nil]; cases ws[i]? <;> rfl
  | cons r rows ih =>
    intro ws
    rw [List.foldl_cons, ih]
    cases r with
    | none => rfl
    | some cells => rw [mdWiden_get]; cases ws[i]? <;> rfl

theorem mdWidthsOf_get (v : RTable) (hs : List RCell) (hh : v.header = some hs) (i : Nat) (hi : i < v.ncols) :
    (mdWidthsOf v hs).getD i 0 = mdColWidth v i := by
  rw [List.getD_eq_getElem?_getD, mdWidthsOf, foldl_widen_get, mdColWidth, hh, mdWidths0,
    List.getElem?_map, List.getElem?_range hi]
  rfl

theorem mdAlignsOf_get (v : RTable) (i : Nat) (hi : i < v.ncols) : (mdAlignsOf v).getD i 0 = effAlignNat v i := by
  rw [List.getD_eq_getElem?_getD, mdAlignsOf, List.getElem?_map, List.getElem?_range hi]
  rfl

theorem mdWidthsM_ok (v : RTable) (hs : List RCell) (h : ∀ cs, some cs ∈ v.rows → cs.length ≤ v.ncols) :
    mdWidthsM v hs = .ok (mdWidthsOf v hs) := by
  unfold mdWidthsM mdWidthsOf
  generalize mdWidths0 v.ncols hs = ws
  generalize v.rows = rows at h
  induction rows generalizing ws with
  | nil => rfl
  | cons r rows ih =>
    have ih' := fun ws => ih ws (fun cs hcs => h cs (List.mem_cons_of_mem _ hcs))
    cases r with
    | none => exact ih' ws
    | some cells =>
      have : ¬ cells.length > v.ncols := Nat.not_lt.2 (h cells List.mem_cons_self)
      simp only [List.foldlM_cons, List.foldl_cons, this, if_false]
      exact ih' _

theorem mdWidthsM_long_row (v : RTable) (hs : List RCell)
    (h : ∃ cs, some cs ∈ v.rows ∧ v.ncols < cs.length) : mdWidthsM v hs = .error (.err .structural) := by
  unfold mdWidthsM
  generalize mdWidths0 v.ncols hs = ws
  generalize v.rows = rows at h
  induction rows generalizing ws with
  | nil => obtain ⟨cs, hm, _⟩ := h; cases hm
  | cons r rows ih =>
    obtain ⟨cs, hm, hlen⟩ := h
    cases r with
    | none => exact ih ws ⟨cs, by simpa using hm, hlen⟩
    | some cells =>
      by_cases hc : cells.length > v.ncols
      · simp only [List.foldlM_cons, hc, if_true]; rfl
      · simp only [List.foldlM_cons, hc, if_false]
        rcases List.mem_cons.mp hm with e | e
        · cases e; exact absurd hlen hc
        · exact ih _ ⟨cs, e, hlen⟩

/-- `alignEntryOK` decides whether the type assertion goes through -/
theorem alignOf_of_ok (raw : Option Val) :
    alignEntryOK raw = true → alignOf raw = .ok (match raw with | some (.align a) => a | _ => 0) := by
  intro h
  cases raw with
  | none => rfl
  | some x => cases x <;> first | rfl | cases h

theorem alignOf_bad (raw : Option Val) (h : alignEntryOK raw = false) :
    alignOf raw = .error (.panic "interface conversion: not align.Alignment") := by
  cases raw with
  | none => cases h
  | some x => cases x <;> first | rfl | cases h

theorem alignEntryOK_getD (v : RTable) (hv : AlignsOK v) (k : Nat) :
    alignEntryOK (v.colAlign.getD k none) = true := by
  rw [List.getD_eq_getElem?_getD]
  cases hk : v.colAlign[k]? with
  | none => rfl
  | some x => exact List.all_eq_true.mp hv x (List.mem_of_getElem? hk)

theorem alignOf_effAlign (v : RTable) (hv : AlignsOK v) (i : Nat) :
    alignOf (effAlign v i) = .ok (effAlignNat v i) := by
  apply alignOf_of_ok
  unfold effAlign
  split
  · next a h => rw [← h]; exact alignEntryOK_getD v hv _
  · exact alignEntryOK_getD v hv 0

theorem mdAlignsM_ok (v : RTable) (hv : AlignsOK v) : mdAlignsM v = .ok (mdAlignsOf v) :=
  mapM_ok _ _ _ (fun i _ => alignOf_effAlign v hv i)

/-! ### the whole table -/

/-- the lines (without their LF) the renderer writes for an accepted view -/
def mdLinesOf (dw : Measure) (v : RTable) (hs : List RCell) : List Bytes :=
  mdRowLine dw v.ncols hs (mdWidthsOf v hs) (mdAlignsOf v) true ::
  mdRowLine dw v.ncols (mdControlRow v (mdWidthsOf v hs) (mdAlignsOf v)) (mdWidthsOf v hs) (mdAlignsOf v) false ::
  (bodyRows v).map (fun cells => mdRowLine dw v.ncols cells (mdWidthsOf v hs) (mdAlignsOf v) true)

theorem flatMap_rows (rows : List (Option (List RCell))) (f : List RCell → Bytes) :
    rows.flatMap (fun r => match r with | none => [] | some cs => f cs) = ((rows.filterMap id).map f).flatten := by
  induction rows with
  | nil => rfl
  | cons r rows ih =>
    cases r with
    | none => exact ih
    | some cs => exact congrArg (f cs ++ ·) ih

theorem renderMarkdown_ok (dw : Measure) (v : RTable) (hs : List RCell) (hn : 1 ≤ v.ncols)
    (hh : v.header = some hs) (hshape : WFShape v) (hal : AlignsOK v) :
    Writes (renderMarkdown dw v) () ((mdLinesOf dw v hs).map (· ++ [LF])).flatten := by
  have hhl : hs.length ≤ v.ncols := hshape.1 hs hh
  have hwl := mdWidthsOf_length v hs
  have hall := mdAlignsOf_length v
  have hrow := fun cells hc => mdEmitRow_ok dw v.ncols cells (mdWidthsOf v hs) (mdAlignsOf v) true hc hwl hall
  rw [renderMarkdown_eq dw v hs (Nat.not_lt.2 hn) hh (Nat.not_lt.2 hhl), mdWidthsM_ok v hs hshape.2,
    bind'_lift_ok, mdAlignsM_ok v hal, bind'_lift_ok, mdEmitRows]
  simp only [bind_eq]
  refine Writes.congr (.bind (hrow hs hhl) <|
    .bind (mdEmitRow_ok dw v.ncols _ _ _ false (by simp [mdControlRow]) hwl hall) <|
    .forM' (g := fun r => match r with
      | none => []
      | some cs => mdRowLine dw v.ncols cs (mdWidthsOf v hs) (mdAlignsOf v) true ++ [LF]) fun r hr => ?_) ?_
  · cases r with
    | none => exact .pure ()
    | some cells => exact hrow cells (hshape.2 cells hr)
  · rw [flatMap_rows, mdLinesOf, List.map_cons, List.map_cons, List.flatten_cons, List.flatten_cons, List.map_map]
    rfl

theorem renderMarkdown_long_row (dw : Measure) (v : RTable) (hs : List RCell) (h : ¬ v.ncols < 1)
    (hh : v.header = some hs) (hl : ¬ hs.length > v.ncols) (hr : ∃ cs, some cs ∈ v.rows ∧ v.ncols < cs.length) :
    (renderMarkdown dw v).res = .error (.err .structural) ∧ (renderMarkdown dw v).chunks = [] := by
  rw [renderMarkdown_eq dw v hs h hh hl, mdWidthsM_long_row v hs hr, bind'_lift_err]
  exact ⟨rfl, rfl⟩

/-! ### every line is a `pipeLine` of good pieces -/

theorem mdRowBodies_good (dw : Measure) (ncols : Nat) (cells : List RCell) (widths : List Int)
    (aligns : List Nat) (addPads : Bool)
    (h : ∀ c ∈ cells, ∀ w a, GoodPiece (mdSeg addPads (mdPadded dw c w a))) :
    ∀ b ∈ mdRowBodies dw ncols cells widths aligns addPads, GoodPiece b := by
  intro b hb
  rw [mdRowBodies, List.mem_append, List.mem_map, List.mem_replicate] at hb
  rcases hb with ⟨p, hp, rfl⟩ | hb
  · exact h p.1 (List.fst_mem_of_mem_zipIdx hp) _ _
  · rw [hb.2]; exact goodPiece_sp

theorem mdRowBodies_good_true (dw : Measure) (ncols : Nat) (cells : List RCell) (widths : List Int)
    (aligns : List Nat) : ∀ b ∈ mdRowBodies dw ncols cells widths aligns true, GoodPiece b :=
  mdRowBodies_good dw ncols cells widths aligns true (fun c _ w a => goodPiece_seg_true dw c w a)

theorem mdRowBodies_good_control (dw : Measure) (v : RTable) (ws : List Int) (as : List Nat)
    (widths : List Int) (aligns : List Nat) :
    ∀ b ∈ mdRowBodies dw v.ncols (mdControlRow v ws as) widths aligns false, GoodPiece b := by
  refine mdRowBodies_good dw v.ncols _ widths aligns false (fun c hc w a => ?_)
  rw [mdControlRow, List.mem_map] at hc
  obtain ⟨i, _, rfl⟩ := hc
  exact goodPiece_seg_control dw _ w _ a

def IsPipeLine (ncols : Nat) (l : Bytes) : Prop :=
  ∃ bs : List Bytes, l = pipeLine bs ∧ bs.length = ncols ∧ ∀ b ∈ bs, GoodPiece b

theorem mdLinesOf_form (dw : Measure) (v : RTable) (hs : List RCell) (hh : v.header = some hs)
    (hshape : WFShape v) : ∀ l ∈ mdLinesOf dw v hs, IsPipeLine v.ncols l := by
  intro l hl
  simp only [mdLinesOf, List.mem_cons, List.mem_map] at hl
  rcases hl with rfl | rfl | ⟨cells, hc, rfl⟩
  · exact ⟨_, rfl, mdRowBodies_length _ _ _ _ _ _ (hshape.1 hs hh), mdRowBodies_good_true _ _ _ _ _⟩
  · exact ⟨_, rfl, mdRowBodies_length _ _ _ _ _ _ (by simp [mdControlRow]), mdRowBodies_good_control _ _ _ _ _ _⟩
  · have : some cells ∈ v.rows := by
      simp only [bodyRows, List.mem_filterMap, id] at hc
      obtain ⟨r, hr, e⟩ := hc
      rw [← e]; exact hr
    exact ⟨_, rfl, mdRowBodies_length _ _ _ _ _ _ (hshape.2 cells this), mdRowBodies_good_true _ _ _ _ _⟩

theorem IsPipeLine.facts {n : Nat} {l : Bytes} (h : IsPipeLine n l) :
    LF ∉ l ∧ unescapedPipes l = n + 1 ∧ l.count 124 = n + 1 ∧ (splitPipes l).length = n + 2 := by
  obtain ⟨bs, rfl, hlen, hg⟩ := h
  refine ⟨not_mem_lf_pieces bs hg, ?_, ?_, ?_⟩
  · rw [unescapedPipes_pipeLine bs hg, hlen]
  · rw [count_pipeLine bs hg, hlen]
  · rw [splitPipes_pipeLine bs hg]; simp [hlen]

theorem mdRowLine_get (dw : Measure) (ncols : Nat) (cells : List RCell) (widths : List Int)
    (aligns : List Nat) (addPads : Bool) (hg : ∀ b ∈ mdRowBodies dw ncols cells widths aligns addPads, GoodPiece b)
    (hc : cells.length ≤ ncols) (j : Nat) (hj : j < ncols) :
    (splitPipes (mdRowLine dw ncols cells widths aligns addPads))[j + 1]? =
      some (match cells[j]? with
        | some c => mdSeg addPads (mdPadded dw c (widths.getD j 0) (aligns.getD j 0))
        | none => [32]) := by
  have hlen := mdRowBodies_length dw ncols cells widths aligns addPads hc
  rw [mdRowLine, splitPipes_pipeLine_get _ hg j (hlen.symm ▸ hj), mdRowBodies, List.getElem?_append,
    List.length_map, List.length_zipIdx, List.getElem?_map, List.getElem?_zipIdx, Nat.zero_add]
  by_cases hjc : j < cells.length
  · rw [if_pos hjc, List.getElem?_eq_getElem hjc]; rfl
  · rw [if_neg hjc, List.getElem?_eq_none (Nat.not_lt.1 hjc), List.getElem?_replicate, if_pos (by omega)]

theorem renderMarkdown_lines (dw : Measure) (v : RTable) (hs : List RCell) (hn : 1 ≤ v.ncols)
    (hh : v.header = some hs) (hshape : WFShape v) (hal : AlignsOK v) :
    lines (renderMarkdown dw v).output = mdLinesOf dw v hs := by
  rw [(renderMarkdown_ok dw v hs hn hh hshape hal).output]
  exact lines_flatten _ (fun l hl => (mdLinesOf_form dw v hs hh hshape l hl).facts.1)

theorem mdLinesOf_length (dw : Measure) (v : RTable) (hs : List RCell) :
    (mdLinesOf dw v hs).length = 2 + (bodyRows v).length := by
  simp [mdLinesOf]; omega

/-! ### the panic branch -/

theorem renderMarkdown_bad_align (dw : Measure) (v : RTable) (hs : List RCell) (hn : 1 ≤ v.ncols)
    (hh : v.header = some hs) (hshape : WFShape v)
    (hbad : ∃ i, i < v.ncols ∧ alignEntryOK (effAlign v i) = false) :
    (renderMarkdown dw v).res = .error (.panic "interface conversion: not align.Alignment") ∧
    (renderMarkdown dw v).chunks = [] := by
  have hmap : mdAlignsM v = .error (.panic "interface conversion: not align.Alignment") := by
    apply mapM_err
    · intro i _
      cases h : alignEntryOK (effAlign v i) with
      | true => exact .inl ⟨_, alignOf_of_ok _ h⟩
      | false => exact .inr (alignOf_bad _ h)
    · obtain ⟨i, hi, hb⟩ := hbad
      exact ⟨i, List.mem_range.2 hi, alignOf_bad _ hb⟩
  rw [renderMarkdown_eq dw v hs (Nat.not_lt.2 hn) hh (Nat.not_lt.2 (hshape.1 hs hh)),
    mdWidthsM_ok v hs hshape.2, bind'_lift_ok, hmap, bind'_lift_err]
  exact ⟨rfl, rfl⟩

end Tab
