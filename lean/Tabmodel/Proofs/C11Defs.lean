/-
  C11 — spec definitions shared by the helper lemmas (`Proofs/C11.lean`) and the property
  theorems (`Props/C11.lean`).  They live here only because the helper lemmas need them;
  `Props/C11.lean` restates them (`c11_def_*`), all but `addQuiet` and the monitored traversal.
-/
import Tabmodel.Model.Errors
import Tabmodel.Model.World
namespace Tab

/-! ### container level -/

/-- One operation on a stand-alone container: `inl e` is `AddError(e)`, `inr l` is `AddErrorList(l)`. -/
abbrev ECOp := Sum (Option Nat) (List (Option Nat))

def EC.applyOp (c : EC) : ECOp → EC
  | .inl e => c.addError e
  | .inr l => c.addErrorList l

/-- the non-nil arguments of an operation, in order -/
def EC.opArgs : ECOp → List Nat
  | .inl e => e.toList
  | .inr l => l.filterMap id

namespace World

/-! ### error mass -/

/-- occurrences of `e` in a row's *own* container (0 when the row has none or shares the table's) -/
def ownCount (e : Nat) (rw : Row) : Nat :=
  match rw.ec with
  | .own es => es.count e
  | _ => 0

/-- `mass w e`: the number of occurrences of error id `e` in all table lists plus all own row
    containers of the world. -/
def mass (w : World) (e : Nat) : Nat :=
  (w.tables.map (fun tb => tb.errs.count e)).sum + (w.rows.map (ownCount e)).sum

/-- A taker is live when an `AddError` through it is stored somewhere: a valid table; a row
    that owns a container; or a valid row itself (`Row.AddError` allocates on demand), whose
    container, if it is a table's, is that of a valid table. -/
def live (w : World) : Taker → Prop
  | .drop => False
  | .table t => t < w.tables.length
  | .rowOwn r => match (w.row r).ec with | .own _ => True | _ => False
  | .rowLazy r => r < w.rows.length ∧
      match (w.row r).ec with | .table t => t < w.tables.length | _ => True

instance (w : World) (tk : Taker) : Decidable (w.live tk) := by
  cases tk <;> simp only [live] <;> (try split) <;> infer_instance

/-- a row that has not been attached: no container yet, or its own -/
def unattached (w : World) (r : Nat) : Prop :=
  (w.row r).ec = .none ∨ ∃ es, (w.row r).ec = .own es

instance (w : World) (r : Nat) : Decidable (w.unattached r) := by
  unfold unattached
  cases h : (w.row r).ec with
  | none => exact isTrue (Or.inl rfl)
  | own es => exact isTrue (Or.inr ⟨es, rfl⟩)
  | table t => exact isFalse (by simp)

/-! ### callbacks -/

/-- the error a callback returns when invoked on `tgt` (`none`: returns nil) -/
def raises (tgt : Target) : Cb → Option Nat
  | .log _ => none
  | .setProp _ _ _ => none
  | .fail _ e => some e
  | .dimSetter => match tgt with | .cell _ _ => none | _ => some errTTNotCell
  | .widthSetter => match tgt with | .cell _ _ => none | _ => some errMDNotCell

/-- how many callbacks of the list return error `e` on `tgt` -/
def raiseCount (tgt : Target) (e : Nat) (cbs : List Cb) : Nat :=
  (cbs.filter (fun cb => raises tgt cb == some e)).length

def isLog : Cb → Bool
  | .log _ => true
  | _ => false

/-- all add-time cell callbacks of a table and of its columns only log -/
def quietT (tb : Table) : Bool :=
  tb.cellCbs.add.all isLog && tb.columns.all (fun c => c.cellCbs.add.all isLog)

/-- every add-time callback that `addRow w t r` can reach only logs (in particular: there are none) -/
def addQuiet (w : World) (t r : Nat) : Bool :=
  ((w.row r).selfCbs.add).all isLog && ((w.table t).rowCbs.add).all isLog && w.tables.all quietT

/-! ### render traversal with a liveness monitor

  `Chk` pairs the world with the proposition "every `invoke` so far was given a live taker".
  `invokeC` is `invoke` on the first component; the `…C` functions below are the model's
  render traversal with `invoke` replaced by `invokeC` (their first components are proved equal
  to the model functions in `Props/C11.lean`, `c11_monitor_faithful`). -/

abbrev Chk := World × Prop

def invokeC (dw : Measure) (c : Chk) (cbs : World → List Cb) (tgt : Target) (tk : World → Taker) : Chk :=
  (invoke dw c.1 (cbs c.1) tgt (tk c.1), c.2 ∧ live c.1 (tk c.1))

/-- The eight `invoke` calls `renderCells` makes for cell `i` of row `r`, in order: the callback
    list and the taker, each as a function of the world at the time of the call (`col` is the
    cell's column, computed once before the first call). -/
def cellCalls (t r i : Nat) (col : Option (Nat × Nat)) :
    List ((World → List Cb) × (World → Taker)) :=
  [ (fun w => (w.table t).cellCbs.at .pre, fun _ => .table t),
    (fun w => colCellCbs w col .pre, fun w => rowECTaker w r),
    (fun w => (w.row r).cellCbs.at .pre, fun _ => .table t),
    (fun w => (w.table t).cellCbs.at .render, fun _ => .table t),
    (fun w => ((w.cell? r i).map (·.cbs.at .render)).getD [], fun _ => .table t),
    (fun w => (w.row r).cellCbs.at .post, fun _ => .table t),
    (fun w => colCellCbs w col .post, fun w => rowECTaker w r),
    (fun w => (w.table t).cellCbs.at .post, fun _ => .table t) ]

def renderCellC (dw : Measure) (t r i : Nat) (c : Chk) : Chk :=
  (cellCalls t r i (columnOf c.1 r i)).foldl (fun c d => invokeC dw c d.1 (.cell r i) d.2) c

def renderCellsC (dw : Measure) (t r : Nat) : Nat → Nat → Chk → Chk
  | 0, _, c => c
  | n + 1, i, c => renderCellsC dw t r n (i + 1) (renderCellC dw t r i c)

def renderRowC (dw : Measure) (t : Nat) (c : Chk) (r : Nat) : Chk :=
  let c := invokeC dw c (fun w => (w.row r).selfCbs.at .pre) (.row r) (fun _ => .table t)
  let c := renderCellsC dw t r (c.1.rowCells r).length 0 c
  invokeC dw c (fun w => (w.row r).selfCbs.at .post) (.row r) (fun _ => .table t)

def renderColumnsC (dw : Measure) (t : Nat) (tm : Time) : Nat → Nat → Chk → Chk
  | 0, _, c => c
  | n + 1, i, c =>
    let c := invokeC dw c (fun w => ((w.column? t i).map (·.selfCbs.at tm)).getD [])
      (.column t i) (fun _ => .table t)
    renderColumnsC dw t tm n (i + 1) c

def renderHeaderC (dw : Measure) (t : Nat) (c : Chk) : Chk :=
  match (c.1.table t).header with
  | some hr => renderRowC dw t c hr
  | none => c

def invokeRenderCallbacksC (dw : Measure) (c : Chk) (t : Nat) : Chk :=
  let c := invokeC dw c (fun w => (w.table t).selfCbs.at .pre) (.table t) (fun _ => .table t)
  let ncol := (c.1.table t).columns.length
  let c := renderColumnsC dw t .pre ncol 0 c
  let c := renderHeaderC dw t c
  let c := (c.1.table t).rows.foldl (renderRowC dw t) c
  let c := renderColumnsC dw t .post ncol 0 c
  invokeC dw c (fun w => (w.table t).selfCbs.at .post) (.table t) (fun _ => .table t)

/-- all rows of table `t` (and its header row) share the table's container, and `t` exists -/
def attachedAll (w : World) (t : Nat) : Prop :=
  t < w.tables.length ∧
  (∀ r ∈ (w.table t).rows, (w.row r).ec = .table t) ∧
  (∀ hr ∈ (w.table t).header, (w.row hr).ec = .table t)

instance (w : World) (t : Nat) : Decidable (w.attachedAll t) := by
  unfold attachedAll; infer_instance

end World
end Tab
