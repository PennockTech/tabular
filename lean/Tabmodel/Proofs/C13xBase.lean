/- C13x helper lemmas: what invoking ANY callback does to the event log, the callback sets and the skeleton
   (`sameSkeleton_*`: the conclusion is a `SameSkeleton`); the invariant carried along a traversal (`StepInv`: kept by one invocation; `Ext`: the state
   reached; `Traversal`: the conclusion for every such invariant); what a world with `w0`'s skeleton reads the
   same as `w0` (the `same_*` lemmas with a `SameSkeleton` hypothesis). -/
import Tabmodel.Proofs.C13xSpec
import Tabmodel.Proofs.C13Add
import Tabmodel.Proofs.WorldShape
import Tabmodel.Proofs.Traverse
namespace Tab
open World
open C13
namespace C13x

@[simp] theorem userEvents_nil (tgt : Target) : userEvents [] tgt = [] := rfl
theorem userIds_append (a b : List Cb) : userIds (a ++ b) = userIds a ++ userIds b := by
  simp [userIds, List.filterMap_append]
theorem userEvents_append (a b : List Cb) (tgt : Target) :
    userEvents (a ++ b) tgt = userEvents a tgt ++ userEvents b tgt := by
  simp [userEvents, userIds_append]
theorem userEvents_cons (cb : Cb) (cbs : List Cb) (tgt : Target) :
    userEvents (cb :: cbs) tgt = userEvents [cb] tgt ++ userEvents cbs tgt :=
  userEvents_append [cb] cbs tgt
theorem userEvents_one (cb : Cb) (tgt : Target) :
    userEvents [cb] tgt = match cb.id? with | some id => [⟨id, tgt⟩] | none => [] := by
  cases cb <;> rfl

theorem sameSkeleton_refl (w : World) : SameSkeleton w w := ⟨fun _ => rfl, rfl, rfl⟩
theorem sameSkeleton_trans {a b c : World} (h1 : SameSkeleton a b) (h2 : SameSkeleton b c) : SameSkeleton a c :=
  ⟨fun s => (h1.cbs s).trans (h2.cbs s), h1.shape.trans h2.shape, h1.ncopies.trans h2.ncopies⟩
theorem sameSkeleton_symm {a b : World} (h : SameSkeleton a b) : SameSkeleton b a :=
  ⟨fun s => (h.cbs s).symm, h.shape.symm, h.ncopies.symm⟩

theorem sameSkeleton_withEvents (w : World) (es : List Event) : SameSkeleton ({ w with events := es } : World) w :=
  ⟨fun s => by cases s <;> rfl, rfl, rfl⟩

theorem cbSet_setProp (w : World) (o : Target) (k : Key) (v : Option Val) (s : CbSlot) :
    (w.setProp o k v).cbSet s = w.cbSet s := by
  cases o with
  | table t =>
    exact cbSet_modTable_of w t _ (by intro _; rfl) (by intro _; rfl) (by intro _; rfl)
      (by intro _ _; rfl) (by intro _ _; rfl) s
  | column t n => exact cbSet_modColumn_of w t n _ (by intro _; rfl) (by intro _; rfl) s
  | row r => exact cbSet_modRow_of w r _ (by intro _; rfl) (by intro _; rfl) (by intro _; rfl) s
  | cell r c => exact cbSet_modCell_of w r c _ (by intro _; rfl) s
  | copy n => exact cbSet_modCopy_of w n _ (by intro _; rfl) s

theorem cbSet_addErrTo (w : World) (tk : Taker) (e : Nat) (s : CbSlot) :
    (w.addErrTo tk e).cbSet s = w.cbSet s :=
  addErrTo_keeps (P := fun w' => w'.cbSet s = w.cbSet s) w tk e rfl
    (fun t _ => cbSet_modTable_of w t _ (by intro _; rfl) (by intro _; rfl) (by intro _; rfl)
      (by intro _ _; rfl) (by intro _ _; rfl) s)
    (fun r f hf => cbSet_modRow_of w r f (by intro rw; rw [hf]) (by intro rw; rw [hf]) (by intro rw; rw [hf]) s)

theorem events_setProp (w : World) (o : Target) (k : Key) (v : Option Val) :
    (w.setProp o k v).events = w.events := by
  cases o <;> rfl

theorem events_addErrTo (w : World) (tk : Taker) (e : Nat) : (w.addErrTo tk e).events = w.events :=
  addErrTo_keeps (P := fun w' => w'.events = w.events) w tk e rfl (fun _ _ => rfl) (fun _ _ _ => rfl)

theorem copies_length_setProp (w : World) (o : Target) (k : Key) (v : Option Val) :
    (w.setProp o k v).copies.length = w.copies.length := by
  cases o with
  | copy n => exact List.length_modify ..
  | _ => rfl

theorem copies_addErrTo (w : World) (tk : Taker) (e : Nat) : (w.addErrTo tk e).copies = w.copies :=
  addErrTo_keeps (P := fun w' => w'.copies = w.copies) w tk e rfl (fun _ _ => rfl) (fun _ _ _ => rfl)

theorem sameSkeleton_setProp (w : World) (o : Target) (k : Key) (v : Option Val) :
    SameSkeleton (w.setProp o k v) w :=
  ⟨cbSet_setProp w o k v, shape_setProp w o k v, copies_length_setProp w o k v⟩

theorem sameSkeleton_addErrTo (w : World) (tk : Taker) (e : Nat) : SameSkeleton (w.addErrTo tk e) w :=
  ⟨cbSet_addErrTo w tk e, shape_addErrTo w tk e, by rw [copies_addErrTo]⟩

theorem sameSkeleton_invokeOne (dw : Measure) (w : World) (cb : Cb) (tgt : Target) (tk : Taker) :
    SameSkeleton (invokeOne dw w cb tgt tk) w :=
  invokeOne_frame (P := fun w' => SameSkeleton w' w) dw w cb tgt tk
    (fun w' es h => sameSkeleton_trans (sameSkeleton_withEvents w' es) h)
    (fun w' k v h => sameSkeleton_trans (sameSkeleton_setProp w' tgt k v) h)
    (fun w' e h => sameSkeleton_trans (sameSkeleton_addErrTo w' tk e) h) (sameSkeleton_refl w)

theorem events_invokeOne (dw : Measure) (w : World) (cb : Cb) (tgt : Target) (tk : Taker) :
    (invokeOne dw w cb tgt tk).events = w.events ++ userEvents [cb] tgt := by
  cases cb with
  | log id => rfl
  | setProp id k v => exact events_setProp _ tgt k v
  | fail id e => exact events_addErrTo _ tk e
  | dimSetter =>
    rw [show userEvents [.dimSetter] tgt = [] from rfl, List.append_nil]
    simp only [World.invokeOne]
    split
    · split
      · rw [events_setProp, events_setProp]
      · rfl
    · exact events_addErrTo ..
  | widthSetter =>
    rw [show userEvents [.widthSetter] tgt = [] from rfl, List.append_nil]
    simp only [World.invokeOne]
    split
    · split
      · exact events_setProp ..
      · rfl
    · exact events_addErrTo ..

/-! ### the invariant carried along a traversal -/

/-- `J` (of a world and the events logged so far) is kept by one invocation of a callback registered in `w0`, in
    any world that still has `w0`'s skeleton -/
def StepInv (dw : Measure) (w0 : World) (J : World → List Event → Prop) : Prop :=
  ∀ w' es cb tgt tk, SameSkeleton w' w0 → (∃ s tm, cb ∈ w0.cbsAt s tm) → J w' es →
    J (invokeOne dw w' cb tgt tk) (es ++ userEvents [cb] tgt)

/-- `w'` extends `w0`: same skeleton, the log grown by `es`, and `J` holds -/
structure Ext (w0 : World) (J : World → List Event → Prop) (w' : World) (es : List Event) : Prop where
  same : SameSkeleton w' w0
  events : w'.events = w0.events ++ es
  inv : J w' es

theorem Ext.init {w0 : World} {J : World → List Event → Prop} (h0 : J w0 []) : Ext w0 J w0 [] :=
  ⟨sameSkeleton_refl w0, (List.append_nil _).symm, h0⟩

theorem Ext.cast {w0 : World} {J : World → List Event → Prop} {w' : World} {es es' : List Event}
    (h : Ext w0 J w' es) (e : es = es') : Ext w0 J w' es' := e ▸ h

/-- `w'` comes from `w0` by invoking callbacks registered in `w0`, which logged `es`: whatever one such
    invocation keeps (`StepInv`), the whole keeps -/
def Traversal (dw : Measure) (w0 w' : World) (es : List Event) : Prop :=
  ∀ J : World → List Event → Prop, StepInv dw w0 J → J w0 [] → Ext w0 J w' es

theorem Traversal.refl (dw : Measure) (w : World) : Traversal dw w w [] :=
  fun _ _ h0 => .init h0

theorem Traversal.ext {dw : Measure} {w0 w' : World} {es : List Event} (h : Traversal dw w0 w' es) :
    Ext w0 (fun _ _ => True) w' es :=
  h _ (fun _ _ _ _ _ _ _ _ => trivial) trivial

theorem Traversal.same {dw : Measure} {w0 w' : World} {es : List Event} (h : Traversal dw w0 w' es) :
    SameSkeleton w' w0 := h.ext.same

theorem Traversal.events {dw : Measure} {w0 w' : World} {es : List Event} (h : Traversal dw w0 w' es) :
    w'.events = w0.events ++ es := h.ext.events

/-- in a world whose callbacks are all `.log`, a traversal extends the log and does nothing else -/
theorem Traversal.log {dw : Measure} {w0 w' : World} {es : List Event} (h : LogOnlyAt w0)
    (hT : Traversal dw w0 w' es) : w' = w0.addEv es := by
  refine (hT (fun w' es => w' = w0.addEv es) ?_ (addEv_nil w0).symm).inv
  rintro w' es cb tgt tk _ ⟨s, tm, hcb⟩ rfl
  cases cb with
  | log id => exact addEv_addEv w0 es [⟨id, tgt⟩]
  | _ => exact absurd (h s tm _ hcb) (by simp [Cb.isLog])

theorem ext_invoke_list (dw : Measure) {w0 : World} {J : World → List Event → Prop} (hJ : StepInv dw w0 J)
    (tgt : Target) (tk : Taker) (X : List Cb) (w' : World) (es : List Event)
    (hX : ∀ cb ∈ X, ∃ s tm, cb ∈ w0.cbsAt s tm) (h : Ext w0 J w' es) :
    Ext w0 J (invoke dw w' X tgt tk) (es ++ userEvents X tgt) := by
  induction X generalizing w' es with
  | nil => rw [userEvents_nil, List.append_nil]; exact h
  | cons cb X ih =>
    rw [userEvents_cons, ← List.append_assoc]
    exact ih _ _ (fun c hc => hX c (List.mem_cons_of_mem _ hc))
      ⟨sameSkeleton_trans (sameSkeleton_invokeOne dw w' cb tgt tk) h.same,
       by rw [events_invokeOne, h.events, List.append_assoc],
       hJ w' es cb tgt tk h.same (hX cb List.mem_cons_self) h.inv⟩

theorem ext_invoke_slot (dw : Measure) {w0 : World} {J : World → List Event → Prop} (hJ : StepInv dw w0 J)
    {w' : World} {es : List Event} (h : Ext w0 J w' es) (s : CbSlot) (tm : Time) {cbs : List Cb}
    (hc : SameSkeleton w' w0 → cbs = w0.cbsAt s tm) (tgt : Target) (tk : Taker) :
    Ext w0 J (invoke dw w' cbs tgt tk) (es ++ userEvents (w0.cbsAt s tm) tgt) := by
  rw [hc h.same]
  exact ext_invoke_list dw hJ tgt tk _ _ _ (fun cb hcb => ⟨s, tm, hcb⟩) h

theorem ext_invoke_col (dw : Measure) {w0 : World} {J : World → List Event → Prop} (hJ : StepInv dw w0 J)
    {w' : World} {es : List Event} (h : Ext w0 J w' es) (r i : Nat) (tm : Time) {cbs : List Cb}
    (hc : SameSkeleton w' w0 → cbs = colCellAt w0 r i tm) (tgt : Target) (tk : Taker) :
    Ext w0 J (invoke dw w' cbs tgt tk) (es ++ userEvents (colCellAt w0 r i tm) tgt) := by
  rw [hc h.same]
  refine ext_invoke_list dw hJ tgt tk _ _ _ ?_ h
  intro cb hcb
  unfold colCellAt at hcb
  cases hco : w0.columnOf r i with
  | none => rw [hco] at hcb; simp at hcb
  | some p => rw [hco] at hcb; exact ⟨_, _, hcb⟩

/-! ### reading a world that has `w0`'s skeleton -/

theorem same_cbsAt {w' w : World} (h : SameSkeleton w' w) (s : CbSlot) (tm : Time) :
    w'.cbsAt s tm = w.cbsAt s tm := by
  simp only [World.cbsAt, h.cbs]

theorem same_table_shape {w' w : World} (h : SameSkeleton w' w) (t : Nat) :
    (w'.table t).shape = (w.table t).shape := by
  rw [← shape_table, ← shape_table, h.shape]

theorem same_row_shape {w' w : World} (h : SameSkeleton w' w) (r : Nat) :
    (w'.row r).shape = (w.row r).shape := by
  rw [← shape_row, ← shape_row, h.shape]

theorem same_header {w' w : World} (h : SameSkeleton w' w) (t : Nat) : (w'.table t).header = (w.table t).header :=
  congrArg TableShape.header (same_table_shape h t)
theorem same_rows {w' w : World} (h : SameSkeleton w' w) (t : Nat) : (w'.table t).rows = (w.table t).rows :=
  congrArg TableShape.rows (same_table_shape h t)
theorem same_nColumns {w' w : World} (h : SameSkeleton w' w) (t : Nat) :
    (w'.table t).nColumns = (w.table t).nColumns :=
  congrArg TableShape.nColumns (same_table_shape h t)
theorem same_ncolrecs {w' w : World} (h : SameSkeleton w' w) (t : Nat) :
    (w'.table t).columns.length = (w.table t).columns.length :=
  congrArg TableShape.nColRecs (same_table_shape h t)
theorem same_inTable {w' w : World} (h : SameSkeleton w' w) (r : Nat) : (w'.row r).inTable = (w.row r).inTable :=
  congrArg RowShape.inTable (same_row_shape h r)

theorem rowCells_geo (w : World) (r : Nat) : (w.rowCells r).map Cell.geo = ((w.row r).shape.cells).getD [] := by
  unfold World.rowCells Row.shape
  cases (w.row r).cells <;> rfl

theorem same_rowCells_geo {w' w : World} (h : SameSkeleton w' w) (r : Nat) :
    (w'.rowCells r).map Cell.geo = (w.rowCells r).map Cell.geo := by
  rw [rowCells_geo, rowCells_geo, same_row_shape h]

theorem same_rowCells_length {w' w : World} (h : SameSkeleton w' w) (r : Nat) :
    (w'.rowCells r).length = (w.rowCells r).length := by
  rw [← List.length_map (f := Cell.geo), same_rowCells_geo h r, List.length_map]

theorem same_cell_geo {w' w : World} (h : SameSkeleton w' w) (r c : Nat) :
    (w'.cell? r c).map Cell.geo = (w.cell? r c).map Cell.geo := by
  rw [World.cell?, World.cell?, ← List.getElem?_map, ← List.getElem?_map, same_rowCells_geo h r]

/-- `columnOfTable` in terms of the skeleton only -/
def columnOfGeo (g : Option CellGeo) (inT : Nat → Option Nat) (nCols : Nat → Nat) : Option (Nat × Nat) :=
  match g with
  | none => none
  | some (cn, ir) =>
    if cn < 1 then none else
    match ir with
    | none => none
    | some r' =>
      match inT r' with
      | none => none
      | some t => if cn > nCols t then none else some (t, cn)

theorem columnOf_eq_geo (w : World) (r c : Nat) :
    w.columnOf r c = columnOfGeo ((w.cell? r c).map Cell.geo) (fun r' => (w.row r').inTable)
      (fun t => (w.table t).nColumns) := by
  unfold World.columnOf columnOfGeo
  cases w.cell? r c <;> rfl

theorem same_columnOf {w' w : World} (h : SameSkeleton w' w) (r c : Nat) : w'.columnOf r c = w.columnOf r c := by
  rw [columnOf_eq_geo, columnOf_eq_geo, same_cell_geo h]
  congr 1
  · funext r'; exact same_inTable h r'
  · funext t; exact same_nColumns h t

theorem same_colCellAt {w' w : World} (h : SameSkeleton w' w) (r i : Nat) (tm : Time) :
    colCellAt w' r i tm = colCellAt w r i tm := by
  unfold colCellAt
  rw [same_columnOf h]
  cases w.columnOf r i with
  | none => rfl
  | some p => exact same_cbsAt h _ _

/-- the column cell-callbacks as the traversal reads them: the column was looked up in `w1`, the
    callbacks in `w2` -/
theorem same_colCellCbs {w1 w2 w : World} (h1 : SameSkeleton w1 w) (h2 : SameSkeleton w2 w) (r i : Nat) (tm : Time) :
    w2.colCellCbs (w1.columnOf r i) tm = colCellAt w r i tm := by
  rw [same_columnOf h1, ← same_columnOf h2, colCellCbs_eq, same_colCellAt h2]

theorem same_cellOwn {w' w : World} (h : SameSkeleton w' w) (r i : Nat) (tm : Time) :
    ((w'.cell? r i).map (·.cbs.at tm)).getD [] = w.cbsAt (.cellOwn r i) tm := by
  rw [cellOwn_eq, same_cbsAt h]

theorem same_colSelf {w' w : World} (h : SameSkeleton w' w) (t n : Nat) (tm : Time) :
    ((w'.column? t n).map (·.selfCbs.at tm)).getD [] = w.cbsAt (.colSelf t n) tm := by
  rw [colSelf_eq, same_cbsAt h]

end C13x
end Tab
