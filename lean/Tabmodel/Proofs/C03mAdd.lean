/-
  From additivity across accepted boundaries to `AdditiveOn dw segs`: along a chain (`chainFrom`) the measure
  of the concatenation is the sum of the measures, and the three kinds of line the text renderer writes (rule,
  boxed content, boxless content) are chains.  The content lines are walked atom by atom, each lemma taking
  what follows as a continuation `K` from the last non-empty atom: a run of spaces (`AllSp`) or a cell line.
-/
import Tabmodel.Proofs.C03mDefs
import Tabmodel.Proofs.TextFinal
namespace Tab

/-! ### chains -/

theorem dw_nil_of_across (dw : Measure) (J : Junction) (h : AdditiveAcross dw J) : dw [] = 0 := by
  have := h [] [] (Or.inl rfl)
  simp at this
  omega

theorem chainFrom_cons_nil (J : Junction) (p : Bytes) (rest : List Bytes) :
    chainFrom J p ([] :: rest) ↔ chainFrom J p rest := by
  simp [chainFrom]

theorem chainFrom_cons_ne (J : Junction) (p a : Bytes) (rest : List Bytes) (ha : a ≠ []) :
    chainFrom J p (a :: rest) ↔ (p = [] ∨ J.ok p a) ∧ chainFrom J a rest := by
  simp [chainFrom, ha]

theorem chain_additive (dw : Measure) (J : Junction) (hA : AdditiveAcross dw J) (atoms : List Bytes) :
    ∀ p, chainFrom J p atoms →
      dw atoms.flatten = (atoms.map dw).sum ∧ (p = [] ∨ atoms.flatten = [] ∨ J.ok p atoms.flatten) := by
  induction atoms with
  | nil => intro p _; exact ⟨by simpa using dw_nil_of_across dw J hA, Or.inr (Or.inl rfl)⟩
  | cons a rest ih =>
    intro p hc
    by_cases ha : a = []
    · subst ha
      rw [chainFrom_cons_nil] at hc
      obtain ⟨h1, h2⟩ := ih p hc
      refine ⟨?_, by simpa using h2⟩
      simp [h1, dw_nil_of_across dw J hA]
    · rw [chainFrom_cons_ne J p a rest ha] at hc
      obtain ⟨hp, hr⟩ := hc
      obtain ⟨h1, h2⟩ := ih a hr
      constructor
      · have hb : BoundaryOK J a rest.flatten := by
          rcases h2 with h | h | h
          · exact absurd h ha
          · exact Or.inr (Or.inl h)
          · exact Or.inr (Or.inr h)
        simp only [List.flatten_cons, List.map_cons, List.sum_cons]
        rw [hA a rest.flatten hb, h1]
      · rcases hp with hp | hp
        · exact Or.inl hp
        · right; right
          have := J.mono [] p a rest.flatten hp
          simpa using this

theorem additiveOn_of_chain (dw : Measure) (J : Junction) (hA : AdditiveAcross dw J) (segs : List Seg)
    (h : chainFrom J [] (segs.flatMap Seg.atoms)) : AdditiveOn dw segs :=
  (chain_additive dw J hA _ [] h).1

/-! ### spaces -/

theorem spaces_succ_left (k : Nat) : spaces (k + 1) = spaces k ++ [SP] := by
  simp [spaces, List.replicate_succ']

theorem spaces_succ_right (k : Nat) : spaces (k + 1) = [SP] ++ spaces k := by
  simp [spaces, List.replicate_succ]

theorem spaces_succ_ne (k : Nat) : spaces (k + 1) ≠ [] := by simp [spaces, List.replicate_succ]

theorem ok_spaces_left (J : Junction) (b : Bytes) (k : Nat) (h : J.ok [SP] b) : J.ok (spaces (k + 1)) b := by
  have := J.mono (spaces k) [SP] b [] h
  rw [spaces_succ_left]
  simpa using this

theorem ok_spaces_right (J : Junction) (a : Bytes) (k : Nat) (h : J.ok a [SP]) : J.ok a (spaces (k + 1)) := by
  have := J.mono [] a [SP] (spaces k) h
  rw [spaces_succ_right]
  simpa using this

theorem dw_spaces_of_across (dw : Measure) (J : Junction) (hA : AdditiveAcross dw J)
    (hss : J.ok [SP] [SP]) (h1 : dw [SP] = 1) (k : Nat) : dw (spaces k) = k := by
  induction k with
  | zero => simpa [spaces] using dw_nil_of_across dw J hA
  | succ n ih =>
    rw [spaces_succ_right, hA [SP] (spaces n) ?_, h1, ih]; · omega
    cases n with
    | zero => exact Or.inr (Or.inl rfl)
    | succ m => exact Or.inr (Or.inr (ok_spaces_right J _ m hss))

/-! ### plain additivity: the junction that accepts every boundary -/

theorem additiveAcross_all_iff (dw : Measure) :
    AdditiveAcross dw Junction.all ↔ ∀ a b, dw (a ++ b) = dw a + dw b :=
  ⟨fun h a b => h a b (Or.inr (Or.inr trivial)), fun h a b _ => h a b⟩

theorem glyphJunctions_all (d : Decoration) : GlyphJunctions Junction.all d :=
  ⟨trivial, fun _ _ => ⟨trivial, trivial⟩, fun _ _ => ⟨trivial, trivial, trivial, trivial, trivial⟩⟩

theorem textSafe_all (t : Bytes) : TextSafe Junction.all t := Or.inr ⟨trivial, trivial⟩

theorem dw_flatten_of_additive (dw : Measure) (h : ∀ a b, dw (a ++ b) = dw a + dw b) (L : List Bytes) :
    dw L.flatten = (L.map dw).sum := by
  induction L with
  | nil => simpa using dw_nil_of_across dw _ ((additiveAcross_all_iff dw).mpr h)
  | cons a t ih => simp [h, ih]

theorem dw_spaces_of_additive (dw : Measure) (h : ∀ a b, dw (a ++ b) = dw a + dw b)
    (h1 : dw [SP] = 1) (k : Nat) : dw (spaces k) = k :=
  dw_spaces_of_across dw Junction.all ((additiveAcross_all_iff dw).mpr h) trivial h1 k

/-! ### runs of spaces as the previous atom -/

def AllSp (p : Bytes) : Prop := ∃ k, p = spaces k

theorem allSp_sp : AllSp [SP] := ⟨1, rfl⟩
theorem allSp_nil : AllSp [] := ⟨0, rfl⟩

theorem allSp_ok_left (J : Junction) (p b : Bytes) (hp : AllSp p) (h : J.ok [SP] b) : p = [] ∨ J.ok p b := by
  obtain ⟨k, rfl⟩ := hp
  cases k with
  | zero => left; rfl
  | succ n => right; exact ok_spaces_left J b n h

theorem chain_spaces (J : Junction) (p : Bytes) (n : Nat) (rest : List Bytes) (hp : AllSp p)
    (hss : J.ok [SP] [SP]) (K : ∀ q, AllSp q → chainFrom J q rest) :
    chainFrom J p (spaces n :: rest) := by
  cases n with
  | zero =>
    have : spaces 0 = [] := rfl
    rw [this, chainFrom_cons_nil]; exact K p hp
  | succ m =>
    rw [chainFrom_cons_ne J p _ rest (spaces_succ_ne m)]
    exact ⟨allSp_ok_left J p _ hp (ok_spaces_right J _ m hss), K _ ⟨m + 1, rfl⟩⟩

theorem chain_text (J : Junction) (p t : Bytes) (rp : Nat) (rest : List Bytes) (hp : AllSp p)
    (ht : TextSafe J t) (hss : J.ok [SP] [SP])
    (K : ∀ q, AllSp q ∨ (q = t ∧ t ≠ []) → chainFrom J q rest) :
    chainFrom J p (t :: spaces rp :: rest) := by
  by_cases hte : t = []
  · subst hte
    rw [chainFrom_cons_nil]
    exact chain_spaces J p rp rest hp hss (fun q hq => K q (Or.inl hq))
  · rcases ht with ht | ⟨h1, h2⟩
    · exact absurd ht hte
    · rw [chainFrom_cons_ne J p t _ hte]
      refine ⟨allSp_ok_left J p t hp h1, ?_⟩
      cases rp with
      | zero =>
        have : spaces 0 = [] := rfl
        rw [this, chainFrom_cons_nil]; exact K t (Or.inr ⟨rfl, hte⟩)
      | succ m =>
        rw [chainFrom_cons_ne J t _ rest (spaces_succ_ne m)]
        exact ⟨Or.inr (ok_spaces_right J t m h2), K _ (Or.inl ⟨m + 1, rfl⟩)⟩

theorem chain_slot_sp (J : Junction) (p : Bytes) (s : SlotD) (rest : List Bytes) (hp : AllSp p)
    (ht : TextSafe J s.ws.s) (hss : J.ok [SP] [SP]) (K : chainFrom J [SP] rest) :
    chainFrom J p (spaces s.lp :: s.ws.s :: spaces s.rp :: [SP] :: rest) := by
  apply chain_spaces J p s.lp _ hp hss
  intro q hq
  apply chain_text J q s.ws.s s.rp _ hq ht hss
  intro q' hq'
  rw [chainFrom_cons_ne J q' [SP] rest (by simp)]
  refine ⟨?_, K⟩
  rcases hq' with hq' | ⟨rfl, hne⟩
  · exact allSp_ok_left J q' _ hq' hss
  · rcases ht with ht | ⟨_, h2⟩
    · exact absurd ht hne
    · exact Or.inr h2

theorem chain_slot_last (J : Junction) (p : Bytes) (s : SlotD) (hp : AllSp p)
    (ht : TextSafe J s.ws.s) (hss : J.ok [SP] [SP]) :
    chainFrom J p [spaces s.lp, s.ws.s, spaces s.rp] := by
  apply chain_spaces J p s.lp _ hp hss
  intro q hq
  apply chain_text J q s.ws.s s.rp _ hq ht hss
  intro _ _
  trivial

/-! ### the three kinds of line -/

theorem chain_boxlessSegs (J : Junction) (slots : List SlotD) (hss : J.ok [SP] [SP])
    (ht : ∀ s ∈ slots, TextSafe J s.ws.s) :
    ∀ p, AllSp p → chainFrom J p ((boxlessSegs slots).flatMap Seg.atoms) := by
  induction slots with
  | nil => intro p _; simp [boxlessSegs, chainFrom]
  | cons s t ih =>
    intro p hp
    cases t with
    | nil =>
      simp only [boxlessSegs, SlotD.seg, List.flatMap_cons, List.flatMap_nil, Seg.atoms, List.append_nil]
      exact chain_slot_last J p s hp (ht s (by simp)) hss
    | cons s' t' =>
      have e : (boxlessSegs (s :: s' :: t')).flatMap Seg.atoms
          = spaces s.lp :: s.ws.s :: spaces s.rp :: [SP] :: (boxlessSegs (s' :: t')).flatMap Seg.atoms := by
        simp [boxlessSegs, SlotD.seg, Seg.atoms]
      rw [e]
      exact chain_slot_sp J p s _ hp (ht s (by simp)) hss
        (ih (fun x hx => ht x (List.mem_cons_of_mem _ hx)) [SP] allSp_sp)

theorem chain_boxedTail (J : Junction) (I R : Bytes) (slots : List SlotD) (hss : J.ok [SP] [SP])
    (hI : I ≠ []) (hR : R ≠ []) (hI1 : J.ok [SP] I) (hI2 : J.ok I [SP]) (hR1 : J.ok [SP] R)
    (ht : ∀ s ∈ slots, TextSafe J s.ws.s) :
    chainFrom J [SP] ((boxedTail I R slots).flatMap Seg.atoms) := by
  induction slots with
  | nil =>
    simp only [boxedTail, List.flatMap_cons, List.flatMap_nil, Seg.atoms, List.append_nil]
    rw [chainFrom_cons_ne J _ R [] hR]
    exact ⟨Or.inr hR1, trivial⟩
  | cons s t ih =>
    cases t with
    | nil =>
      have e : (boxedTail I R [s]).flatMap Seg.atoms
          = spaces s.lp :: s.ws.s :: spaces s.rp :: [SP] :: [R] := by
        simp [boxedTail, SlotD.seg, Seg.atoms]
      rw [e]
      apply chain_slot_sp J [SP] s _ allSp_sp (ht s (by simp)) hss
      rw [chainFrom_cons_ne J _ R [] hR]
      exact ⟨Or.inr hR1, trivial⟩
    | cons s' t' =>
      have e : (boxedTail I R (s :: s' :: t')).flatMap Seg.atoms
          = spaces s.lp :: s.ws.s :: spaces s.rp :: [SP] :: I :: [SP] ::
              (boxedTail I R (s' :: t')).flatMap Seg.atoms := by
        simp [boxedTail, SlotD.seg, Seg.atoms]
      rw [e]
      apply chain_slot_sp J [SP] s _ allSp_sp (ht s (by simp)) hss
      rw [chainFrom_cons_ne J _ I _ hI, chainFrom_cons_ne J I [SP] _ (by simp)]
      exact ⟨Or.inr hI1, Or.inr hI2, ih (fun x hx => ht x (List.mem_cons_of_mem _ hx))⟩

theorem chain_boxedSegs (J : Junction) (L I R : Bytes) (slots : List SlotD) (hss : J.ok [SP] [SP])
    (hL : L ≠ []) (hI : I ≠ []) (hR : R ≠ []) (hL2 : J.ok L [SP])
    (hI1 : J.ok [SP] I) (hI2 : J.ok I [SP]) (hR1 : J.ok [SP] R)
    (ht : ∀ s ∈ slots, TextSafe J s.ws.s) :
    chainFrom J [] ((boxedSegs L I R slots).flatMap Seg.atoms) := by
  have e : (boxedSegs L I R slots).flatMap Seg.atoms
      = L :: [SP] :: (boxedTail I R slots).flatMap Seg.atoms := by
    simp [boxedSegs, Seg.atoms]
  rw [e, chainFrom_cons_ne J _ L _ hL, chainFrom_cons_ne J L [SP] _ (by simp)]
  exact ⟨Or.inl rfl, Or.inr hL2, chain_boxedTail J I R slots hss hI hR hI1 hI2 hR1 ht⟩

theorem chain_replicate (J : Junction) (p h : Bytes) (k : Nat) (rest : List Bytes) (hh : h ≠ [])
    (hp : p = [] ∨ J.ok p h) (hhh : J.ok h h) (K : chainFrom J h rest) :
    chainFrom J p (List.replicate (k + 1) h ++ rest) := by
  induction k generalizing p with
  | zero =>
    simp only [List.replicate_succ, List.replicate_zero, List.cons_append, List.nil_append]
    rw [chainFrom_cons_ne J p h rest hh]; exact ⟨hp, K⟩
  | succ n ih =>
    rw [List.replicate_succ, List.cons_append, chainFrom_cons_ne J p h _ hh]
    exact ⟨hp, ih h (Or.inr hhh)⟩

theorem chain_ruleSegs (J : Junction) (h x r : Bytes) (cw : List Nat) (hcw : cw ≠ [])
    (hh : h ≠ []) (hx : x ≠ []) (hr : r ≠ [])
    (hhh : J.ok h h) (hhx : J.ok h x) (hxh : J.ok x h) (hhr : J.ok h r) :
    ∀ l p, l ≠ [] → J.ok l h → (p = [] ∨ J.ok p l) →
      chainFrom J p ((ruleSegs l h x r cw).flatMap Seg.atoms) := by
  induction cw, hcw using List.ne_nil_rec with
  | single w =>
    intro l p hl hlh hp
    have e : (ruleSegs l h x r [w]).flatMap Seg.atoms = l :: (List.replicate (w + 1 + 1) h ++ [r]) := by
      simp [ruleSegs, Seg.atoms]
    rw [e, chainFrom_cons_ne J p l _ hl]
    refine ⟨hp, chain_replicate J l h (w + 1) [r] hh (Or.inr hlh) hhh ?_⟩
    rw [chainFrom_cons_ne J h r [] hr]
    exact ⟨Or.inr hhr, trivial⟩
  | cons w w' t' ih =>
    intro l p hl hlh hp
    have e : (ruleSegs l h x r (w :: w' :: t')).flatMap Seg.atoms
        = l :: (List.replicate (w + 1 + 1) h ++ (ruleSegs x h x r (w' :: t')).flatMap Seg.atoms) := by
      simp [ruleSegs, Seg.atoms]
    rw [e, chainFrom_cons_ne J p l _ hl]
    exact ⟨hp, chain_replicate J l h (w + 1) _ hh (Or.inr hlh) hhh (ih x h hx hxh (Or.inr hhx))⟩

end Tab
