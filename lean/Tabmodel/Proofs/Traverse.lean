/-
  The callback traversals of `Model/World.lean` (`invoke`, the render pass, the add-time passes), one layer at
  a time: their unfolding equations, and the principle the frame arguments share — every callback acts on the
  world only by extending the log, setting a property on its target and raising an error through its taker, so
  a property of worlds kept by those three writes is kept by every traversal.
-/
import Tabmodel.Proofs.C11Defs
namespace Tab
namespace World

/-! ### unfolding equations -/

theorem invoke_nil (dw : Measure) (w : World) (tgt : Target) (tk : Taker) : invoke dw w [] tgt tk = w := rfl

theorem invoke_cons (dw : Measure) (w : World) (cb : Cb) (cbs : List Cb) (tgt : Target) (tk : Taker) :
    invoke dw w (cb :: cbs) tgt tk = invoke dw (invokeOne dw w cb tgt tk) cbs tgt tk := rfl

theorem invoke_append (dw : Measure) (w : World) (a b : List Cb) (tgt : Target) (tk : Taker) :
    invoke dw w (a ++ b) tgt tk = invoke dw (invoke dw w a tgt tk) b tgt tk := by
  simp [invoke, List.foldl_append]

/-- one cell of `renderCells`: the eight calls of the model are the fold over `cellCalls`, each reading its
    callback list and taker from the world it runs in (`cellCalls`: Proofs/C11Defs.lean); the column is looked up
    once, before the first -/
theorem renderCells_succ (dw : Measure) (t r n i : Nat) (w : World) :
    renderCells dw t r (n + 1) i w = renderCells dw t r n (i + 1)
      ((cellCalls t r i (columnOf w r i)).foldl
        (fun w d => invoke dw w (d.1 w) (.cell r i) (d.2 w)) w) := by
  rw [renderCells]; simp only [cellCalls, List.foldl_cons, List.foldl_nil]

theorem renderColumns_succ (dw : Measure) (t : Nat) (tm : Time) (n i : Nat) (w : World) :
    renderColumns dw t tm (n + 1) i w = renderColumns dw t tm n (i + 1)
      (invoke dw w (((w.column? t i).map (·.selfCbs.at tm)).getD []) (.column t i) (.table t)) := rfl

/-- the header step of `invokeRenderCallbacks` -/
def renderHeader (dw : Measure) (t : Nat) (w : World) : World :=
  match (w.table t).header with
  | some hr => renderRow dw t w hr
  | none => w

theorem invokeRenderCallbacks_eq (dw : Measure) (w : World) (t : Nat) :
    invokeRenderCallbacks dw w t =
      (let w := invoke dw w ((w.table t).selfCbs.at .pre) (.table t) (.table t)
       let ncol := (w.table t).columns.length
       let w := renderColumns dw t .pre ncol 0 w
       let w := renderHeader dw t w
       let w := (w.table t).rows.foldl (renderRow dw t) w
       let w := renderColumns dw t .post ncol 0 w
       invoke dw w ((w.table t).selfCbs.at .post) (.table t) (.table t)) := rfl

theorem addTimeCells_succ (dw : Measure) (t r : Nat) (colTaker : World → Taker) (n i : Nat) (w : World) :
    addTimeCells dw t r colTaker (n + 1) i w = addTimeCells dw t r colTaker n (i + 1)
      (let w := invoke dw w (colCellCbs w (columnOf w r i) .add) (.cell r i) (colTaker w)
       invoke dw w ((w.table t).cellCbs.at .add) (.cell r i) (colTaker w)) := rfl

/-- `AppendNewRow` and `AddRowItems` build the row first and then call `addRow`.  Rewrite with these: a goal
    `(appendNewRow dw w t).1 = addRow …` left to `rfl` makes the unifier unfold `addRow` all the way down. -/
theorem appendNewRow_eq (dw : Measure) (w : World) (t : Nat) :
    appendNewRow dw w t = (addRow dw (w.newRow {}).1 t w.rows.length, w.rows.length) := rfl

theorem addRowItems_eq (dw : Measure) (w : World) (t : Nat) (items : List Nat) :
    addRowItems dw w t items
      = (addRow dw (rowAddMany dw w.rows.length items (w.newRow {}).1) t w.rows.length, w.rows.length) := rfl

theorem appendNewRow_fst (dw : Measure) (w : World) (t : Nat) :
    (appendNewRow dw w t).1 = addRow dw (w.newRow {}).1 t w.rows.length := by rw [appendNewRow_eq]

theorem addRowItems_fst (dw : Measure) (w : World) (t : Nat) (items : List Nat) :
    (addRowItems dw w t items).1 = addRow dw (rowAddMany dw w.rows.length items (w.newRow {}).1) t w.rows.length := by
  rw [addRowItems_eq]

/-! ### what every traversal keeps -/

/-- `addErrTo` leaves the world alone, or appends to the `errs` of one table, or rewrites the `ec` of one
    row: whatever such writes keep, it keeps -/
theorem addErrTo_keeps {P : World → Prop} (w : World) (tk : Taker) (e : Nat) (h0 : P w)
    (hT : ∀ t (g : List Nat → List Nat), P (w.modTable t (fun tb => { tb with errs := g tb.errs })))
    (hR : ∀ r (f : Row → Row), (∀ rw, f rw = { rw with ec := (f rw).ec }) → P (w.modRow r f)) :
    P (w.addErrTo tk e) := by
  unfold addErrTo
  cases tk with
  | drop => exact h0
  | table t => exact hT t (· ++ [e])
  | rowOwn r => exact hR r _ (fun rw => by split <;> rfl)
  | rowLazy r =>
    dsimp only
    split
    · exact hR r _ (fun _ => rfl)
    · exact hR r _ (fun _ => rfl)
    · exact hT _ (· ++ [e])

theorem invokeOne_frame {P : World → Prop} (dw : Measure) (w : World) (cb : Cb) (tgt : Target) (tk : Taker)
    (hev : ∀ w' es, P w' → P ({ w' with events := es } : World))
    (hset : ∀ w' k v, P w' → P (w'.setProp tgt k v))
    (herr : ∀ w' e, P w' → P (w'.addErrTo tk e)) (h0 : P w) : P (invokeOne dw w cb tgt tk) := by
  unfold invokeOne
  split
  · exact hev _ _ h0
  · exact hset _ _ _ (hev _ _ h0)
  · exact herr _ _ (hev _ _ h0)
  · split
    · split
      · exact hset _ _ _ (hset _ _ _ h0)
      · exact h0
    · exact herr _ _ h0
  · split
    · split
      · exact hset _ _ _ h0
      · exact h0
    · exact herr _ _ h0

theorem invoke_frame {P : World → Prop} (dw : Measure) (cbs : List Cb) (tgt : Target) (tk : Taker)
    (h : ∀ w cb, cb ∈ cbs → P w → P (invokeOne dw w cb tgt tk)) (w : World) (h0 : P w) :
    P (invoke dw w cbs tgt tk) := by
  induction cbs generalizing w with
  | nil => exact h0
  | cons cb cbs ih =>
    exact ih (fun w c hc => h w c (List.mem_cons_of_mem _ hc)) _ (h w cb List.mem_cons_self h0)

theorem addTimeCells_reads {P : World → Prop} {dw : Measure} (t r : Nat) (colTaker : World → Taker)
    (hcol : ∀ w tc tgt tk, P w → P (invoke dw w (colCellCbs w tc .add) tgt tk))
    (htab : ∀ w tgt tk, P w → P (invoke dw w ((w.table t).cellCbs.at .add) tgt tk)) :
    ∀ n i w, P w → P (addTimeCells dw t r colTaker n i w)
  | 0, _, _, h => h
  | n + 1, i, _, h => addTimeCells_reads t r colTaker hcol htab n (i + 1) _ (htab _ _ _ (hcol _ _ _ _ h))

-- In this section `step` (every `invoke` keeps `P`) is the first explicit argument of each lemma.
section keeps
variable {P : World → Prop} {dw : Measure}
  (step : ∀ w cbs tgt tk, P w → P (invoke dw w cbs tgt tk))
include step

theorem renderCells_keeps (t r : Nat) : ∀ n i w, P w → P (renderCells dw t r n i w)
  | 0, _, _, h => h
  | n + 1, i, w, h => by
    rw [renderCells_succ]
    refine renderCells_keeps t r n (i + 1) _ ?_
    generalize cellCalls t r i (columnOf w r i) = calls
    induction calls generalizing w with
    | nil => exact h
    | cons d ds ih => exact ih _ (step _ _ _ _ h)

theorem renderRow_keeps (t : Nat) (w : World) (r : Nat) (h : P w) : P (renderRow dw t w r) :=
  step _ _ _ _ (renderCells_keeps step t r _ _ _ (step _ _ _ _ h))

theorem renderColumns_keeps (t : Nat) (tm : Time) : ∀ n i w, P w → P (renderColumns dw t tm n i w)
  | 0, _, _, h => h
  | n + 1, i, _, h => renderColumns_keeps t tm n (i + 1) _ (step _ _ _ _ h)

theorem foldl_renderRow_keeps (t : Nat) (rs : List Nat) (w : World) (h : P w) :
    P (rs.foldl (renderRow dw t) w) := by
  induction rs generalizing w with
  | nil => exact h
  | cons r rs ih => exact ih _ (renderRow_keeps step t w r h)

theorem renderHeader_keeps (t : Nat) (w : World) (h : P w) : P (renderHeader dw t w) := by
  unfold renderHeader
  split
  · exact renderRow_keeps step t _ _ h
  · exact h

theorem invokeRenderCallbacks_keeps (t : Nat) (w : World) (h : P w) : P (invokeRenderCallbacks dw w t) := by
  rw [invokeRenderCallbacks_eq]
  exact step _ _ _ _ (renderColumns_keeps step t .post _ 0 _ (foldl_renderRow_keeps step t _ _
    (renderHeader_keeps step t _ (renderColumns_keeps step t .pre _ 0 _ (step _ _ _ _ h)))))

theorem addTimeCells_keeps (t r : Nat) (colTaker : World → Taker) :
    ∀ n i w, P w → P (addTimeCells dw t r colTaker n i w) :=
  addTimeCells_reads t r colTaker (fun _ _ => step _ _) (fun _ => step _ _)

end keeps

/-- `setProp` and `addErrTo` are `match`es on the owner and the taker: a projection of them reduces after `cases o`,
    resp. through `addErrTo_keeps` -/
theorem invokeRenderCallbacks_frame {P : World → Prop} (dw : Measure)
    (hev : ∀ w es, P w → P ({ w with events := es } : World))
    (hset : ∀ w o k v, P w → P (w.setProp o k v))
    (herr : ∀ w tk e, P w → P (w.addErrTo tk e)) (t : Nat) (w : World) (h : P w) :
    P (invokeRenderCallbacks dw w t) :=
  invokeRenderCallbacks_keeps (fun _ cbs tgt tk h => invoke_frame dw cbs tgt tk
    (fun w cb _ h => invokeOne_frame dw w cb tgt tk hev (hset · tgt) (herr · tk) h) _ h) t w h

end World
end Tab
