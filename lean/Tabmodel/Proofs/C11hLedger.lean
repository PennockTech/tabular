/- C11, history level — lists only grow (`Grow`); the ledger; every valid step, and every valid history. -/
import Tabmodel.Proofs.C11hAttach
namespace Tab
namespace World

/-! ### lists only ever grow by appending -/

/-- From `w` to `w'`: every table's list has only been appended to; a row sharing a table's
    container still does; a row's own list has only been appended to, or has been absorbed, as a
    contiguous block, into the list of the table the row now belongs to. -/
structure Grow (w w' : World) : Prop where
  terrs : ∀ t, (w.table t).errs <+: (w'.table t).errs
  ecT : ∀ r t, (w.row r).ec = .table t → (w'.row r).ec = .table t
  ecO : ∀ r es, (w.row r).ec = .own es →
    (∃ l, (w'.row r).ec = .own (es ++ l)) ∨
    (∃ t, (w'.row r).ec = .table t ∧ es <:+: (w'.table t).errs)

theorem Grow.refl (w : World) : Grow w w :=
  ⟨fun _ => List.prefix_refl _, fun _ _ h => h, fun _ es h => Or.inl ⟨[], by simpa using h⟩⟩

theorem Grow.trans {a b c : World} (h₁ : Grow a b) (h₂ : Grow b c) : Grow a c where
  terrs t := (h₁.terrs t).trans (h₂.terrs t)
  ecT r t h := h₂.ecT r t (h₁.ecT r t h)
  ecO r es h := by
    rcases h₁.ecO r es h with ⟨l, hl⟩ | ⟨t, ht, hin⟩
    · rcases h₂.ecO r _ hl with ⟨l', hl'⟩ | ⟨t, ht, hin⟩
      · exact Or.inl ⟨l ++ l', by rw [hl', List.append_assoc]⟩
      · refine Or.inr ⟨t, ht, ?_⟩
        exact (List.prefix_append es l).isInfix.trans hin
    · exact Or.inr ⟨t, h₂.ecT r t ht, hin.trans (h₂.terrs t).isInfix⟩

theorem Grow.of_stable {w w' : World} (s : Stable w w') : Grow w w' where
  terrs t := by obtain ⟨l, hl⟩ := s.terrs t; rw [hl]; exact List.prefix_append _ _
  ecT r t h := (s.ecT r t).mp h
  ecO r es h := Or.inl (s.ecO r es h)

theorem Grow.of_same {w w' : World} (s : SameErrs w w') : Grow w w' where
  terrs t := by rw [s.errs]; exact List.prefix_refl _
  ecT r t h := by rw [s.ec]; exact h
  ecO r es h := Or.inl ⟨[], by rw [s.ec]; simpa using h⟩

theorem grow_addRow (dw : Measure) (w : World) (t r : Nat) (ht : t < w.tables.length)
    (hr : r < w.rows.length) (hu : unattached w r) : Grow w (addRow dw w t r) := by
  have hs := addRowCbs_stable dw (addRowCore w t r) t r
  have herr : ∀ t', (w.table t').errs <+: ((addRow dw w t r).table t').errs := by
    intro t'
    rw [addRow_eq]
    obtain ⟨l, hl⟩ := hs.terrs t'
    rw [hl]
    by_cases htt : t' = t
    · subst htt
      rw [addRowCore_errs w t' r ht, List.append_assoc]; exact List.prefix_append _ _
    · rw [addRowCore_errs_ne w t r t' (Ne.symm htt)]; exact List.prefix_append _ _
  refine ⟨herr, ?_, ?_⟩
  · intro r' t' h
    have hne : r' ≠ r := by
      intro x; subst x
      exact ((unattached_iff w r').mp hu t') h
    rw [addRow_eq]
    refine (hs.ecT r' t').mp ?_
    rw [addRowCore_ec_ne w t r r' (Ne.symm hne)]; exact h
  · intro r' es h
    by_cases hne : r' = r
    · subst hne
      refine Or.inr ⟨t, addRow_ec dw w t r' hr, ?_⟩
      rw [addRow_eq]
      obtain ⟨l, hl⟩ := hs.terrs t
      rw [hl, addRowCore_errs w t r' ht]
      have : rowErrors w r' = es := by simp only [rowErrors, h]
      rw [this]
      exact ⟨(w.table t).errs, l, by simp⟩
    · left
      rw [addRow_eq]
      exact hs.ecO r' es (by rw [addRowCore_ec_ne w t r r' (Ne.symm hne)]; exact h)

/-- a fresh row is stored; no row that has a container and no table's list changes -/
theorem grow_fresh {w w' : World} (hrow : ∀ r, r ≠ w.rows.length → w'.row r = w.row r)
    (herrs : ∀ t, (w'.table t).errs = (w.table t).errs) : Grow w w' := by
  have hold : ∀ r, (w.row r).ec ≠ .none → (w'.row r).ec = (w.row r).ec := fun r h => by
    rw [hrow r (Nat.ne_of_lt (row_ec_lt w r h))]
  exact ⟨fun t => by rw [herrs]; exact List.prefix_refl _,
    fun r t h => by rw [hold r (by rw [h]; nofun)]; exact h,
    fun r es h => Or.inl ⟨[], by rw [hold r (by rw [h]; nofun)]; simpa using h⟩⟩

theorem grow_addSeparator (w : World) (t : Nat) : Grow w (addSeparator w t) :=
  grow_fresh (addSeparator_row_ne w t) (addSeparator_errs w t)

theorem grow_addHeaders (dw : Measure) (w : World) (t : Nat) (items : List Nat)
    (ht : t < w.tables.length) : Grow w (addHeaders dw w t items) := by
  obtain ⟨w3, S3, S5⟩ := addHeaders_chain dw w t items ht
  exact (((grow_fresh (hdrW2_row_ne w t _) (hdrW2_errs w t _)).trans (.of_stable S3)).trans
    (.of_same (sameErrs_setHeader w3 t w.rows.length))).trans (.of_stable S5)

/-! ### the ledger -/

/-- `g` reports for itself: a table; a row that does not share a table's container -/
def Home (w : World) : Src → Prop
  | .table _ => True
  | .row r => unattached w r

/-- every self-reporting object holds exactly what the ledger charges to it -/
def Led (e : Nat) (w : World) (L : List (Option Src × Nat)) : Prop :=
  ∀ g, Home w g → cnt w e g = charged w g L

theorem charged_nil (w : World) (g : Src) : charged w g [] = 0 := rfl

theorem charged_cons (w : World) (g : Src) (d : Option Src) (n : Nat) (L : List (Option Src × Nat)) :
    charged w g ((d, n) :: L) = (if d.map w.ownerOf = some g then n else 0) + charged w g L := by
  simp only [charged, List.filter_cons]
  by_cases h : d.map w.ownerOf = some g <;> simp [h]

theorem charged_append (w : World) (g : Src) (A B : List (Option Src × Nat)) :
    charged w g (A ++ B) = charged w g A + charged w g B := by
  simp [charged, List.filter_append]

theorem ownerOf_ne_row (w : World) (s : Src) (r : Nat) (hs : s ≠ .row r) : w.ownerOf s ≠ .row r := by
  cases s with
  | table t => intro x; cases x
  | row r' =>
    simp only [ownerOf]
    cases (w.row r').ec with
    | table t => intro x; cases x
    | none => exact hs
    | own es => exact hs

/-- when row `r` (which reported for itself) joins table `t`, what was charged to it is now
    charged to the table -/
theorem charged_transfer {w w' : World} {t r : Nat}
    (ho : ∀ s, w'.ownerOf s = if s = .row r then .table t else w.ownerOf s)
    (hu : w.ownerOf (.row r) = .row r) (g : Src) (hg : g ≠ .row r) (L : List (Option Src × Nat)) :
    charged w' g L = charged w g L + if g = .table t then charged w (.row r) L else 0 := by
  induction L with
  | nil => simp [charged_nil]
  | cons p L ih =>
    obtain ⟨d, n⟩ := p
    rw [charged_cons, charged_cons, charged_cons, ih]
    cases d with
    | none => simp
    | some s =>
      simp only [Option.map_some, Option.some.injEq, ho]
      by_cases hs : s = .row r
      · subst hs
        simp only [if_true, hu]
        have : ¬ Src.row r = g := fun x => hg x.symm
        simp only [this, if_false]
        by_cases hgt : g = .table t
        · subst hgt; simp; omega
        · have : ¬ Src.table t = g := fun x => hgt x.symm
          simp [hgt, this]
      · have h1 : w.ownerOf s ≠ .row r := ownerOf_ne_row w s r hs
        simp only [hs, if_false, h1]
        split <;> split <;> omega

theorem Led.sstep {e n : Nat} {d : Option Src} {w w' : World} {L : List (Option Src × Nat)}
    (h : Led e w L) (s : SStep e d n w w') : Led e w' (L ++ [(d, n)]) := by
  have ho : w'.ownerOf = w.ownerOf := funext (ownerOf_congr s.own)
  intro g hg
  have hg' : Home w g := by
    cases g with
    | table t => trivial
    | row r => exact unattached_of_later (fun t => (s.own r t).mp) hg
  rw [s.ct g, h g hg', charged_append, charged_cons, charged_nil, ho, Nat.add_zero]
  simp only [charged, ho]

theorem Led.astep {e t r n : Nat} {w w' : World} {L : List (Option Src × Nat)}
    (h : Led e w L) (a : AStep e t r n w w') : Led e w' (L ++ [(some (.table t), n)]) := by
  have hu := ownerOf_row_unattached a.un
  have ho : ∀ s, w'.ownerOf s = if s = .row r then .table t else w.ownerOf s := by
    intro s
    cases s with
    | table t' => simp [ownerOf]
    | row r' =>
      by_cases hr : r' = r
      · subst hr; simp [ownerOf, a.ec]
      · have : ¬ Src.row r' = Src.row r := by intro x; cases x; exact hr rfl
        simp only [this, if_false]
        exact ownerOf_row_congr (a.own r' hr)
  intro g hg
  -- `g` reports for itself after the step, so it is not the row that joined, and it did before
  have hne : g ≠ .row r := by
    intro x; subst x
    exact (unattached_iff w' r).mp hg t a.ec
  have hg' : Home w g := by
    cases g with
    | table t' => trivial
    | row r' =>
      have hr : r' ≠ r := fun x => hne (by rw [x])
      exact unattached_of_later (fun t' => (a.own r' hr t').mp) hg
  have hlast : (some (Src.table t)).map w'.ownerOf = some g ↔ g = .table t :=
    ⟨fun x => (Option.some.inj x).symm, fun x => congrArg some x.symm⟩
  rw [a.ct g hne, h g hg', h (.row r) a.un, charged_append, charged_transfer ho hu g hne, charged_cons,
    charged_nil]
  simp only [hlast]
  split <;> omega

end World
open World

/-! ### one valid step -/

/-- what one valid step from `w` to `w'` guarantees.  `w'` is a parameter, not `applyOp dw w op`, so that a
    case of `step_all` can first rewrite it to the operation's own function -/
structure StepOut (dw : Measure) (hs : List Nat) (w : World) (op : BuildOp) (w' : World) : Prop where
  he : HE (op.hdrStep w.rows.length hs) w'
  grow : Grow w w'
  law : ∀ e, SStep e op.dest (raisedBy dw w op e) w w' ∨
    ∃ t r, op.dest = some (.table t) ∧ AStep e t r (raisedBy dw w op e) w w'

theorem StepOut.of_stable {dw : Measure} {hs : List Nat} {w w' : World} {op : BuildOp}
    (h : HE hs w) (hstep : op.hdrStep w.rows.length hs = hs) (s : Stable w w')
    (law : ∀ e, SStep e op.dest (raisedBy dw w op e) w w') : StepOut dw hs w op w' :=
  ⟨by rw [hstep]; exact h.of_stable s, Grow.of_stable s, fun e => Or.inl (law e)⟩

theorem unattached_of_ok {hs : List Nat} {w : World} (hinv : Inv w) (h : HE hs w) (t r : Nat)
    (hok : w.shape.ok (.addRow t r) = true) (hh : (BuildOp.addRow t r).hdrOk hs = true) :
    t < w.tables.length ∧ r < w.rows.length ∧ unattached w r := by
  simp only [Shape.ok, Bool.and_eq_true, Bool.not_eq_true', decide_eq_true_eq, beq_iff_eq,
    shape_tables_length, shape_rows_length, shape_row_inTable] at hok
  obtain ⟨⟨⟨ht, hr⟩, hfree⟩, _⟩ := hok
  refine ⟨ht, hr, ?_⟩
  rw [unattached_iff]
  intro t' hec
  rcases (h.ect r t' hec).2 with hm | hm
  · obtain ⟨i, hi⟩ := List.mem_iff_getElem?.mp hm
    have := (Inv.att hinv t' i r hi).1
    rw [hfree] at this; cases this
  · simp only [BuildOp.hdrOk, Bool.not_eq_true', List.contains_eq_mem, decide_eq_false_iff_not] at hh
    exact hh hm

/-- an operation that raises nothing and leaves every list as it is -/
theorem StepOut.quiet {dw : Measure} {hs : List Nat} {w w' : World} {op : BuildOp}
    (he : HE (op.hdrStep w.rows.length hs) w') (se : SameErrs w w') (hz : ∀ e, raisedBy dw w op e = 0) :
    StepOut dw hs w op w' :=
  ⟨he, .of_same se, fun e => Or.inl (by rw [hz e]; exact .same se)⟩

theorem ok_table {w : World} {t : Nat} (hok : decide (t < w.shape.tables.length) = true) :
    t < w.tables.length := shape_tables_length w ▸ of_decide_eq_true hok

/-- `AddRowItems` (`AppendNewRow`: no items): a fresh row is built, then attached -/
theorem fresh_addRow (dw : Measure) {hs : List Nat} {w : World} (h : HE hs w) (t : Nat) (items : List Nat)
    (ht : t < w.tables.length) :
    HE hs (addRow dw (rowAddMany dw w.rows.length items (w.newRow {}).1) t w.rows.length) ∧
    Grow w (addRow dw (rowAddMany dw w.rows.length items (w.newRow {}).1) t w.rows.length) := by
  have s2 := rowAddMany_stable dw w.rows.length items (w.newRow {}).1
  have hu2 := unattached_of_stable s2 (unattached_newRow w)
  have ht2 : t < (rowAddMany dw w.rows.length items (w.newRow {}).1).tables.length := by
    rw [s2.tlen]; exact ht
  have hr2 : w.rows.length < (rowAddMany dw w.rows.length items (w.newRow {}).1).rows.length := by
    rw [s2.rlen]; exact lt_newRow w {}
  exact ⟨he_addRow dw (he_rowAddMany dw (he_newRow h {} rfl) _ items) t w.rows.length ht2 hr2 hu2,
    ((Grow.of_same (sameErrs_newRow w {} rfl)).trans (.of_stable s2)).trans
      (grow_addRow dw _ t w.rows.length ht2 hr2 hu2)⟩

theorem step_all (dw : Measure) {hs : List Nat} {w : World} (hinv : Inv w) (h : HE hs w)
    (op : BuildOp) (hok : w.shape.ok op = true) (hh : op.hdrOk hs = true) :
    StepOut dw hs w op (applyOp dw w op) := by
  cases op with
  | newTable => exact .quiet (he_newTable h) (sameErrs_newTable w) fun _ => rfl
  | newRow => exact .quiet (he_newRow h {} rfl) (sameErrs_newRow w {} rfl) fun _ => rfl
  | zeroRow =>
    exact .quiet (he_newRow h { cells := none } rfl) (sameErrs_newRow w { cells := none } rfl) fun _ => rfl
  | addHeaders t items =>
    have ht := ok_table hok
    exact ⟨he_addHeaders dw h t items ht, grow_addHeaders dw w t items ht,
      fun e => Or.inr ⟨t, w.rows.length, rfl, astep_addHeaders dw e w t items ht⟩⟩
  | addRowItems t items =>
    have ht := ok_table hok
    obtain ⟨he, gr⟩ := fresh_addRow dw h t items ht
    rw [applyOp_addRowItems]
    exact ⟨he, gr, fun e => Or.inr ⟨t, w.rows.length, rfl, astep_addRowItems dw e w t items ht⟩⟩
  | appendNewRow t =>
    have ht := ok_table hok
    obtain ⟨he, gr⟩ := fresh_addRow dw h t [] ht
    rw [applyOp_appendNewRow]
    exact ⟨he, gr, fun e => Or.inr ⟨t, w.rows.length, rfl, astep_appendNewRow dw e w t ht⟩⟩
  | rowAdd r i =>
    have hr : r < w.rows.length := by
      simp only [Shape.ok, Bool.and_eq_true, decide_eq_true_eq, shape_rows_length] at hok; exact hok.1
    exact .of_stable h rfl (rowAddCell_stable dw w r _) (fun e => sstep_rowAddCell dw h r _ e hr)
  | rowAddCell r ce =>
    have hr : r < w.rows.length := by
      simp only [Shape.ok, Bool.and_eq_true, decide_eq_true_eq, shape_rows_length] at hok; exact hok.1
    exact .of_stable h rfl (rowAddCell_stable dw w r ce) (fun e => sstep_rowAddCell dw h r ce e hr)
  | addRow t r =>
    obtain ⟨ht, hr, hu⟩ := unattached_of_ok hinv h t r hok hh
    exact ⟨he_addRow dw h t r ht hr hu, grow_addRow dw w t r ht hr hu,
      fun e => Or.inr ⟨t, r, rfl, astep_addRow dw e w t r ht hr hu⟩⟩
  | addSeparator t =>
    exact ⟨he_addSeparator h t (ok_table hok), grow_addSeparator w t,
      fun e => Or.inr ⟨t, w.rows.length, rfl, astep_addSeparator w t e⟩⟩
  | regCb o tm tg cb =>
    show StepOut dw hs w _ ((registerCb w o tm tg cb).getD w)
    cases hreg : registerCb w o tm tg cb with
    | none => exact .quiet h (.of_stores rfl rfl) fun _ => rfl
    | some w' =>
      exact .quiet (h.of_stable (registerCb_stable w w' o tm tg cb hreg))
        (sameErrs_registerCb w w' o tm tg cb hreg) fun _ => rfl
  | setProp o k v =>
    exact .quiet (h.of_stable (setProp_stable w o k v)) (sameErrs_setProp w o k v) fun _ => rfl
  | addErr tk e' =>
    exact .of_stable h rfl (addErrTo_stable w tk e') (sstep_addErr dw w tk e')
  | setItems its => exact .quiet (h.of_stable (stable_items w its)) (.of_stores rfl rfl) fun _ => rfl
  | updateCell r c =>
    exact .quiet (h.of_stable (stable_modRow_same _ _ _ fun _ => rfl)) (sameErrs_modRow _ _ _ fun _ => rfl)
      fun _ => rfl
  | copyCell r c =>
    show StepOut dw hs w _ (match w.cell? r c with
      | some ce => { w with copies := w.copies ++ [ce] }
      | none => w)
    cases w.cell? r c with
    | none => exact .quiet h (.of_stores rfl rfl) fun _ => rfl
    | some ce => exact .quiet (h.of_stable (stable_copies w _)) (.of_stores rfl rfl) fun _ => rfl
  | render t =>
    exact .of_stable h rfl (invokeRenderCallbacks_stable dw w t) (fun e => sstep_render dw h t e)

theorem StepOut.mass {dw : Measure} {hs : List Nat} {w w' : World} {op : BuildOp}
    (s : StepOut dw hs w op w') (e : Nat) : mass w' e = mass w e + raisedBy dw w op e := by
  rcases s.law e with h | ⟨t, r, _, h⟩
  · exact h.ms
  · exact h.ms

theorem StepOut.led {dw : Measure} {hs : List Nat} {w w' : World} {op : BuildOp}
    (s : StepOut dw hs w op w') (e : Nat) (L : List (Option Src × Nat)) (hl : Led e w L) :
    Led e w' (L ++ [(op.dest, raisedBy dw w op e)]) := by
  rcases s.law e with h | ⟨t, r, hd, h⟩
  · exact hl.sstep h
  · rw [hd]; exact hl.astep h

/-! ### valid histories -/

structure RunOut (dw : Measure) (hs : List Nat) (w : World) (ops : List BuildOp) : Prop where
  inv : Inv (runFrom dw w ops)
  he : HE (hdrIdsFrom w.rows.length hs ops) (runFrom dw w ops)
  grow : Grow w (runFrom dw w ops)
  mass : ∀ e, mass (runFrom dw w ops) e = mass w e + raisedFrom dw e w ops
  led : ∀ e L, Led e w L → Led e (runFrom dw w ops) (L ++ ledgerFrom dw e w ops)

theorem run_all (dw : Measure) (ops : List BuildOp) : ∀ {hs : List Nat} {w : World}, Inv w → HE hs w →
    w.shape.validFrom ops = true → hdrSafeFrom w.rows.length hs ops = true → RunOut dw hs w ops := by
  induction ops with
  | nil =>
    intro hs w hinv h _ _
    exact ⟨hinv, h, Grow.refl w, fun e => rfl, fun e L hl => by simpa [ledgerFrom, runFrom] using hl⟩
  | cons op ops ih =>
    intro hs w hinv h hv hh
    simp only [Shape.validFrom, Bool.and_eq_true] at hv
    simp only [hdrSafeFrom, Bool.and_eq_true] at hh
    have s := step_all dw hinv h op hv.1 hh.1
    have hinv' := inv_step dw hinv op hv.1
    have hv' : (applyOp dw w op).shape.validFrom ops = true := by rw [shape_applyOp]; exact hv.2
    have hh' : hdrSafeFrom (applyOp dw w op).rows.length (op.hdrStep w.rows.length hs) ops = true := by
      rw [rows_length_step]; exact hh.2
    have r := ih hinv' s.he hv' hh'
    have e1 : runFrom dw w (op :: ops) = runFrom dw (applyOp dw w op) ops := rfl
    refine ⟨by rw [e1]; exact r.inv, ?_, by rw [e1]; exact s.grow.trans r.grow, ?_, ?_⟩
    · rw [e1]
      have := r.he
      rw [rows_length_step] at this
      exact this
    · intro e
      rw [e1, r.mass e, s.mass e]
      simp only [raisedFrom]; omega
    · intro e L hl
      rw [e1]
      have := r.led e _ (s.led e L hl)
      simpa only [ledgerFrom, List.append_assoc, List.singleton_append] using this

theorem he_init : HE [] ({} : World) where
  att t ht := by simp at ht
  ect r t h := by rw [row_oob ({} : World) r (Nat.zero_le _)] at h; cases h

theorem led_init (e : Nat) : Led e ({} : World) [] := by
  intro g _
  cases g with
  | table t => rfl
  | row r => rfl

theorem mass_init (e : Nat) : mass ({} : World) e = 0 := rfl

/-! ### splitting a history; the history sum as a sum over positions -/

/-- rows in the store after a history started with `n` rows -/
def rowsFrom (n : Nat) : List BuildOp → Nat
  | [] => n
  | op :: ops => rowsFrom (n + op.newRows) ops

theorem hdrSafeFrom_append (n : Nat) (hs : List Nat) (a b : List BuildOp) :
    hdrSafeFrom n hs (a ++ b)
      = (hdrSafeFrom n hs a && hdrSafeFrom (rowsFrom n a) (hdrIdsFrom n hs a) b) := by
  induction a generalizing n hs with
  | nil => simp [hdrSafeFrom, rowsFrom, hdrIdsFrom]
  | cons op a ih =>
    simp only [List.cons_append, hdrSafeFrom, ih, Bool.and_assoc, rowsFrom, hdrIdsFrom]

theorem rows_length_runFrom (dw : Measure) (w : World) (a : List BuildOp) :
    (runFrom dw w a).rows.length = rowsFrom w.rows.length a := by
  induction a generalizing w with
  | nil => rfl
  | cons op a ih =>
    have e1 : runFrom dw w (op :: a) = runFrom dw (applyOp dw w op) a := rfl
    rw [e1, ih, rows_length_step]; rfl

theorem raisedFrom_eq_sum (dw : Measure) (e : Nat) (w : World) (ops : List BuildOp) :
    raisedFrom dw e w ops =
      ((List.range ops.length).map
        (fun i => raisedBy dw (runFrom dw w (ops.take i)) (ops[i]?.getD .newTable) e)).sum := by
  induction ops generalizing w with
  | nil => rfl
  | cons op ops ih =>
    rw [raisedFrom, ih, List.length_cons, List.range_succ_eq_map]
    simp only [List.map_cons, List.sum_cons, List.map_map]
    congr 1

theorem ledgerFrom_snd_sum (dw : Measure) (e : Nat) (w : World) (ops : List BuildOp) :
    ((ledgerFrom dw e w ops).map (·.2)).sum = raisedFrom dw e w ops := by
  induction ops generalizing w with
  | nil => rfl
  | cons op ops ih => simp only [ledgerFrom, raisedFrom, List.map_cons, List.sum_cons, ih]

end Tab
