/-
  C16: list-level (decidable) ownership, schedules, and the two inductions over an interleaving: against the
  schedule in which B's steps are reduced to their allocations (`interleave_main`, literal equality), and against
  the run of A alone, in which every call of A is made on the row handles that A's own earlier calls returned in
  that run (`runAlone`, `alone_main`, equality up to the renaming of row ids).
-/
import Tabmodel.Proofs.C16Run
namespace Tab
namespace C16
open World

/-! ### decidable surface predicates -/

/-- row `r` (with contents `rw`) refers to no table other than `t`, and its cells point back to `r` -/
def RowLocal (t r : Nat) (rw : Row) : Prop :=
  (rw.inTable = none ∨ rw.inTable = some t) ∧ ecOK t rw.ec ∧
    ∀ ce ∈ rw.cells.getD [], (ce.inRow = none ∨ ce.inRow = some r)

instance (t r : Nat) (rw : Row) : Decidable (RowLocal t r rw) := by unfold RowLocal; infer_instance

/-- the rows reachable from table `t`: header, then rows -/
def footprint (w : World) (t : Nat) : List Nat := (w.table t).header.toList ++ (w.table t).rows

/-- `R` is a set of existing rows owned by (the goroutine owning) table `t`: it contains the footprint of `t`
    and every row in it is `RowLocal` to `t` -/
def OwnedBy (w : World) (t : Nat) (R : List Nat) : Prop :=
  (∀ r ∈ footprint w t, r ∈ R) ∧ ∀ r ∈ R, r < w.rows.length ∧ RowLocal t r (w.row r)

instance (w : World) (t : Nat) (R : List Nat) : Decidable (OwnedBy w t R) := by unfold OwnedBy; infer_instance

/-- every row reachable from `t` exists and is local to `t` -/
def Local (w : World) (t : Nat) : Prop := OwnedBy w t (footprint w t)

instance (w : World) (t : Nat) : Decidable (Local w t) := by unfold Local; infer_instance

def anyItem : Nat → Prop := fun _ => True

theorem mem_footprint {w : World} {t r : Nat} : r ∈ footprint w t ↔ FootT (w.table t) r := by
  unfold footprint FootT
  simp [Option.mem_toList]

theorem inv_of_ownedBy {w : World} {t : Nat} {R : List Nat} {I : Nat → Prop} (h : OwnedBy w t R)
    (hI : ∀ r ∈ R, ∀ ce ∈ w.rowCells r, I ce.item) : Inv t (· ∈ R) I w :=
  ⟨fun r hr => (h.2 r hr).1,
   fun r hr => ⟨(h.2 r hr).2.1, (h.2 r hr).2.2.1, fun ce hce => ⟨(h.2 r hr).2.2.2 ce hce, hI r hr ce hce⟩⟩,
   fun r hr => h.1 r (mem_footprint.2 hr)⟩

theorem ownedBy_of_inv {w : World} {t : Nat} {R : List Nat} {I : Nat → Prop} (h : Inv t (· ∈ R) I w) :
    OwnedBy w t R :=
  ⟨fun r hr => h.foot r (mem_footprint.1 hr),
   fun r hr => ⟨h.inrange r hr, (h.rowok r hr).inT, (h.rowok r hr).ec, fun ce hce => ((h.rowok r hr).cells ce hce).1⟩⟩

theorem ownedBy_iff_inv {w : World} {t : Nat} {R : List Nat} : OwnedBy w t R ↔ Inv t (· ∈ R) anyItem w :=
  ⟨fun h => inv_of_ownedBy h (fun _ _ _ _ => trivial), ownedBy_of_inv⟩

theorem OwnedBy.shrink {w : World} {t : Nat} {R R' : List Nat} (h : OwnedBy w t R)
    (h1 : ∀ r ∈ footprint w t, r ∈ R') (h2 : ∀ r ∈ R', r ∈ R) : OwnedBy w t R' :=
  ⟨h1, fun r hr => h.2 r (h2 r hr)⟩

theorem OwnedBy.local {w : World} {t : Nat} {R : List Nat} (h : OwnedBy w t R) : Local w t :=
  h.shrink (fun _ hr => hr) h.1

/-- the step is called on table `t` and on rows in `R` -/
def Step.on (s : Step) (t : Nat) (R : List Nat) : Prop := StepOn t (· ∈ R) anyItem s

/-- the owner set after the step (`L` = size of the row store before it) -/
def grow (R : List Nat) (L : Nat) (s : Step) : List Nat := if s.allocs then R ++ [L] else R

theorem mem_grow {R : List Nat} {L : Nat} {s : Step} {r : Nat} : r ∈ grow R L s ↔ growP (· ∈ R) L s r := by
  unfold grow growP
  cases s.allocs <;> simp

/-! ### the explicit footprint of a step -/

/-- the row a property owner lives in -/
def tgtRows : Target → List Nat
  | .row r => [r]
  | .cell r _ => [r]
  | _ => []

/-- the row argument(s) of a step -/
def Step.rowArgs : Step → List Nat
  | .rowAdd r _ => [r]
  | .addRow _ r => [r]
  | .setProp o _ _ => tgtRows o
  | .registerCb o _ _ _ => tgtRows o
  | .rowErrors r => [r]
  | _ => []

def tgtTableOK (t : Nat) : Target → Prop
  | .table t' => t' = t
  | .column t' _ => t' = t
  | _ => True

/-- the table argument of the step (if it has one) is `t` -/
def Step.tableOK (t : Nat) : Step → Prop
  | .addRow t' _ | .addSeparator t' | .addHeaders t' _ | .addRowItems t' _ | .appendNewRow t'
  | .wrap _ t' | .invokeRenderCallbacks t' | .cellAt t' _ _ | .hasColumn t' _ | .tableErrors t' => t' = t
  | .render wr => wr.core = t
  | .setProp o _ _ | .registerCb o _ _ _ => tgtTableOK t o
  | .newRow | .rowAdd _ _ | .rowErrors _ => True

theorem tgtOK_iff (t : Nat) (R : List Nat) (o : Target) :
    TgtOK t (· ∈ R) o ↔ tgtTableOK t o ∧ ∀ r ∈ tgtRows o, r ∈ R := by
  cases o <;> simp [TgtOK, tgtTableOK, tgtRows]

theorem Step.on_iff (s : Step) (t : Nat) (R : List Nat) :
    s.on t R ↔ s.tableOK t ∧ ∀ r ∈ s.rowArgs, r ∈ R := by
  cases s <;>
    simp [Step.on, StepOn, Step.tableOK, Step.rowArgs, anyItem, tgtOK_iff]

/-! ### a frame seen from the other table -/

theorem agree_of_frame {a b : Nat} {Pa Pb I : Nat → Prop} {w w' : World} (h : Inv a Pa I w)
    (hf : Frame b Pb w w') (hab : a ≠ b) (hd : ∀ r, Pa r → ¬ Pb r) : Agree a Pa I w' w :=
  ⟨hf.tabs a hab, fun r hr => hf.rows r (hd r hr) (h.inrange r hr), fun i _ => by simp [item, hf.items]⟩

/-! ### schedules -/

/-- an interleaving of two step sequences: `true` = a step of A, `false` = a step of B -/
abbrev Sched := List (Bool × Step)

/-- run a schedule; collect what the A-steps return -/
def runI (x : Ext) : World → Sched → World × List Obs
  | w, [] => (w, [])
  | w, (g, s) :: rest =>
    let r := runI x (applyW x w s) rest
    (r.1, if g then applyO x w s :: r.2 else r.2)

/-- run a plain sequence; collect what every step returns -/
def run (x : Ext) : World → List Step → World × List Obs
  | w, [] => (w, [])
  | w, s :: rest =>
    let r := run x (applyW x w s) rest
    (r.1, applyO x w s :: r.2)

def projA (I : Sched) : List Step := (I.filter (·.1)).map (·.2)

/-- the schedule with every B-step replaced by the bare row allocation it performs (or dropped if it
    performs none): B's only remaining influence is on the numbering of rows allocated later -/
def skeleton : Sched → Sched
  | [] => []
  | (true, s) :: rest => (true, s) :: skeleton rest
  | (false, s) :: rest => if s.allocs then (false, .newRow) :: skeleton rest else skeleton rest

/-- every A-step is called on table `a` and rows A owns at that moment; likewise B -/
def ValidRun (x : Ext) (a b : Nat) : World → List Nat → List Nat → Sched → Prop
  | _, _, _, [] => True
  | w, Ra, Rb, (true, s) :: rest =>
    s.on a Ra ∧ ValidRun x a b (applyW x w s) (grow Ra w.rows.length s) Rb rest
  | w, Ra, Rb, (false, s) :: rest =>
    s.on b Rb ∧ ValidRun x a b (applyW x w s) Ra (grow Rb w.rows.length s) rest

/-- A's owner set at the end of the schedule -/
def ownedAfter (x : Ext) : World → List Nat → Sched → List Nat
  | _, R, [] => R
  | w, R, (g, s) :: rest =>
    ownedAfter x (applyW x w s) (if g then grow R w.rows.length s else R) rest

instance (i : Nat) : Decidable (anyItem i) := by unfold anyItem; infer_instance

instance (t : Nat) (R : List Nat) (o : Target) : Decidable (TgtOK t (· ∈ R) o) := by
  cases o <;> unfold TgtOK <;> infer_instance

instance (s : Step) (t : Nat) (R : List Nat) : Decidable (s.on t R) := by
  unfold Step.on; cases s <;> unfold StepOn <;> infer_instance

instance decValidRun (x : Ext) (a b : Nat) :
    ∀ (I : Sched) (w : World) (Ra Rb : List Nat), Decidable (ValidRun x a b w Ra Rb I)
  | [], _, _, _ => isTrue trivial
  | (true, s) :: rest, w, Ra, Rb =>
    have := decValidRun x a b rest (applyW x w s) (grow Ra w.rows.length s) Rb
    inferInstanceAs (Decidable (s.on a Ra ∧ ValidRun x a b (applyW x w s) (grow Ra w.rows.length s) Rb rest))
  | (false, s) :: rest, w, Ra, Rb =>
    have := decValidRun x a b rest (applyW x w s) Ra (grow Rb w.rows.length s)
    inferInstanceAs (Decidable (s.on b Rb ∧ ValidRun x a b (applyW x w s) Ra (grow Rb w.rows.length s) rest))

/-! ### one step of one goroutine, seen by both -/

theorem step_inv (x : Ext) {a b : Nat} (hab : a ≠ b) {W : World} {Ra Rb : List Nat} {s : Step}
    (ia : Inv a (· ∈ Ra) anyItem W) (ib : Inv b (· ∈ Rb) anyItem W) (hd : ∀ r ∈ Ra, r ∉ Rb) (hs : s.on a Ra) :
    Inv a (· ∈ grow Ra W.rows.length s) anyItem (applyW x W s) ∧ Inv b (· ∈ Rb) anyItem (applyW x W s) ∧
    (∀ r ∈ grow Ra W.rows.length s, r ∉ Rb) ∧ Agree b (· ∈ Rb) anyItem (applyW x W s) W := by
  have res := apply_both x s ia hs
  have hd' : ∀ r, r ∈ Rb → ¬ r ∈ Ra := fun r hb ha => hd r ha hb
  have ag := agree_of_frame ib res.frame (Ne.symm hab) hd'
  refine ⟨res.inv.congr (fun _ => mem_grow), ib.of_agree ag.symm, fun r hr hrb => ?_, ag⟩
  have := mem_grow.1 hr
  unfold growP at this
  split at this
  · rcases this with h1 | rfl
    · exact hd r h1 hrb
    · exact Nat.lt_irrefl _ (ib.inrange _ hrb)
  · exact hd r this hrb

theorem interleave_main (x : Ext) {a b : Nat} (hab : a ≠ b) (I : Sched) :
    ∀ (W W' : World) (Ra Rb : List Nat),
      Inv a (· ∈ Ra) anyItem W → Inv b (· ∈ Rb) anyItem W → (∀ r ∈ Ra, r ∉ Rb) →
      Agree a (· ∈ Ra) anyItem W W' → W'.rows.length = W.rows.length →
      ValidRun x a b W Ra Rb I →
      Agree a (· ∈ ownedAfter x W Ra I) anyItem (runI x W I).1 (runI x W' (skeleton I)).1 ∧
      (runI x W I).2 = (runI x W' (skeleton I)).2 ∧
      Inv a (· ∈ ownedAfter x W Ra I) anyItem (runI x W I).1 := by
  induction I with
  | nil => intro W W' Ra Rb ia _ _ ag _ _; exact ⟨ag, rfl, ia⟩
  | cons p rest ih =>
    intro W W' Ra Rb ia ib hd ag hl hv
    obtain ⟨g, s⟩ := p
    cases g with
    | true =>
      obtain ⟨hs, hv'⟩ := hv
      obtain ⟨ia1, ib1, hd1, -⟩ := step_inv x hab ia ib hd hs
      obtain ⟨ag1, ob, hl1⟩ := apply_dep x s ia hs ag hl
      obtain ⟨c1, c2, c3⟩ := ih _ _ _ _ ia1 ib1 hd1 (ag1.mono (fun _ hr => mem_grow.1 hr)) hl1 hv'
      refine ⟨c1, ?_, c3⟩
      show applyO x W s :: _ = applyO x W' s :: _
      rw [c2, ob]
    | false =>
      obtain ⟨hs, hv'⟩ := hv
      obtain ⟨ib1, ia1, hd1, ag0⟩ := step_inv x (Ne.symm hab) ib ia (fun r hb ha => hd r ha hb) hs
      have hd1' : ∀ r ∈ Ra, r ∉ grow Rb W.rows.length s := fun r ha hb => hd1 r hb ha
      have e1 : (applyW x W s).rows.length = W.rows.length + s.nalloc := (apply_both x s ib hs).len
      cases hal : s.allocs with
      | true =>
        have hl1 : ((W'.newRow {}).1).rows.length = (applyW x W s).rows.length := by
          rw [e1]; simp [Step.nalloc, hal, hl]
        have sk : skeleton ((false, s) :: rest) = (false, .newRow) :: skeleton rest := by
          simp [skeleton, hal]
        rw [sk]
        exact ih _ _ _ _ ia1 ib1 hd1' ((ag0.trans ag).trans (agree_newRow_same (ia.of_agree ag) ({} : Row))) hl1 hv'
      | false =>
        have hl1 : W'.rows.length = (applyW x W s).rows.length := by
          rw [e1]; simp [Step.nalloc, hal, hl]
        have sk : skeleton ((false, s) :: rest) = skeleton rest := by
          simp [skeleton, hal]
        rw [sk]
        exact ih _ _ _ _ ia1 ib1 hd1' (ag0.trans ag) hl1 hv'

/-! ### when B allocates nothing, the skeleton is A alone -/

theorem skeleton_noalloc (I : Sched) (h : ∀ p ∈ I, p.1 = false → p.2.allocs = false) :
    skeleton I = I.filter (·.1) := by
  induction I with
  | nil => rfl
  | cons p rest ih =>
    obtain ⟨g, s⟩ := p
    have ih' := ih (fun q hq => h q (by simp [hq]))
    cases g with
    | true => simp [skeleton, ih']
    | false =>
      have := h (false, s) (by simp) rfl
      simp only at this
      simp [skeleton, this, ih']

theorem runI_all_true (x : Ext) (J : Sched) (h : ∀ p ∈ J, p.1 = true) :
    ∀ w, runI x w J = run x w (J.map (·.2)) := by
  induction J with
  | nil => intro w; rfl
  | cons p rest ih =>
    intro w
    obtain ⟨g, s⟩ := p
    have hg : g = true := h (g, s) (by simp)
    subst hg
    simp only [runI, List.map_cons, run, if_true]
    rw [ih (fun q hq => h q (by simp [hq]))]

theorem runI_skeleton_noalloc (x : Ext) (w : World) (I : Sched)
    (h : ∀ p ∈ I, p.1 = false → p.2.allocs = false) : runI x w (skeleton I) = run x w (projA I) := by
  rw [skeleton_noalloc I h, runI_all_true x _ (fun p hp => by simpa using (List.mem_filter.1 hp).2)]
  rfl

/-! ### A alone -/

/-- A alone.  The first world follows the whole schedule and is only used to know which id each of A's
    allocations received there; `ρ` maps those ids to the ids the same allocations receive when A runs
    alone in the second world.  B's steps are not executed in the second world at all. -/
def runAlone (x : Ext) : World → World → (Nat → Nat) → Sched → World × List Obs
  | _, W₂, _, [] => (W₂, [])
  | W, W₂, ρ, (true, s) :: rest =>
    let r := runAlone x (applyW x W s) (applyW x W₂ (renStep ρ s))
      (updS ρ W.rows.length W₂.rows.length s) rest
    (r.1, applyO x W₂ (renStep ρ s) :: r.2)
  | W, W₂, ρ, (false, s) :: rest => runAlone x (applyW x W s) W₂ ρ rest

theorem alone_main (x : Ext) {a b : Nat} (hab : a ≠ b) (I : Sched) :
    ∀ (W W₂ : World) (ρ : Nat → Nat) (Ra Rb : List Nat),
      Inv a (· ∈ Ra) anyItem W → Inv b (· ∈ Rb) anyItem W → (∀ r ∈ Ra, r ∉ Rb) →
      Sim ρ a (· ∈ Ra) anyItem W W₂ → ValidRun x a b W Ra Rb I →
      (∃ ρ', Sim ρ' a (· ∈ ownedAfter x W Ra I) anyItem (runI x W I).1 (runAlone x W W₂ ρ I).1) ∧
      (runAlone x W W₂ ρ I).2.map Obs.erase = (runI x W I).2.map Obs.erase ∧
      Inv a (· ∈ ownedAfter x W Ra I) anyItem (runI x W I).1 := by
  induction I with
  | nil => intro W W₂ ρ Ra Rb ia _ _ hs _; exact ⟨⟨ρ, hs⟩, rfl, ia⟩
  | cons p rest ih =>
    intro W W₂ ρ Ra Rb ia ib hd hs hv
    obtain ⟨g, s⟩ := p
    cases g with
    | true =>
      obtain ⟨hon, hv'⟩ := hv
      obtain ⟨ia1, ib1, hd1, -⟩ := step_inv x hab ia ib hd hon
      obtain ⟨s1, ob⟩ := apply_sim x s ia hon hs
      obtain ⟨c1, c2, c3⟩ := ih _ _ _ _ _ ia1 ib1 hd1 (s1.mono (fun _ hr => mem_grow.1 hr)) hv'
      refine ⟨c1, ?_, c3⟩
      show (applyO x W₂ (renStep ρ s) :: _).map Obs.erase = (applyO x W s :: _).map Obs.erase
      have ob' : (applyO x W₂ (renStep ρ s)).erase = (applyO x W s).erase := by rw [ob, erase_renObs]
      simp only [List.map_cons, ob']
      exact congrArg _ c2
    | false =>
      obtain ⟨hon, hv'⟩ := hv
      obtain ⟨ib1, ia1, hd1, ag0⟩ := step_inv x (Ne.symm hab) ib ia (fun r hb ha => hd r ha hb) hon
      exact ih _ _ _ _ _ ia1 ib1 (fun r ha hb => hd1 r hb ha) (Sim.of_agree_left ag0 hs) hv'

/-! ### programs without explicit row handles -/

theorem renTarget_of_noRows (ρ : Nat → Nat) (o : Target) (h : tgtRows o = []) : renTarget ρ o = o := by
  cases o <;> simp_all [tgtRows, renTarget]

theorem renStep_of_noRows (ρ : Nat → Nat) (s : Step) (h : s.rowArgs = []) : renStep ρ s = s := by
  cases s <;> simp_all [Step.rowArgs, renStep, renTarget_of_noRows]

theorem runAlone_noRows (x : Ext) (I : Sched) (h : ∀ p ∈ I, p.1 = true → p.2.rowArgs = []) :
    ∀ (W W₂ : World) (ρ : Nat → Nat), runAlone x W W₂ ρ I = run x W₂ (projA I) := by
  induction I with
  | nil => intro _ _ _; rfl
  | cons p rest ih =>
    intro W W₂ ρ
    obtain ⟨g, s⟩ := p
    have ih' := ih (fun q hq => h q (by simp [hq]))
    cases g with
    | true =>
      have hs : renStep ρ s = s := renStep_of_noRows ρ s (h (true, s) (by simp) rfl)
      simp only [runAlone, hs, ih']
      rfl
    | false =>
      simp only [runAlone, ih']
      rfl

end C16
end Tab
