/-
  What `Cell.Update` establishes for a plain / fitting / weakly fitting item, and the invariant of the three
  classes of histories, which is one statement (`HistInv`) with the item condition `G` and the relation `F`
  between an item and a cell made from it as parameters: `PlainItems` ⇒ every cell `Measured`; `FitItems` ⇒
  every cell `FitsSrc` for the item the store currently holds under its id; `FitItemsW` ⇒ `FitsW` likewise.
-/
import Tabmodel.Proofs.C03hCells
import Tabmodel.Props.C18
import Tabmodel.Proofs.TextDims
namespace Tab
namespace C03h
open World

/-! ### one cell -/

theorem update_item (dw : Measure) (it : Item) (c : Cell) : (c.update dw it).item = c.item := by
  unfold Cell.update; split <;> rfl

theorem update_str (dw : Measure) (it : Item) (c : Cell) : (c.update dw it).str = textForm it := by
  unfold Cell.update textForm Item.switchText
  cases it.kind <;> rfl

theorem notNested {it : Item} (h : it.isNested = false) : ∀ s w h e, it.kind ≠ .cell s w h e := by
  intro s w h' e hk
  unfold Item.isNested at h
  rw [hk] at h
  cases h

theorem longestLine_nil (dw : Measure) : longestLine dw [] = 0 := by simp [longestLine, tt_lines_nil]

theorem update_measured (dw : Measure) (it : Item) (c : Cell) (hp : it.isPlain) :
    (c.update dw it).Measured dw := by
  obtain ⟨hw, hh, hn⟩ := hp
  refine ⟨update_width_measured dw it c (notNested hn) hw, ?_⟩
  unfold Cell.update
  cases hk : it.kind with
  | nil => simp [tt_lines_nil]
  | cell s w h e => exact absurd hk (notNested hn s w h e)
  | _ => exact sizeHeight_eq_lines it hh _

theorem update_fitsSrc (dw : Measure) (it : Item) (c : Cell) (hf : it.Fits dw) :
    Cell.FitsSrc dw it (c.update dw it) := by
  unfold Item.Fits at hf
  cases hw : it.mWidth with
  | some x =>
    rw [hw] at hf
    right
    refine ⟨by rw [hw]; rfl, ?_⟩
    unfold Cell.lines
    rw [update_str]
    exact hf
  | none =>
    rw [hw] at hf
    left
    refine ⟨hw, ?_⟩
    cases hk : it.kind with
    | cell s w h e =>
      rw [hk] at hf
      unfold Cell.update
      simp only [hk]
      exact hf
    | _ => exact update_width_measured dw it c (fun _ _ _ _ e => by rw [hk] at e; cases e) hw

theorem isPlain_fits (dw : Measure) {it : Item} (hp : it.isPlain) : it.Fits dw := by
  obtain ⟨hw, _, hn⟩ := hp
  unfold Item.Fits
  rw [hw]
  cases hk : it.kind with
  | cell s w h e => exact absurd hk (notNested hn s w h e)
  | _ => trivial

theorem default_isPlain : (default : Item).isPlain := by decide

theorem fitsSrc_congr {dw : Measure} {it it' : Item} {ce : Cell}
    (h : it'.mWidth.isSome = it.mWidth.isSome) (hf : Cell.FitsSrc dw it ce) : Cell.FitsSrc dw it' ce := by
  unfold Cell.FitsSrc at hf ⊢
  rcases hf with ⟨h1, h2⟩ | ⟨h1, h2⟩
  · left
    refine ⟨?_, h2⟩
    rw [h1] at h
    cases hm : it'.mWidth with
    | none => rfl
    | some x => rw [hm] at h; cases h
  · right; exact ⟨h.trans h1, h2⟩

theorem update_sig_irrel (dw : Measure) (it : Item) (c c' : Cell) :
    (c.update dw it).str = (c'.update dw it).str ∧ (c.update dw it).width = (c'.update dw it).width := by
  unfold Cell.update
  split <;> exact ⟨rfl, rfl⟩

theorem update_fitsW (dw : Measure) (it : Item) (c : Cell) (hf : it.FitsW dw) :
    Cell.FitsW dw it (c.update dw it) := by
  unfold Item.FitsW Cell.FitsW Cell.lines at hf
  unfold Cell.FitsW Cell.lines
  obtain ⟨e1, e2⟩ := update_sig_irrel dw it c default
  rw [e1, e2]
  exact hf

theorem fitsW_of_fitsSrc {dw : Measure} {it : Item} {ce : Cell} (h : Cell.FitsSrc dw it ce) :
    Cell.FitsW dw it ce := by
  rcases h with ⟨_, h⟩ | h
  · exact Or.inl h
  · exact Or.inr h

theorem item_fitsW_of_fits {dw : Measure} {it : Item} (h : it.Fits dw) : it.FitsW dw :=
  fitsW_of_fitsSrc (update_fitsSrc dw it default h)

theorem fitsW_mono {dw : Measure} {it it' : Item} {ce : Cell}
    (h : it.mWidth.isSome = true → it'.mWidth.isSome = true) (hf : Cell.FitsW dw it ce) :
    Cell.FitsW dw it' ce := by
  rcases hf with h1 | ⟨h1, h2⟩
  · exact Or.inl h1
  · exact Or.inr ⟨h h1, h2⟩

theorem sigInv_measured (dw : Measure) : SigInv (Cell.Measured dw) := by
  intro a b e h
  simp only [sig, Prod.mk.injEq] at e
  obtain ⟨_, e2, e3, e4⟩ := e
  unfold Cell.Measured at h ⊢
  rw [← e2, ← e3, ← e4]
  exact h

theorem sigInv_fitsSrc (dw : Measure) (it : Item) : SigInv (Cell.FitsSrc dw it) := by
  intro a b e h
  simp only [sig, Prod.mk.injEq] at e
  obtain ⟨_, e2, e3, _⟩ := e
  unfold Cell.FitsSrc Cell.lines at h ⊢
  rw [← e2, ← e3]
  exact h

theorem sigInv_fitsW (dw : Measure) (it : Item) : SigInv (Cell.FitsW dw it) := by
  intro a b e h
  simp only [sig, Prod.mk.injEq] at e
  obtain ⟨_, e2, e3, _⟩ := e
  unfold Cell.FitsW Cell.lines at h ⊢
  rw [← e2, ← e3]
  exact h

/-! ### the invariant of a class of histories -/

def HistInv (G : Item → Prop) (F : Item → Cell → Prop) (s : List Item) (u : List Nat) (w : World) : Prop :=
  (∀ it ∈ s, G it) ∧ Kept (fun ce => ce.item ∈ u ∧ F (s.getD ce.item default) ce) s w

section hist
variable {G : Item → Prop} {F : Item → Cell → Prop} {s : List Item} {u : List Nat} {w : World}

theorem HistInv.item (h : HistInv G F s u w) (hd : G default) (i : Nat) :
    w.item i = s.getD i default ∧ G (w.item i) :=
  ⟨h.2.item i, h.2.item i ▸ getD_all hd h.1 i⟩

theorem HistInv.rowCells (h : HistInv G F s u w) (r : Nat) : ∀ ce ∈ w.rowCells r, F (w.item ce.item) ce :=
  fun ce hce => h.2.item ce.item ▸ (h.2.1.rowCells r ce hce).2

theorem HistInv.copies (h : HistInv G F s u w) : ∀ ce ∈ w.copies, F (w.item ce.item) ce :=
  fun ce hce => h.2.item ce.item ▸ (h.2.1.2 ce hce).2

theorem histInv_empty : HistInv G F [] [] {} :=
  ⟨fun _ h => (List.not_mem_nil h).elim, cellsAll_empty, rfl⟩

theorem histInv_step (dw : Measure) (hF : ∀ it, SigInv (F it)) (hupd : ∀ it (c : Cell), G it → F it (c.update dw it))
    (hd : G default) (op : BuildOp)
    (hstore : ∀ its, op = .setItems its →
      (∀ it ∈ its, G it) ∧ ∀ i ∈ u, ∀ ce, F (s.getD i default) ce → F (its.getD i default) ce)
    (hadd : ∀ r ce, op = .rowAddCell r ce → F (s.getD ce.item default) ce)
    (h : HistInv G F s u w) :
    HistInv G F (op.storeAfter s) (op.madeFrom ++ u) (applyOp dw w op) := by
  have hs : ∀ i (c : Cell), F (s.getD i default) (c.update dw (s.getD i default)) :=
    fun i c => hupd _ c (getD_all hd h.1 i)
  -- first: the operation keeps the predicate of the OLD store, with the new ids in use
  have h1 : Kept (fun ce => ce.item ∈ op.madeFrom ++ u ∧ F (s.getD ce.item default) ce) (op.storeAfter s)
      (applyOp dw w op) := by
    refine kept_applyOp (fun a b e ha => ?_) dw op ?_ ?_ ?_
      ⟨h.2.1.mono (fun ce hce => ⟨List.mem_append_right _ hce.1, hce.2⟩), h.2.2⟩
    · have ei : a.item = b.item := congrArg Prod.fst e
      exact ei ▸ ⟨ha.1, hF _ a b e ha.2⟩
    · intro i hi _
      unfold newCell
      rw [update_item]
      exact ⟨List.mem_append_left _ hi, hs i _⟩
    · intro r ce e
      subst e
      exact ⟨List.mem_append_left _ List.mem_cons_self, hadd r ce rfl⟩
    · intro _ _ _ ce hce
      rw [update_item]
      exact ⟨hce.1, hs _ _⟩
  -- then: a new store keeps `F` for the ids in use
  cases op with
  | setItems its =>
    refine ⟨(hstore its rfl).1, h1.1.mono (fun ce hce => ⟨hce.1, ?_⟩), h1.2⟩
    exact (hstore its rfl).2 ce.item (by simpa [BuildOp.madeFrom] using hce.1) ce hce.2
  | _ => exact ⟨h.1, h1⟩

/-- along a history of a class `P` that gives, at every operation, the step of the invariant and `P` of the rest -/
theorem histInv_runFrom (dw : Measure) (P : List Item → List Nat → List BuildOp → Prop)
    (hP : ∀ s u w op ops, P s u (op :: ops) → HistInv G F s u w →
      HistInv G F (op.storeAfter s) (op.madeFrom ++ u) (applyOp dw w op) ∧
        P (op.storeAfter s) (op.madeFrom ++ u) ops)
    (ops : List BuildOp) (hops : P s u ops) (h : HistInv G F s u w) :
    HistInv G F (finalStore s ops) (finalUsed u ops) (runFrom dw w ops) := by
  unfold runFrom finalStore finalUsed
  induction ops generalizing s u w with
  | nil => exact h
  | cons op ops ih =>
    obtain ⟨h', hops'⟩ := hP s u w op ops hops h
    exact ih hops' h'

end hist

theorem plainInv_run (dw : Measure) (ops : List BuildOp) (hops : PlainItems dw ops) :
    HistInv Item.isPlain (fun _ => Cell.Measured dw) (finalStore [] ops) (finalUsed [] ops) (run dw ops) :=
  histInv_runFrom dw (fun _ _ ops => PlainItems dw ops)
    (fun _ _ _ op _ hops h =>
      have hop : op.PlainStep dw := hops op List.mem_cons_self
      ⟨histInv_step dw (fun _ => sigInv_measured dw) (update_measured dw) default_isPlain op
        (fun its e => by subst e; exact ⟨hop, fun _ _ _ h => h⟩) (fun r ce e => by subst e; exact hop) h,
       fun o ho => hops o (List.mem_cons_of_mem _ ho)⟩)
    ops hops histInv_empty

theorem fitInv_run (dw : Measure) (ops : List BuildOp) (hops : FitItems dw ops) :
    HistInv (Item.Fits dw) (Cell.FitsSrc dw) (finalStore [] ops) (finalUsed [] ops) (run dw ops) :=
  histInv_runFrom dw (fitFrom dw)
    (fun _ _ _ op _ hops h =>
      ⟨histInv_step dw (sigInv_fitsSrc dw) (update_fitsSrc dw) (isPlain_fits dw default_isPlain) op
        (fun its e => by subst e; exact ⟨hops.1.1, fun i hi _ => fitsSrc_congr (hops.1.2 i hi)⟩)
        (fun r ce e => by subst e; exact hops.1) h, hops.2⟩)
    ops hops histInv_empty

theorem fitInvW_run (dw : Measure) (ops : List BuildOp) (hops : FitItemsW dw ops) :
    HistInv (Item.FitsW dw) (Cell.FitsW dw) (finalStore [] ops) (finalUsed [] ops) (run dw ops) :=
  histInv_runFrom dw (fitFromW dw)
    (fun _ _ _ op _ hops h =>
      ⟨histInv_step dw (sigInv_fitsW dw) (update_fitsW dw) (item_fitsW_of_fits (isPlain_fits dw default_isPlain)) op
        (fun its e => by subst e; exact ⟨hops.1.1, fun i hi _ => fitsW_mono (hops.1.2 i hi)⟩)
        (fun r ce e => by subst e; exact hops.1) h, hops.2⟩)
    ops hops histInv_empty

/-! ### the classes compared -/

theorem fitFrom_append (dw : Measure) (ops ops' : List BuildOp) (s : List Item) (u : List Nat) :
    fitFrom dw s u (ops ++ ops') ↔
      fitFrom dw s u ops ∧ fitFrom dw (finalStore s ops) (finalUsed u ops) ops' := by
  induction ops generalizing s u with
  | nil => simp [fitFrom, finalStore, finalUsed]
  | cons op ops ih =>
    simp only [List.cons_append, fitFrom, ih, finalStore, finalUsed, List.foldl_cons, and_assoc]

theorem fitFrom_of_plain (dw : Measure) (ops : List BuildOp) (s : List Item) (u : List Nat)
    (hs : ∀ it ∈ s, it.isPlain) (hops : PlainItems dw ops) : fitFrom dw s u ops := by
  induction ops generalizing s u with
  | nil => trivial
  | cons op ops ih =>
    have hop : op.PlainStep dw := hops op List.mem_cons_self
    have hrest : PlainItems dw ops := fun o ho => hops o (List.mem_cons_of_mem _ ho)
    refine ⟨?_, ih _ _ ?_ hrest⟩
    · cases op with
      | setItems its =>
        refine ⟨fun it hit => isPlain_fits dw (hop it hit), fun i _ => ?_⟩
        rw [(getD_all default_isPlain hop i).1, (getD_all default_isPlain hs i).1]
      | rowAddCell r ce =>
        exact Or.inl ⟨(getD_all default_isPlain hs ce.item).1, hop.1⟩
      | _ => trivial
    · cases op with
      | setItems its => exact hop
      | _ => exact hs

theorem fitFromW_of_fitFrom (dw : Measure) (ops : List BuildOp) (s : List Item) (u : List Nat)
    (h : fitFrom dw s u ops) : fitFromW dw s u ops := by
  induction ops generalizing s u with
  | nil => trivial
  | cons op ops ih =>
    refine ⟨?_, ih _ _ h.2⟩
    have hop := h.1
    cases op with
    | setItems its =>
      exact ⟨fun it hit => item_fitsW_of_fits (hop.1 it hit), fun i hi hs => by rw [hop.2 i hi]; exact hs⟩
    | rowAddCell r ce => exact fitsW_of_fitsSrc hop
    | _ => trivial

end C03h
end Tab
