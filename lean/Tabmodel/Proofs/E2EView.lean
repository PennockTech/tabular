/-
  Helpers for the capstone theorems (`Props/E2Ecb.lean`, `Props/E2E.lean`): the view a renderer reads after the
  callbacks pass, compared with the view of the world the history built.

  * under `LogOnly`, the pass changes no cell's text / emptiness / item encoding and nothing
    else of the view but the three measurement fields (`view_mask_irc`);
  * a `Wrap` is a `RegisterPropertyCallback` history step (`run_wrapOps`).
-/
import Tabmodel.Props.C02
import Tabmodel.Proofs.StableWrap
import Tabmodel.Spec.Text
namespace Tab

/-- what the text-independent renderers read of a cell -/
def RCell.content (c : RCell) : Bytes × Bool × Option Bytes := (c.text, c.empty, c.json)

theorem RCell.content_mask (tt md : Bool) (c : RCell) : (c.mask tt md).content = c.content := rfl

namespace World

theorem view_mask_irc (dw : Measure) (w : World) (t : Nat) (hL : LogOnly w t) :
    ((invokeRenderCallbacks dw w t).view t).mapCells (RCell.mask false false) =
      (w.view t).mapCells (RCell.mask false false) := by
  have hM : MeasAll dw false false w t := fun _ _ _ _ => ⟨nofun, nofun⟩
  rw [view_irc dw false false w t hL nofun nofun, canonView_bare, ← view_mask_eq_canon dw false false w t hM]

theorem irc_view_congr {α : Sort _} (f : RTable → α) (hf : ∀ v, f (v.mapCells (RCell.mask false false)) = f v)
    (dw : Measure) (w : World) (t : Nat) (hL : LogOnly w t) :
    f ((invokeRenderCallbacks dw w t).view t) = f (w.view t) := by
  rw [← hf, view_mask_irc dw w t hL, hf]

theorem irc_table (dw : Measure) (w : World) (t : Nat) (hL : LogOnly w t) :
    (invokeRenderCallbacks dw w t).table t = w.table t :=
  of_erase_eq (fun w => w.table t) (rd_table t) (erase_irc dw w t hL)

theorem view_ncols (w : World) (t : Nat) : (w.view t).ncols = (w.table t).nColumns := rfl
theorem view_colAlign (w : World) (t : Nat) :
    (w.view t).colAlign = (w.table t).columns.map (·.props.get .align) := rfl
theorem view_colSkip (w : World) (t : Nat) :
    (w.view t).colSkip = (w.table t).columns.map (·.props.get .skipable) := rfl
theorem view_header_isSome (w : World) (t : Nat) :
    (w.view t).header.isSome = (w.table t).header.isSome := by
  unfold view; simp

theorem irc_view_ncols (dw : Measure) (w : World) (t : Nat) (hL : LogOnly w t) :
    ((invokeRenderCallbacks dw w t).view t).ncols = (w.view t).ncols :=
  irc_view_congr (·.ncols) (fun _ => rfl) dw w t hL

theorem irc_view_colAlign (dw : Measure) (w : World) (t : Nat) (hL : LogOnly w t) :
    ((invokeRenderCallbacks dw w t).view t).colAlign = (w.view t).colAlign :=
  irc_view_congr (·.colAlign) (fun _ => rfl) dw w t hL

theorem irc_view_colSkip (dw : Measure) (w : World) (t : Nat) (hL : LogOnly w t) :
    ((invokeRenderCallbacks dw w t).view t).colSkip = (w.view t).colSkip :=
  irc_view_congr (·.colSkip) (fun _ => rfl) dw w t hL

theorem irc_view_header_isSome (dw : Measure) (w : World) (t : Nat) (hL : LogOnly w t) :
    ((invokeRenderCallbacks dw w t).view t).header.isSome = (w.table t).header.isSome := by
  rw [view_header_isSome, irc_table dw w t hL]

/-! ### content of the two views -/

theorem mapCells_header_content (m : RCell → RCell) (hm : ∀ c, (m c).content = c.content) (v : RTable) :
    (v.mapCells m).header.map (·.map RCell.content) = v.header.map (·.map RCell.content) := by
  simp [RTable.mapCells, Function.comp_def, hm]

theorem mapCells_rows_content (m : RCell → RCell) (hm : ∀ c, (m c).content = c.content) (v : RTable) :
    (v.mapCells m).rows.map (·.map (·.map RCell.content)) = v.rows.map (·.map (·.map RCell.content)) := by
  simp [RTable.mapCells, Function.comp_def, hm]

theorem view_content_irc (dw : Measure) (w : World) (t : Nat) (hL : LogOnly w t) :
    ((invokeRenderCallbacks dw w t).view t).header.map (·.map RCell.content) =
        (w.view t).header.map (·.map RCell.content) ∧
    ((invokeRenderCallbacks dw w t).view t).rows.map (·.map (·.map RCell.content)) =
        (w.view t).rows.map (·.map (·.map RCell.content)) := by
  have hm : ∀ c : RCell, (c.mask false false).content = c.content := fun _ => rfl
  exact ⟨irc_view_congr (fun v : RTable => v.header.map (List.map RCell.content))
      (mapCells_header_content _ hm) dw w t hL,
    irc_view_congr (fun v : RTable => v.rows.map (Option.map (List.map RCell.content)))
      (mapCells_rows_content _ hm) dw w t hL⟩

/-! ### reading equal content maps cell by cell -/

theorem cells_of_content {cs' cs : List RCell} (h : cs'.map RCell.content = cs.map RCell.content) (j : Nat) :
    cs'[j]?.map RCell.content = cs[j]?.map RCell.content := by
  rw [← List.getElem?_map, ← List.getElem?_map, h]

theorem bind_getElem?_map {α β} (f : α → β) (r : Option (List α)) (j : Nat) :
    (r.bind (·[j]?)).map f = (r.map (·.map f)).bind (·[j]?) := by
  cases r with
  | none => rfl
  | some cs => exact List.getElem?_map.symm

theorem header_cell_of_content {h' h : Option (List RCell)}
    (hh : h'.map (·.map RCell.content) = h.map (·.map RCell.content)) (j : Nat) :
    (h'.bind (·[j]?)).map RCell.content = (h.bind (·[j]?)).map RCell.content := by
  rw [bind_getElem?_map, bind_getElem?_map, hh]

theorem rows_sep_of_content {rs' rs : List (Option (List RCell))}
    (hr : rs'.map (·.map (·.map RCell.content)) = rs.map (·.map (·.map RCell.content))) (i : Nat) :
    rs'[i]? = some none ↔ rs[i]? = some none := by
  have key : ∀ o : Option (Option (List RCell)),
      o = some none ↔ o.map (·.map (·.map RCell.content)) = some none := by
    intro o; rcases o with _ | _ | _ <;> simp
  rw [key, key, ← List.getElem?_map, ← List.getElem?_map, hr]

theorem rows_cell_of_content {rs' rs : List (Option (List RCell))}
    (hr : rs'.map (·.map (·.map RCell.content)) = rs.map (·.map (·.map RCell.content))) (i j : Nat) :
    (rs'[i]?.bind (fun r => r.bind (·[j]?))).map RCell.content =
      (rs[i]?.bind (fun r => r.bind (·[j]?))).map RCell.content := by
  have key : ∀ o : Option (Option (List RCell)), (o.bind (fun r => r.bind (·[j]?))).map RCell.content =
      (o.map (·.map (·.map RCell.content))).bind (fun r => r.bind (·[j]?)) := by
    intro o; cases o with
    | none => rfl
    | some r => exact bind_getElem?_map RCell.content r j
  rw [key, key, ← List.getElem?_map, ← List.getElem?_map, hr]

theorem renderCsv_irc (dw : Measure) (w : World) (t : Nat) (hL : LogOnly w t) :
    renderCsv ((invokeRenderCallbacks dw w t).view t) = renderCsv (w.view t) :=
  irc_view_congr renderCsv (renderCsv_mapCells _ (fun _ => rfl)) dw w t hL

theorem renderJson_irc (dw : Measure) (js : JsonStr) (w : World) (t : Nat) (hL : LogOnly w t) :
    renderJson js ((invokeRenderCallbacks dw w t).view t) = renderJson js (w.view t) :=
  irc_view_congr (renderJson js) (renderJson_mapCells js _ (fun _ => rfl) (fun _ => rfl) (fun _ => rfl)) dw w t hL

theorem mem_allCells_view (w : World) (t : Nat) (c : RCell) (hc : c ∈ (w.view t).allCells) :
    ∃ r ∈ (w.table t).header.toList ++ (w.table t).rows, ∃ ce ∈ w.rowCells r, c = w.rcell ce := by
  simp only [RTable.allCells, view, List.mem_append, List.mem_flatMap, List.mem_map] at hc
  rcases hc with h | ⟨_, ⟨r, hr, rfl⟩, h⟩
  · cases hh : (w.table t).header with
    | none => simp [hh] at h
    | some hr =>
      simp only [hh, Option.map_some, List.mem_map] at h
      obtain ⟨ce, hce, e⟩ := h
      exact ⟨hr, by simp, ce, hce, e.symm⟩
  · cases hs : (w.row r).isSep with
    | true => simp [hs] at h
    | false =>
      simp only [hs, Bool.false_eq_true, if_false, List.mem_map] at h
      obtain ⟨ce, hce, e⟩ := h
      exact ⟨r, List.mem_append_right _ hr, ce, hce, e.symm⟩

/-! ### a `Wrap` is a history step -/

/-- the `BuildOp` that has the effect of `X.Wrap(t)` -/
def wrapOps (k : WKind) (t : Nat) : List BuildOp :=
  match k with
  | .text => [.regCb (.table t) .render .cell .dimSetter]
  | .markdown => [.regCb (.table t) .render .cell .widthSetter]
  | _ => []

theorem runFrom_wrapOps (dw : Measure) (w : World) (k : WKind) (t : Nat) :
    runFrom dw w (wrapOps k t) = w.wrapEffect k t := by
  cases k <;> rfl

theorem run_wrapOps (dw : Measure) (ops : List BuildOp) (k : WKind) (t : Nat) :
    run dw (ops ++ wrapOps k t) = (run dw ops).wrapEffect k t := by
  rw [run_append, runFrom_wrapOps]

theorem valid_wrapOps (ops : List BuildOp) (k : WKind) (t : Nat) :
    Valid (ops ++ wrapOps k t) = Valid ops := by
  unfold Valid
  rw [Shape.validFrom_append]
  cases k <;> simp [wrapOps, Shape.validFrom, Shape.ok]

/-! ### `renderTo`, kind by kind -/

theorem renderTo_csv (x : Ext) (w : World) (wr : Wrapper) (hk : wr.kind = .csv) :
    (w.renderTo x wr).2 = renderCsv ((invokeRenderCallbacks x.dw w wr.core).view wr.core) := by
  unfold renderTo; rw [hk]

theorem renderTo_json (x : Ext) (w : World) (wr : Wrapper) (hk : wr.kind = .json) :
    (w.renderTo x wr).2 = renderJson x.js ((invokeRenderCallbacks x.dw w wr.core).view wr.core) := by
  unfold renderTo; rw [hk]

theorem renderTo_html (x : Ext) (w : World) (wr : Wrapper) (hk : wr.kind = .html) :
    (w.renderTo x wr).2 = renderHtml wr.html ((invokeRenderCallbacks x.dw w wr.core).view wr.core) := by
  unfold renderTo; rw [hk]

theorem renderTo_markdown (x : Ext) (w : World) (wr : Wrapper) (hk : wr.kind = .markdown) :
    (w.renderTo x wr).2 = renderMarkdown x.dw ((invokeRenderCallbacks x.dw w wr.core).view wr.core) := by
  unfold renderTo; rw [hk]

theorem renderTo_text (x : Ext) (w : World) (wr : Wrapper) (hk : wr.kind = .text)
    (hd : wr.decor ≠ emptyDecoration) :
    (w.renderTo x wr).2 = renderTextBody wr.decor ((invokeRenderCallbacks x.dw w wr.core).view wr.core) := by
  unfold renderTo; rw [hk]; simp only [if_neg hd]

/-- the all-empty decoration is refused before the callbacks pass -/
theorem renderTo_noDecoration (x : Ext) (w : World) (wr : Wrapper) (hk : wr.kind = .text)
    (hd : wr.decor = emptyDecoration) : w.renderTo x wr = (w, Emit.fail .noDecoration) := by
  unfold renderTo; rw [hk]; simp only [if_pos hd]

theorem alignOK_irc (dw : Measure) (w : World) (t : Nat) (hL : LogOnly w t) (h : AlignOK (w.view t)) :
    AlignOK ((invokeRenderCallbacks dw w t).view t) :=
  (irc_view_congr AlignOK (fun _ => rfl) dw w t hL).mpr h

end World

def alignOKb (v : RTable) : Bool :=
  (List.range (v.ncols + 1)).all (fun i =>
    match v.colAlign.getD i none with
    | none => true
    | some (.align a) => a == 1 || a == 2 || a == 3
    | some _ => false)

theorem alignOK_of_alignOKb (v : RTable) (h : alignOKb v = true) : AlignOK v := by
  intro i hi
  have hi' := List.all_eq_true.mp h i (List.mem_range.mpr (Nat.lt_succ_of_le hi))
  cases hc : v.colAlign.getD i none with
  | none => exact Or.inl rfl
  | some val =>
    rw [hc] at hi'
    cases val with
    | align a => exact Or.inr ⟨a, by simpa [or_assoc] using hi', rfl⟩
    | _ => cases hi'

end Tab
