/-
  C09h: the alignment values a renderer can read after its callbacks pass are
  values the HISTORY wrote.

  With one link per key, invoking a callback of a world all of whose `.setProp _ align v` callbacks have
  `alignInDomain v` keeps `ColsOK` (`stepInv_cols`), hence so does every operation that only invokes callbacks
  already in the world (`C13x.Traversal`, `C12h.plain_traversal`); no writer table is needed: two callbacks may
  share an id.  `AlignOK` of the view after one more pass is the last-writer statement
  `C08e.colAlign_getD_last_writer`.
-/
import Tabmodel.Props.C12h
import Tabmodel.Proofs.C08eCore
namespace Tab
open World C13 C13x C12h

/-- an alignment property value within its documented domain: unset, or `alignSimple{1,2,3}` -/
def alignInDomain : Option Val → Bool
  | none => true
  | some (.align a) => a == 1 || a == 2 || a == 3
  | some _ => false

def Cb.alignOK : Cb → Bool
  | .setProp _ .align v => alignInDomain v
  | _ => true

def BuildOp.alignSetOK : BuildOp → Bool
  | .setProp (.column _ _) .align v => alignInDomain v
  | _ => true

/-- Every alignment value the history can bring to a column: the ones it sets directly on a column
    record (`setProp (.column t n) .align v`; `n = 0` is the defaults column) and the ones carried by
    `.setProp _ .align v` callbacks it registers ANYWHERE (or that ride on a ready-made cell value) are
    unset or left / right / centre.  `align` values put on tables, rows, cells or copies are not
    restricted (no renderer reads them). -/
def AlignValuesOK (ops : List BuildOp) : Prop :=
  ops.all (fun op => op.alignSetOK && op.cbsAll Cb.alignOK) = true

instance (ops : List BuildOp) : Decidable (AlignValuesOK ops) := by unfold AlignValuesOK; infer_instance

namespace C09h

def ColsOK (w : World) : Prop := ∀ t n, alignInDomain (w.getProp (.column t n) .align) = true

theorem alignInDomain_iff (v : Option Val) :
    alignInDomain v = true ↔ v = none ∨ ∃ a, (a = 1 ∨ a = 2 ∨ a = 3) ∧ v = some (.align a) := by
  constructor
  · intro h
    match v, h with
    | none, _ => exact .inl rfl
    | some (.align a), h =>
      exact .inr ⟨a, by simpa only [alignInDomain, Bool.or_eq_true, beq_iff_eq, or_assoc] using h, rfl⟩
  · rintro (rfl | ⟨a, (rfl | rfl | rfl), rfl⟩) <;> rfl

/-- with one link per key, an invocation of a callback of `w0` keeps `ColsOK`: only a `.setProp _ align v`
    invoked on a column record changes what is read there, and `v` is within the domain -/
theorem stepInv_cols (dw : Measure) {w0 : World} (hw : CbsAll Cb.alignOK w0) :
    StepInv dw w0 (fun w' _ => AllNodup w' ∧ ColsOK w') := by
  intro w' es cb tgt tk _ ⟨s, tm, hcb⟩ ⟨hn, hv⟩
  have hag := hw s tm cb hcb
  refine ⟨allNodup_invokeOne dw hn cb tgt tk, fun t n => ?_⟩
  cases cb with
  | setProp id k v =>
    rw [getProp_invokeOne_writer dw hn]
    split
    · next h =>
      obtain ⟨⟨_, rfl⟩, _⟩ := h
      exact hag
    · exact hv t n
  | _ => rw [getProp_invokeOne_not_writes dw w' _ tgt tk .align rfl]; exact hv t n

theorem colsOK_traversal {dw : Measure} {w0 w' : World} {es : List Event} (h : Traversal dw w0 w' es)
    (hw : CbsAll Cb.alignOK w0) (hn : AllNodup w0) (hc : ColsOK w0) : ColsOK w' :=
  (h _ (stepInv_cols dw hw) ⟨hn, hc⟩).inv.2

theorem colsOK_of_chain {w w' : World} (h : ∀ t n, w'.chainOf (.column t n) = w.chainOf (.column t n))
    (hc : ColsOK w) : ColsOK w' := by
  intro t n
  rw [getProp_of_chain (h t n)]
  exact hc t n

variable (dw : Measure)

theorem colsOK_applyOp {w : World} (hw : CbsAll Cb.alignOK w) (hn : AllNodup w) (hc : ColsOK w) (op : BuildOp)
    (hset : op.alignSetOK = true) (hop : op.cbsAll Cb.alignOK = true) (hcell : op.cellOk = true) :
    ColsOK (applyOp dw w op) := by
  by_cases hp : plain op = true
  · obtain ⟨wl, es, hcs, ht⟩ := plain_traversal dw w op hp
    exact colsOK_traversal ht (cbsAll_of_cbs hw hcs.cbs) (allNodup_csame hcs hn)
      (colsOK_of_chain (fun _ _ => hcs.chain _) hc)
  · cases op with
    | setProp o k v =>
      intro t n
      show alignInDomain ((w.setProp o k v).getProp (.column t n) .align) = true
      rw [getProp_setProp hn]
      split
      · next h =>
        obtain ⟨⟨rfl, rfl⟩, _⟩ := h
        exact hset
      · exact hc t n
    | regCb o tm tg cb => exact colsOK_of_chain (fun t n => (regCb_frame dw w o tm tg cb).1 _) hc
    | copyCell r c =>
      simp only [applyOp]
      cases hce : w.cell? r c with
      | none => exact hc
      | some ce =>
        refine colsOK_of_chain (fun t n => ?_) hc
        rw [chainOf_copy, if_neg (by simp)]
    | rowAddCell r ce =>
      have hc' : ce.props.keys.Nodup := by simpa [BuildOp.cellOk] using hcell
      rcases rowAddCell_cases dw w r ce with ⟨hcs, _⟩ | ⟨cs, hr, hcs, ht⟩
      · exact colsOK_of_chain (fun _ _ => hcs.chain _) hc
      · refine colsOK_traversal ht (cbsAll_rowAddLinked hw hr hcs ce hop) (allNodup_rowAddLinked hn hr hcs ce hc')
          (colsOK_of_chain (fun t n => ?_) hc)
        rw [chainOf_rowAddLinked hr hcs, if_neg (by simp)]
    | _ => simp [plain] at hp

theorem colsOK_empty : ColsOK {} := by
  intro t n
  rw [getProp_eq_get, chainOf_empty]
  rfl

theorem colsOK_runFrom : ∀ (ops : List BuildOp) (w : World), CbsAll Cb.alignOK w → AllNodup w → ColsOK w →
    ops.all (fun op => op.alignSetOK && op.cbsAll Cb.alignOK) = true → ops.all BuildOp.cellOk = true →
    CbsAll Cb.alignOK (runFrom dw w ops) ∧ AllNodup (runFrom dw w ops) ∧ ColsOK (runFrom dw w ops) := by
  intro ops
  induction ops with
  | nil => intro w hw hn hc _ _; exact ⟨hw, hn, hc⟩
  | cons op ops ih =>
    intro w hw hn hc hop hcell
    simp only [List.all_cons, Bool.and_eq_true] at hop hcell
    exact ih (applyOp dw w op) (cbsAll_applyOp dw hw op hop.1.2) (allNodup_applyOp dw hn op hcell.1)
      (colsOK_applyOp dw hw hn hc op hop.1.1 hop.1.2 hcell.1) hop.2 hcell.2

theorem colsOK_run (ops : List BuildOp) (hc : CellsOk ops) (ha : AlignValuesOK ops) :
    CbsAll Cb.alignOK (run dw ops) ∧ AllNodup (run dw ops) ∧ ColsOK (run dw ops) :=
  colsOK_runFrom dw ops {} (cbsAll_empty _) allNodup_empty colsOK_empty ha hc

theorem lastWrite_ok (cbs : List Cb) (init : Option Val) (hi : alignInDomain init = true)
    (hcbs : ∀ cb ∈ cbs, cb.alignOK = true) : alignInDomain (lastWrite .align cbs init) = true := by
  induction cbs generalizing init with
  | nil => exact hi
  | cons cb cbs ih =>
    -- the value after the first callback is within the domain, then the induction hypothesis
    refine ih _ ?_ (fun c hc => hcbs c (List.mem_cons_of_mem _ hc))
    have hcb := hcbs cb List.mem_cons_self
    cases cb with
    | setProp id k v =>
      show alignInDomain (if k = .align then v else init) = true
      split
      · next hk => subst hk; exact hcb
      · exact hi
    | _ => exact hi

/-- In a world all of whose `align`-writing callbacks and column records carry alignments within the
    domain, the view a renderer reads after its callbacks pass over ANY table `t` is `AlignOK`. -/
theorem alignOK_post {w : World} (hw : CbsAll Cb.alignOK w) (hn : AllNodup w) (hc : ColsOK w) (t : Nat) :
    AlignOK ((invokeRenderCallbacks dw w t).view t) := by
  intro i _
  rw [← alignInDomain_iff, C08e.colAlign_getD_last_writer dw w t (E2Ecb.columns_nodup fun n => hn (.column t n)) i]
  cases hci : (w.table t).columns[i]? with
  | none => rfl
  | some c =>
    have hcol? : w.column? t i = some c := hci
    have hcbs : ∀ tm, w.cbsAt (.colSelf t i) tm = c.selfCbs.at tm := fun tm => by
      simp only [World.cbsAt, World.cbSet, hcol?, Option.map_some, Option.getD_some]
    refine lastWrite_ok _ _ ?_ (fun cb hcb => ?_)
    · have := hc t i
      simpa [World.getProp, hcol?] using this
    · rcases List.mem_append.mp hcb with h | h
      · exact hw (.colSelf t i) .pre cb (by rw [hcbs]; exact h)
      · exact hw (.colSelf t i) .post cb (by rw [hcbs]; exact h)

/-! ### "`Wrap`, then render" (`auto`, the package-level functions): the `Wrap` step is a history step -/

/-- the `Wrap` step brings no ready-made cell value -/
theorem cellsOk_wrapOps (ops : List BuildOp) (hc : CellsOk ops) (k : WKind) (t : Nat) :
    CellsOk (ops ++ wrapOps k t) := by
  unfold CellsOk at hc ⊢
  rw [List.all_append, hc]
  cases k <;> rfl

/-- the measuring callbacks a `Wrap` step registers write no `align` -/
theorem alignValuesOK_wrapOps (ops : List BuildOp) (ha : AlignValuesOK ops) (k : WKind) (t : Nat) :
    AlignValuesOK (ops ++ wrapOps k t) := by
  unfold AlignValuesOK at ha ⊢
  rw [List.all_append, ha]
  cases k <;> rfl

end C09h
end Tab
