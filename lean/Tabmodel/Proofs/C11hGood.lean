/- C11, history level — the counter of every traversal is the mass gained, container by container. -/
import Tabmodel.Proofs.C11hCount
namespace Tab
namespace World

/-- State of a counting traversal that was started in world `w0` with counter `k` and sends all
    its errors to `g0`: only lists have grown; the total mass and the count held for `g0` have
    grown by the counter's increase, every other count is what it was. -/
structure Good (w0 : World) (e k : Nat) (g0 : Src) (c : Cnt) : Prop where
  st : Stable w0 c.1
  le : k ≤ c.2
  ms : mass c.1 e = mass w0 e + (c.2 - k)
  ct : ∀ g, cnt c.1 e g = cnt w0 e g + if g0 = g then c.2 - k else 0

theorem Good.start (w0 : World) (e k : Nat) (g0 : Src) : Good w0 e k g0 (w0, k) :=
  ⟨Stable.refl w0, Nat.le_refl k, by simp, by intro g; simp⟩

theorem Good.step {w0 : World} {e k : Nat} {g0 : Src} {c : Cnt} (h : Good w0 e k g0 c)
    (w' : World) (n : Nat) (hs : Stable c.1 w') (hm : mass w' e = mass c.1 e + n)
    (hc : ∀ g, cnt w' e g = cnt c.1 e g + if g0 = g then n else 0) : Good w0 e k g0 (w', c.2 + n) where
  st := h.st.trans hs
  le := Nat.le_trans h.le (Nat.le_add_right _ _)
  ms := by
    show mass w' e = _ + (c.2 + n - k)
    rw [hm, h.ms, Nat.sub_add_comm h.le, Nat.add_assoc]
  ct g := by
    show cnt w' e g = _ + if g0 = g then c.2 + n - k else 0
    rw [hc, h.ct g, Nat.sub_add_comm h.le, Nat.add_assoc]
    split <;> rfl

theorem Good.same {w0 : World} {e k : Nat} {g0 : Src} {c : Cnt} (h : Good w0 e k g0 c) {w' : World}
    (hs : Stable c.1 w') (he : SameErrs c.1 w') : Good w0 e k g0 (w', c.2) :=
  h.step w' 0 hs (he.mass e) (fun g => by simp [he.cnt])

theorem invokeK_good {w0 : World} {e k : Nat} {g0 : Src} {c : Cnt} (dw : Measure)
    (h : Good w0 e k g0 c) (cbs : World → List Cb) (tgt : Target) (tk : World → Taker)
    (htk : resolve w0 (tk c.1) = some g0) : Good w0 e k g0 (invokeK dw e c cbs tgt tk) :=
  have hr := resolve_stable h.st htk
  h.step _ _ (invoke_stable dw c.1 _ tgt _) (mass_invoke dw c.1 _ tgt _ e (live_of_resolve hr))
    (fun g => cnt_invoke dw c.1 _ tgt _ e g g0 hr)

/-! ### `Row.Add` -/

theorem sameErrs_rowAddCellPre (w : World) (r : Nat) (ce : Cell) (cs : List Cell) :
    SameErrs w (rowAddCellPre w r ce cs) := by
  unfold rowAddCellPre
  simp only
  split
  · refine .trans (sameErrs_modRow w r _ ?_) (sameErrs_modTable _ _ _ (fun x => resize_errs x _))
    exact fun _ => rfl
  · exact sameErrs_modRow _ _ _ (fun _ => rfl)

theorem rowAddCellK_good {w0 : World} {e k : Nat} {g0 : Src} {c : Cnt} (dw : Measure)
    (h : Good w0 e k g0 c) (r : Nat) (ce : Cell) (htk : resolve w0 (.rowLazy r) = some g0) :
    Good w0 e k g0 (rowAddCellK dw e c r ce) := by
  unfold rowAddCellK
  split
  · have hr := resolve_stable h.st htk
    refine h.step _ _ (addErrTo_stable c.1 (.rowLazy r) errNonCellRow) ?_ (fun g => ?_)
    · rw [mass_addErrTo c.1 _ _ e (live_of_resolve hr)]; simp only [eq_comm]
    · rw [cnt_addErrTo, hr]
      by_cases hg : g0 = g <;> simp [hg, eq_comm]
  · next cs _ =>
    exact invokeK_good dw (h.same (rowAddCellPre_stable c.1 r ce cs) (sameErrs_rowAddCellPre c.1 r ce cs))
      _ _ _ htk

theorem rowAddManyK_good {w0 : World} {e k : Nat} {g0 : Src} (dw : Measure) (r : Nat)
    (is : List Nat) (c : Cnt) (h : Good w0 e k g0 c) (htk : resolve w0 (.rowLazy r) = some g0) :
    Good w0 e k g0 (rowAddManyK dw e r is c) := by
  induction is generalizing c with
  | nil => exact h
  | cons i is ih => rw [rowAddManyK]; exact ih _ (rowAddCellK_good dw h r _ htk)

/-! ### add-time cell callbacks -/

theorem addTimeCellsK_good {w0 : World} {e k : Nat} {g0 : Src} (dw : Measure) (t r : Nat)
    (tkf : World → Taker) (n i : Nat) (c : Cnt) (h : Good w0 e k g0 c)
    (htk : ∀ w', Stable w0 w' → resolve w0 (tkf w') = some g0) :
    Good w0 e k g0 (addTimeCellsK dw e t r tkf n i c) := by
  induction n generalizing i c with
  | zero => exact h
  | succ n ih =>
    rw [addTimeCellsK]
    have h1 := invokeK_good dw h (fun w => colCellCbs w (columnOf w r i) .add) (.cell r i) tkf
      (htk _ h.st)
    have h2 := invokeK_good dw h1 (fun w => (w.table t).cellCbs.at .add) (.cell r i) tkf
      (htk _ h1.st)
    exact ih _ _ h2

theorem resolve_table {w : World} {t : Nat} (ht : t < w.tables.length) :
    resolve w (.table t) = some (.table t) := by simp [resolve, ht]

theorem resolve_rowEC {w0 : World} {t r : Nat} (ht : t < w0.tables.length)
    (hec : (w0.row r).ec = .table t) (w' : World) (hs : Stable w0 w') :
    resolve w0 (rowECTaker w' r) = some (.table t) := by
  have := (hs.ecT r t).mp hec
  simp only [rowECTaker, this]
  exact resolve_table ht

theorem addRowK_good (dw : Measure) (e k : Nat) (w : World) (t r : Nat) (ht : t < w.tables.length)
    (hr : r < w.rows.length) :
    Good (addRowCore w t r) e k (.table t) (addRowK dw e (w, k) t r) := by
  have ht' : t < (addRowCore w t r).tables.length := by rw [addRowCore_tables_length]; exact ht
  unfold addRowK
  exact addTimeCellsK_good dw t r _ _ 0 _
    (invokeK_good dw (invokeK_good dw (Good.start (addRowCore w t r) e k (.table t)) _ _ _
      (resolve_table ht')) _ _ _ (resolve_table ht'))
    (resolve_rowEC ht' (addRowCore_ec w t r hr))

/-! ### render -/

theorem foldK_good {w0 : World} {e k : Nat} {t r : Nat} (dw : Measure) (tgt : Target)
    (calls : List ((World → List Cb) × (World → Taker))) (c : Cnt)
    (ht : t < w0.tables.length) (hec : (w0.row r).ec = .table t)
    (hcalls : ∀ d ∈ calls, ∀ w, d.2 w = .table t ∨ d.2 w = rowECTaker w r)
    (h : Good w0 e k (.table t) c) :
    Good w0 e k (.table t) (calls.foldl (fun c d => invokeK dw e c d.1 tgt d.2) c) := by
  induction calls generalizing c with
  | nil => exact h
  | cons d ds ih =>
    simp only [List.foldl_cons]
    apply ih
    · intro d' hd'; exact hcalls d' (List.mem_cons_of_mem _ hd')
    · apply invokeK_good dw h
      rcases hcalls d (List.mem_cons_self ..) c.1 with h' | h'
      · rw [h']; exact resolve_table ht
      · rw [h']; exact resolve_rowEC ht hec c.1 h.st

theorem renderCellsK_good {w0 : World} {e k : Nat} {t r : Nat} (dw : Measure) (n i : Nat) (c : Cnt)
    (ht : t < w0.tables.length) (hec : (w0.row r).ec = .table t)
    (h : Good w0 e k (.table t) c) : Good w0 e k (.table t) (renderCellsK dw e t r n i c) := by
  induction n generalizing i c with
  | zero => exact h
  | succ n ih =>
    rw [renderCellsK]
    exact ih _ _ (foldK_good dw _ _ c ht hec (cellCalls_takers t r i _) h)

theorem renderRowK_good {w0 : World} {e k : Nat} {t : Nat} (dw : Measure) (c : Cnt) (r : Nat)
    (ht : t < w0.tables.length) (hec : (w0.row r).ec = .table t)
    (h : Good w0 e k (.table t) c) : Good w0 e k (.table t) (renderRowK dw e t c r) := by
  unfold renderRowK
  apply invokeK_good dw _ _ _ _ (resolve_table ht)
  apply renderCellsK_good dw _ _ _ ht hec
  exact invokeK_good dw h _ _ _ (resolve_table ht)

theorem renderColumnsK_good {w0 : World} {e k : Nat} {t : Nat} (dw : Measure) (tm : Time)
    (n i : Nat) (c : Cnt) (ht : t < w0.tables.length)
    (h : Good w0 e k (.table t) c) : Good w0 e k (.table t) (renderColumnsK dw e t tm n i c) := by
  induction n generalizing i c with
  | zero => exact h
  | succ n ih =>
    rw [renderColumnsK]
    exact ih _ _ (invokeK_good dw h _ _ _ (resolve_table ht))

theorem foldl_renderRowK_good {w0 : World} {e k : Nat} {t : Nat} (dw : Measure) (rs : List Nat)
    (c : Cnt) (ht : t < w0.tables.length) (hrs : ∀ r ∈ rs, (w0.row r).ec = .table t)
    (h : Good w0 e k (.table t) c) :
    Good w0 e k (.table t) (rs.foldl (renderRowK dw e t) c) := by
  induction rs generalizing c with
  | nil => exact h
  | cons r rs ih =>
    simp only [List.foldl_cons]
    apply ih
    · intro r' hr'; exact hrs r' (List.mem_cons_of_mem _ hr')
    · exact renderRowK_good dw c r ht (hrs r (List.mem_cons_self ..)) h

theorem renderHeaderK_good {w0 : World} {e k : Nat} {t : Nat} (dw : Measure) (c : Cnt)
    (ht : t < w0.tables.length) (hhdr : ∀ hr ∈ (w0.table t).header, (w0.row hr).ec = .table t)
    (h : Good w0 e k (.table t) c) : Good w0 e k (.table t) (renderHeaderK dw e t c) := by
  unfold renderHeaderK
  split
  · next hr hh => exact renderRowK_good dw c hr ht (hhdr hr ((h.st.thdr t).symm.trans hh)) h
  · exact h

theorem renderK_good (dw : Measure) (e k : Nat) (w0 : World) (t : Nat) (ha : attachedAll w0 t) :
    Good w0 e k (.table t) (renderK dw e (w0, k) t) := by
  obtain ⟨ht, hrows, hhdr⟩ := ha
  have rows (c : Cnt) (h : Good w0 e k (.table t) c) :
      Good w0 e k (.table t) ((c.1.table t).rows.foldl (renderRowK dw e t) c) :=
    foldl_renderRowK_good dw _ c ht (fun r hr => hrows r (h.st.trows t ▸ hr)) h
  unfold renderK
  exact invokeK_good dw (renderColumnsK_good dw .post _ 0 _ ht (rows _ (renderHeaderK_good dw _ ht hhdr
    (renderColumnsK_good dw .pre _ 0 _ ht (invokeK_good dw (Good.start w0 e k (.table t)) _ _ _
      (resolve_table ht)))))) _ _ _ (resolve_table ht)

end World
end Tab
