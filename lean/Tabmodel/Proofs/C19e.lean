/-
  Helper lemmas for C19e (`Props/C19e.lean`):
  * `X.Wrap` (`wrapEffect`) changes neither the view, the shape (so `Inv` is kept) nor `GoodTable`;
  * `GoodTable w t` gives the view-level acceptance conditions of the five renderers
    (`HeaderOK`, `MarshalOK`, `AlignOK` of `w.view t`);
  * a good table of a world satisfying the invariant renders `.ok ()` through EVERY wrapper that
    does not carry the empty decoration (`renderTo_ok_of_good`);
  * `auto`'s wrapper is `Format.wrapper` of the resolved style.
-/
import Tabmodel.Props.E2E
import Tabmodel.Props.C10
import Tabmodel.Props.C19
import Tabmodel.Props.C03Decor
import Tabmodel.Proofs.C19eDefs
namespace Tab
open World hiding CellOK
attribute [local instance] lawfulBEq_uint8

namespace World

theorem item_wrapEffect (w : World) (k : WKind) (t i : Nat) : (w.wrapEffect k t).item i = w.item i := by
  cases k <;> rfl

theorem rcell_wrapEffect (w : World) (k : WKind) (t : Nat) : (w.wrapEffect k t).rcell = w.rcell := by
  funext c
  unfold rcell
  rw [item_wrapEffect]

theorem view_wrapEffect (w : World) (k : WKind) (t t' : Nat) : (w.wrapEffect k t).view t' = w.view t' := by
  unfold view
  rw [table_wrapEffect_skel]
  simp only [rowCells_wrapEffect, row_wrapEffect, rcell_wrapEffect]

theorem shape_wrapEffect (w : World) (k : WKind) (t : Nat) : (w.wrapEffect k t).shape = w.shape := by
  cases k
  case text => exact shape_modTable_id _ _ _ (fun _ => rfl)
  case markdown => exact shape_modTable_id _ _ _ (fun _ => rfl)
  all_goals rfl

theorem inv_wrapEffect {w : World} (h : Inv w) (k : WKind) (t : Nat) : Inv (w.wrapEffect k t) := by
  unfold Inv; rw [shape_wrapEffect]; exact h

theorem headerTexts_wrapEffect (w : World) (k : WKind) (t t' : Nat) :
    (w.wrapEffect k t).headerTexts t' = w.headerTexts t' := by
  unfold headerTexts
  rw [table_wrapEffect_skel]
  simp only [rowCells_wrapEffect]

theorem goodTable_wrapEffect (w : World) (k : WKind) (t t' : Nat) (h : GoodTable w t') :
    GoodTable (w.wrapEffect k t) t' := by
  obtain ⟨h1, h2, h3, h4, h5, h6, h7, h8, h9, hL⟩ := h
  have hs := table_wrapEffect_skel w k t t'
  refine ⟨by rw [ntables_wrapEffect]; exact h1, by rw [hs]; exact h2, by rw [hs]; exact h3,
    by rw [headerTexts_wrapEffect, hs]; exact h4, by rw [headerTexts_wrapEffect]; exact h5,
    by rw [headerTexts_wrapEffect]; exact h6, ?_, by rw [hs]; exact h8, by rw [hs]; exact h9,
    logOnly_wrapEffect w k t t' hL⟩
  rw [hs]
  intro r hr ce hce
  rw [rowCells_wrapEffect] at hce
  rw [item_wrapEffect]
  exact h7 r hr ce hce

theorem view_headerCells (w : World) (t : Nat) :
    (headerCells (w.view t)).map (·.text) = w.headerTexts t := by
  unfold headerCells headerTexts
  show List.map _ (((w.table t).header.map (fun hr => (w.rowCells hr).map w.rcell)).getD []) = _
  cases (w.table t).header with
  | none => rfl
  | some hr =>
    simp only [Option.map_some, Option.getD_some, List.map_map]
    rfl

theorem view_headerText (w : World) (t i : Nat) :
    headerText (w.view t) i = (w.headerTexts t).getD i [] := by
  unfold headerText
  rw [← view_headerCells, List.getD_eq_getElem?_getD, List.getElem?_map]
  cases (headerCells (w.view t))[i]? <;> rfl

theorem headerOK_of_good {w : World} {t : Nat} (h : GoodTable w t) : HeaderOK (w.view t) := by
  obtain ⟨_, h2, h3, h4, h5, h6, _, h8, _, _⟩ := h
  have hskip : ∀ i, boolOrNone ((w.view t).colSkip.getD i none) = true := fun i =>
    getD_all (P := (boolOrNone · = true)) rfl
      (by rw [view_colSkip, List.forall_mem_map]; exact h8) i
  have htext : ∀ i (hi : i < (w.headerTexts t).length),
      headerText (w.view t) i = (w.headerTexts t)[i] :=
    fun i hi => by rw [view_headerText, List.getD_eq_getElem?_getD, List.getElem?_eq_getElem hi]; rfl
  refine ⟨h2, hskip 0, by rw [view_header_isSome]; exact h3, ?_, ?_, ?_, fun i _ => hskip (i + 1)⟩
  · show (w.table t).nColumns ≤ _
    rw [← h4, ← view_headerCells, List.length_map]
    exact Nat.le_refl _
  · intro i hi he
    rw [htext i (h4 ▸ hi)] at he
    exact h5 (he ▸ List.getElem_mem _)
  · intro i hi j hj he
    have hi' : i < (w.headerTexts t).length := h4 ▸ hi
    rw [htext i hi', htext j (Nat.lt_trans hj hi')] at he
    exact List.pairwise_iff_getElem.mp h6 j i _ hi' hj he

theorem marshalOK_of_good {w : World} {t : Nat} (h : GoodTable w t) : MarshalOK (w.view t) := by
  intro r hr cs hcs p hp _
  obtain ⟨rid, hrid, he⟩ := List.mem_map.mp (hr : r ∈ (w.table t).rows.map _)
  -- `cs ∈ r` says `r = some cs`: row `rid` is not a separator and `cs` is the view of its cells
  split at he
  · rw [← he] at hcs; cases hcs
  · obtain rfl : (w.rowCells rid).map w.rcell = cs := Option.some.inj (he.trans hcs)
    have hmem : p.1 ∈ (w.rowCells rid).map w.rcell :=
      List.mem_of_getElem? (List.mk_mem_zipIdx_iff_getElem?.mp hp)
    obtain ⟨ce, hce, e⟩ := List.mem_map.mp hmem
    rw [← e]
    exact Option.isSome_iff_ne_none.mpr (h.2.2.2.2.2.2.1 rid hrid ce hce)

theorem alignValOK_spec {o : Option Val} (h : alignValOK o = true) :
    o = none ∨ ∃ a, (a = 1 ∨ a = 2 ∨ a = 3) ∧ o = some (.align a) := by
  unfold alignValOK at h
  split at h
  · exact .inl rfl
  · next a =>
    simp only [Bool.or_eq_true, beq_iff_eq] at h
    exact .inr ⟨a, or_assoc.mp h, rfl⟩
  · cases h

theorem alignOK_of_good {w : World} {t : Nat} (h : GoodTable w t) : AlignOK (w.view t) :=
  fun i _ => alignValOK_spec <|
    getD_all (P := (alignValOK · = true)) rfl
      (by rw [view_colAlign, List.forall_mem_map]; exact h.2.2.2.2.2.2.2.2.1) i

/-- On a world satisfying the invariant, a good table renders without error through a wrapper of
    ANY kind; for a text wrapper the one demand on the decoration is that it is not the empty one
    (no divider combination makes `renderedLine` fail: `renderTextBody_total`). -/
theorem renderTo_ok_of_good (x : Ext) {w : World} (hinv : Inv w) (wr : Wrapper)
    (hg : GoodTable w wr.core) (hd : wr.kind = .text → wr.decor ≠ emptyDecoration) :
    (w.renderTo x wr).2.res = .ok () := by
  have ht := hg.1
  have hn : 1 ≤ (w.view wr.core).ncols := hg.2.1
  have hL : LogOnly w wr.core := hg.2.2.2.2.2.2.2.2.2
  have hwf : WFShape (w.view wr.core) := (c02_view_wf hinv wr.core ht).1
  obtain ⟨_, hwf', hlen', _⟩ := c02_view_wf_after_callbacks x.dw hinv wr.core ht
  have ha' : AlignOK ((invokeRenderCallbacks x.dw w wr.core).view wr.core) :=
    alignOK_irc x.dw w wr.core hL (alignOK_of_good hg)
  have hn' : 1 ≤ ((invokeRenderCallbacks x.dw w wr.core).view wr.core).ncols := by
    rw [irc_view_ncols x.dw w wr.core hL]; exact hn
  cases hk : wr.kind with
  | csv =>
    rw [renderTo_csv x w wr hk, renderCsv_irc x.dw w wr.core hL]
    exact c05_total _ hn hwf
  | json =>
    rw [renderTo_json x w wr hk, renderJson_irc x.dw x.js w wr.core hL]
    exact (c07_valid_mirror x.js _ ⟨headerOK_of_good hg, hwf, marshalOK_of_good hg⟩).1
  | html => exact (e2e_html x w wr hk hL).2.1
  | markdown =>
    rw [renderTo_markdown x w wr hk]
    have hal := alignsOK_of_alignOK _ hlen' ha'
    refine (c08_ok_iff x.dw _ hal).mpr ⟨hn', ?_, hwf', hal⟩
    rw [irc_view_header_isSome x.dw w wr.core hL]
    exact hg.2.2.1
  | text =>
    rw [renderTo_text x w wr hk (hd hk)]
    exact renderTextBody_total wr.decor _ hwf' ha'

end World

theorem autoWrapper_eq (reg : Registry) (heavy : Decoration) (style : Bytes) (t : Nat) :
    autoWrapper reg heavy style t = (resolveStyle reg heavy style).wrapper t := by
  unfold autoWrapper Format.wrapper
  cases resolveStyle reg heavy style <;> rfl

theorem wrapper_core (f : Format) (t : Nat) : (f.wrapper t).core = t := by cases f <;> rfl

theorem wrapper_text (f : Format) (t : Nat) (h : (f.wrapper t).kind = .text) :
    f = .text (f.wrapper t).decor := by
  cases f with
  | text d => rfl
  | _ => cases h

/-- `auto.RenderTo(t, style)` is: resolve, `Wrap`, `RenderTo` -/
theorem autoRender_eq (x : Ext) (reg : Registry) (heavy : Decoration) (w : World) (t : Nat) (style : Bytes) :
    World.autoRender x reg heavy w t style =
      renderTo x (w.wrapEffect ((resolveStyle reg heavy style).wrapper t).kind t)
        ((resolveStyle reg heavy style).wrapper t) := by
  unfold World.autoRender
  rw [autoWrapper_eq]

theorem autoRender_empty (x : Ext) (reg : Registry) (heavy : Decoration) (w : World) (t : Nat) (style : Bytes)
    (h : resolveStyle reg heavy style = .text emptyDecoration) :
    (World.autoRender x reg heavy w t style).2.res = .error (.err .noDecoration) ∧
    (World.autoRender x reg heavy w t style).2.chunks = [] ∧
    (World.autoRender x reg heavy w t style).1 = w.wrapEffect .text t ∧
    World.renderString (World.autoRender x reg heavy w t style).2 = ([], some (.err .noDecoration)) := by
  rw [autoRender_eq, h]
  exact (c17_fail_closed reg [] x (w.wrapEffect .text t)).2.1 _ rfl rfl

theorem builtins_plain : ∀ p ∈ Generated.builtins,
    NoDot p.1 ∧ goLower p.1 ∉ reservedNames ∧ p.2 ≠ emptyDecoration := by
  have fold : ∀ p ∈ Generated.builtins, goLower p.1 ∉ reservedNames := by
    rw [reservedNames_lit]; decide +kernel
  exact fun p hp => ⟨c19_builtin_names_plain p hp, fold p hp, c19_builtins_nonempty p hp⟩

namespace C19eExample

/-- the table of the example history `e2eOps` (Proofs/E2EExample.lean: header `a b`, rows `c d`,
    separator, ragged row `e`, column 1 right-aligned, a logging user callback, wrapped as text and
    markdown) is a good table -/
theorem hG : GoodTable (run e2eX.dw e2eOps) 0 := by decide +kernel

/-- `"light"` -/
def sLight : Bytes := [108, 105, 103, 104, 116]

end C19eExample

end Tab
