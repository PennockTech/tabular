/-
  The concrete history used by the non-vacuity examples of `Props/E2Ecb.lean` (`dw := List.length`),
  the decidable hypotheses of the theorems evaluated on it, and the other small example worlds.
-/
import Tabmodel.Proofs.E2EExample
import Tabmodel.Proofs.E2EcbMeas
namespace Tab
open World hiding CellOK

def cbHist : List BuildOp :=
  [ .setItems [exItem 97, exItem 98, exItem 99, exItem 100, exItem 101, exItem 102],
    .newTable,
    .regCb (.table 0) .pre .cell (.log 1),
    .regCb (.table 0) .render .cell (.setProp 2 (.user 7) (some (.user 70))),
    .regCb (.table 0) .pre .itself (.fail 3 55),
    .addHeaders 0 [0, 1],            -- row id 0
    .addRowItems 0 [2, 3],           -- row id 1
    .addSeparator 0,                 -- row id 2
    .newRow, .rowAdd 3 4, .addRow 0 3,
    .setProp (.column 0 1) .align (some (.align 2)),
    .regCb (.column 0 1) .pre .itself (.setProp 4 .align (some (.align 3))),
    .regCb (.column 0 2) .pre .itself (.setProp 5 .align (some (.align 2))),
    .regCb (.column 0 2) .post .itself (.setProp 6 .align none),
    .regCb (.column 0 2) .post .itself (.setProp 7 .skipable (some (.bool true))),
    .regCb (.row 1) .post .itself (.fail 8 56),
    .regCb (.column 0 1) .pre .cell (.fail 9 57),
    .regCb (.table 0) .post .cell (.setProp 10 .align (some (.align 1))) ]

def cbOps : List BuildOp := cbHist ++ wrapOps .text 0 ++ wrapOps .markdown 0
def cbW : World := run e2eX.dw cbOps

def cbFrameW : World :=
  run e2eX.dw (e2eHist ++ [.regCb (.table 0) .post .cell (.setProp 10 .align (some (.align 1)))])

def cbTwo : World := run e2eX.dw (cbOps ++ [.newTable, .addHeaders 1 [4], .addRowItems 1 [5]])

def cbShare : World := run e2eX.dw (cbOps ++ [.newTable, .addRow 1 1])

/-- a table whose second column holds an empty text; the column's own pre-time callback sets `skipable` -/
def cbSkipW : World :=
  run e2eX.dw [ .setItems [exItem 97, exItem 98, { exItem 0 with kind := .str [], fmtV := [], json := some [34, 34] }],
    .newTable, .addHeaders 0 [0, 1], .addRowItems 0 [0, 2],
    .regCb (.column 0 2) .pre .itself (.setProp 7 .skipable (some (.bool true))) ]

def cbPriv : World :=
  run e2eX.dw (cbOps ++ [.regCb (.table 0) .post .cell (.setProp 11 .ttDims (some (.dims 100 1)))])

namespace E2EcbExample

theorem hv : Valid cbOps = true := by decide +kernel
theorem ht : 0 < (run e2eX.dw cbOps).tables.length := by decide +kernel
theorem hnd : ∀ c ∈ (cbW.table 0).columns, c.props.keys.Nodup := by decide +kernel
theorem hU : (run e2eX.dw cbOps).UserKeysOnly 0 := by decide +kernel
theorem hNt : Needs (run e2eX.dw cbOps) e2eText := by decide +kernel
theorem hNb : Needs (run e2eX.dw cbOps) e2eBoxless := by decide +kernel
theorem hNm : Needs (run e2eX.dw cbOps) e2eMd := by decide +kernel
theorem ha : AlignOK ((invokeRenderCallbacks e2eX.dw (run e2eX.dw cbOps) 0).view 0) :=
  alignOK_of_alignOKb _ (by decide +kernel)
theorem hn : 1 ≤ ((run e2eX.dw cbOps).table 0).nColumns := by decide +kernel
theorem hF : TableFits e2eX.dw (run e2eX.dw cbOps) 0 := by decide +kernel

end E2EcbExample
end Tab
