/-
  `wrapEffect` (what `X.Wrap` does to the world) against `LogOnly`, `Needs`, `obs`; and the
  relation `Stable w w'` ("`w'` is `w` after some wraps and log-only renders") that the
  sequence theorems are proved with.  A wrap is `Wr cb t` for the measuring callback of its kind,
  or nothing; `Wr cb t` changes the cell-callback set of table `t` and nothing else.
-/
import Tabmodel.Proofs.StableView
namespace Tab
namespace World

/-- the measuring callback `X.Wrap` registers -/
def wrapCb : WKind → Option Cb
  | .text => some .dimSetter
  | .markdown => some .widthSetter
  | _ => none

def wrapG (cb : Cb) (tb : Table) : Table := { tb with cellCbs := tb.cellCbs.push .render cb }

def Wr (cb : Cb) (t : Nat) (w : World) : World := w.modTable t (wrapG cb)

theorem wrapEffect_eq (w : World) (k : WKind) (t : Nat) :
    w.wrapEffect k t = match wrapCb k with
      | some cb => Wr cb t w
      | none => w := by
  cases k <;> rfl

theorem wrapCb_okCell {k : WKind} {cb : Cb} (h : wrapCb k = some cb) : cb.okCell = true := by
  cases k <;> simp [wrapCb] at h <;> subst h <;> rfl

theorem wrapEffect_rd {α : Sort _} (f : World → α) (t : Nat) (hf : ∀ cb w, f (Wr cb t w) = f w) (w : World)
    (k : WKind) : f (w.wrapEffect k t) = f w := by
  rw [wrapEffect_eq]
  cases wrapCb k with
  | none => rfl
  | some cb => exact hf cb w

/-! ### `Wr` -/

section
variable (cb : Cb) (t : Nat)

@[simp] theorem Wr_row (w : World) (r : Nat) : (Wr cb t w).row r = w.row r := rfl
@[simp] theorem Wr_rowCells (w : World) (r : Nat) : (Wr cb t w).rowCells r = w.rowCells r := rfl
@[simp] theorem Wr_cell? (w : World) (r c : Nat) : (Wr cb t w).cell? r c = w.cell? r c := rfl
@[simp] theorem Wr_item (w : World) (i : Nat) : (Wr cb t w).item i = w.item i := rfl
@[simp] theorem Wr_rows (w : World) : (Wr cb t w).rows = w.rows := rfl
@[simp] theorem Wr_copies (w : World) : (Wr cb t w).copies = w.copies := rfl

theorem table_Wr (w : World) (t' : Nat) :
    (Wr cb t w).table t' = if t = t' ∧ t < w.tables.length then wrapG cb (w.table t') else w.table t' := by
  have hc : (t = t' ∧ t' < w.tables.length) ↔ (t = t' ∧ t < w.tables.length) :=
    and_congr_right (fun h => h ▸ Iff.rfl)
  simp only [Wr, table_modTable, hc]

theorem Wr_table_proj {β : Sort _} (g : Table → β) (hg : ∀ tb c, g { tb with cellCbs := c } = g tb) (w : World)
    (t' : Nat) : g ((Wr cb t w).table t') = g (w.table t') :=
  table_modTable_proj w t (wrapG cb) g (fun tb => hg tb _) t'

theorem Wr_table (w : World) (t' : Nat) :
    (Wr cb t w).table t' = { w.table t' with cellCbs := ((Wr cb t w).table t').cellCbs } := by
  rw [table_Wr]; split <;> rfl

theorem Wr_columnOf (w : World) (r c : Nat) : (Wr cb t w).columnOf r c = w.columnOf r c := by
  unfold columnOf
  simp only [Wr_cell?, Wr_row, Wr_table_proj cb t (·.nColumns) (fun _ _ => rfl) w]

theorem Wr_colCellCbs (w : World) (tc : Option (Nat × Nat)) (tm : Time) :
    (Wr cb t w).colCellCbs tc tm = w.colCellCbs tc tm := by
  unfold colCellCbs column?
  simp only [Wr_table_proj cb t (·.columns) (fun _ _ => rfl) w]

theorem Wr_rowECTaker (w : World) (r : Nat) : (Wr cb t w).rowECTaker r = w.rowECTaker r := rfl

theorem Wr_rowErrors (w : World) (r : Nat) : (Wr cb t w).rowErrors r = w.rowErrors r := by
  unfold rowErrors
  simp only [Wr_row, Wr_table_proj cb t (·.errs) (fun _ _ => rfl) w]

theorem Wr_rowObs (w : World) (r : Nat) : (Wr cb t w).rowObs r = w.rowObs r := by
  unfold rowObs
  rw [Wr_rowErrors]
  rfl

theorem Wr_obs (w : World) (t' : Nat) : (Wr cb t w).obs t' = w.obs t' := by
  unfold obs
  rw [Wr_table, funext (Wr_rowObs cb t w)]

theorem Wr_bare (w : World) : (Wr cb t w).bare = w.bare := by
  unfold Wr modTable bare
  simp only
  congr 1
  exact map_modify_inv Table.bare (wrapG cb) (fun _ => rfl) w.tables t

theorem Wr_rowLogOnly (w : World) (r : Nat) : RowLogOnly (Wr cb t w) r ↔ RowLogOnly w r := by
  unfold RowLogOnly
  simp only [Wr_row, Wr_rowCells, Wr_columnOf, Wr_colCellCbs]

theorem okCell_push_render (s : CbSet) (cb : Cb) (h : s.okCell = true) (hcb : cb.okCell = true) :
    (s.push .render cb).okCell = true := by
  unfold CbSet.okCell at h ⊢
  simp only [Bool.and_eq_true] at h
  simp only [CbSet.push, Bool.and_eq_true, List.all_append, List.all_cons, List.all_nil, Bool.and_true]
  exact ⟨⟨h.1.1, h.1.2, hcb⟩, h.2⟩

theorem Wr_logOnly (hcb : cb.okCell = true) (w : World) (t' : Nat) (h : LogOnly w t') : LogOnly (Wr cb t w) t' := by
  have hs := Wr_table cb t w t'
  unfold LogOnly at h ⊢
  refine ⟨?_, ?_, ?_, ?_⟩
  · rw [hs]; exact h.1
  · rw [table_Wr]
    split
    · exact okCell_push_render _ cb h.2.1 hcb
    · exact h.2.1
  · rw [hs]; exact h.2.2.1
  · rw [hs]
    exact fun r hr => (Wr_rowLogOnly cb t w r).mpr (h.2.2.2 r hr)

theorem Wr_render_mem (w : World) (t' : Nat) (cb' : Cb) (h : cb' ∈ (w.table t').cellCbs.render) :
    cb' ∈ ((Wr cb t w).table t').cellCbs.render := by
  rw [table_Wr]
  split
  · exact List.mem_append_left _ h
  · exact h

theorem Wr_render_mem_self (w : World) (ht : t < w.tables.length) : cb ∈ ((Wr cb t w).table t).cellCbs.render := by
  rw [table_Wr, if_pos ⟨rfl, ht⟩]
  exact List.mem_append_right _ List.mem_cons_self

end

/-! ### `wrapEffect` -/

theorem table_wrapEffect (w : World) (k : WKind) (t t' : Nat) :
    (w.wrapEffect k t).table t' =
      match wrapCb k with
      | some cb =>
        if t = t' ∧ t < w.tables.length then
          { w.table t' with cellCbs := (w.table t').cellCbs.push .render cb }
        else w.table t'
      | none => w.table t' := by
  rw [wrapEffect_eq]
  cases wrapCb k with
  | none => rfl
  | some cb => exact table_Wr cb t w t'

theorem table_wrapEffect_skel (w : World) (k : WKind) (t t' : Nat) :
    (w.wrapEffect k t).table t' = { w.table t' with cellCbs := ((w.wrapEffect k t).table t').cellCbs } := by
  rw [wrapEffect_eq]
  cases wrapCb k with
  | none => rfl
  | some cb => exact Wr_table cb t w t'

@[simp] theorem row_wrapEffect (w : World) (k : WKind) (t r : Nat) : (w.wrapEffect k t).row r = w.row r :=
  wrapEffect_rd (·.row r) t (fun _ _ => rfl) w k
@[simp] theorem rowCells_wrapEffect (w : World) (k : WKind) (t r : Nat) :
    (w.wrapEffect k t).rowCells r = w.rowCells r :=
  wrapEffect_rd (·.rowCells r) t (fun _ _ => rfl) w k
@[simp] theorem cell?_wrapEffect (w : World) (k : WKind) (t r c : Nat) : (w.wrapEffect k t).cell? r c = w.cell? r c :=
  wrapEffect_rd (·.cell? r c) t (fun _ _ => rfl) w k

theorem columnOf_wrapEffect (w : World) (k : WKind) (t r c : Nat) : (w.wrapEffect k t).columnOf r c = w.columnOf r c :=
  wrapEffect_rd (·.columnOf r c) t (fun cb w => Wr_columnOf cb t w r c) w k

theorem colCellCbs_wrapEffect (w : World) (k : WKind) (t : Nat) (tc : Option (Nat × Nat)) (tm : Time) :
    (w.wrapEffect k t).colCellCbs tc tm = w.colCellCbs tc tm :=
  wrapEffect_rd (·.colCellCbs tc tm) t (fun cb w => Wr_colCellCbs cb t w tc tm) w k

theorem obs_wrapEffect (w : World) (k : WKind) (t t' : Nat) : (w.wrapEffect k t).obs t' = w.obs t' :=
  wrapEffect_rd (·.obs t') t (fun cb w => Wr_obs cb t w t') w k

theorem bare_wrapEffect (w : World) (k : WKind) (t : Nat) : (w.wrapEffect k t).bare = w.bare :=
  wrapEffect_rd (·.bare) t (fun cb w => Wr_bare cb t w) w k

theorem ntables_wrapEffect (w : World) (k : WKind) (t : Nat) : (w.wrapEffect k t).tables.length = w.tables.length :=
  wrapEffect_rd (·.tables.length) t (fun _ w => modTable_tables_length w t _) w k

theorem logOnly_wrapEffect (w : World) (k : WKind) (t t' : Nat) (h : LogOnly w t') :
    LogOnly (w.wrapEffect k t) t' := by
  rw [wrapEffect_eq]
  cases hk : wrapCb k with
  | none => exact h
  | some cb => exact Wr_logOnly cb t (wrapCb_okCell hk) w t' h

theorem render_mem_wrapEffect (w : World) (k : WKind) (t t' : Nat) (cb : Cb)
    (h : cb ∈ (w.table t').cellCbs.render) : cb ∈ ((w.wrapEffect k t).table t').cellCbs.render := by
  rw [wrapEffect_eq]
  cases wrapCb k with
  | none => exact h
  | some cb' => exact Wr_render_mem cb' t w t' cb h

theorem render_mem_wrapEffect_self (w : World) (k : WKind) (t : Nat) (ht : t < w.tables.length) (cb : Cb)
    (hk : wrapCb k = some cb) : cb ∈ ((w.wrapEffect k t).table t).cellCbs.render := by
  rw [wrapEffect_eq, hk]
  exact Wr_render_mem_self cb t w ht

theorem needs_wrapEffect (w : World) (k : WKind) (t : Nat) (wr : Wrapper) (h : Needs w wr) :
    Needs (w.wrapEffect k t) wr :=
  ⟨fun hk => render_mem_wrapEffect w k t wr.core _ (h.1 hk),
   fun hk => render_mem_wrapEffect w k t wr.core _ (h.2 hk)⟩

theorem needs_wrapEffect_self (w : World) (wr : Wrapper) (ht : wr.core < w.tables.length) :
    Needs (w.wrapEffect wr.kind wr.core) wr :=
  ⟨fun hk => render_mem_wrapEffect_self w wr.kind wr.core ht _ (by rw [hk]; rfl),
   fun hk => render_mem_wrapEffect_self w wr.kind wr.core ht _ (by rw [hk]; rfl)⟩

/-! ### `tabular.New()` -/

theorem table_newTable_fresh (w : World) : w.newTable.1.table w.newTable.2 = {} :=
  getD_append_length _ _ _

theorem logOnly_newTable (w : World) : LogOnly w.newTable.1 w.newTable.2 := by
  unfold LogOnly
  rw [table_newTable_fresh]
  refine ⟨rfl, rfl, ?_, ?_⟩
  · intro c hc
    simp only [List.mem_singleton] at hc
    subst hc; rfl
  · intro r hr
    simp at hr

theorem newTable_lt (w : World) : w.newTable.2 < w.newTable.1.tables.length := by
  unfold newTable; simp

/-! ### the relation kept by wraps and log-only renders -/

/-- `w'` renders like `w` and shows the same table to the user -/
structure Stable (w w' : World) : Prop where
  bare : w'.bare = w.bare
  logOnly : ∀ t, LogOnly w t → LogOnly w' t
  needs : ∀ wr, Needs w wr → Needs w' wr
  obs : ∀ t, w'.obs t = w.obs t
  ntables : w'.tables.length = w.tables.length

theorem Stable.refl (w : World) : Stable w w :=
  ⟨rfl, fun _ h => h, fun _ h => h, fun _ => rfl, rfl⟩

theorem Stable.trans {w w' w'' : World} (h : Stable w w') (h' : Stable w' w'') : Stable w w'' :=
  ⟨h'.bare.trans h.bare, fun t hl => h'.logOnly t (h.logOnly t hl), fun wr hn => h'.needs wr (h.needs wr hn),
   fun t => (h'.obs t).trans (h.obs t), h'.ntables.trans h.ntables⟩

theorem Stable.foldl {α : Type} (f : World → α → World) (w : World) (xs : List α)
    (step : ∀ w' x, x ∈ xs → Stable w w' → Stable w' (f w' x)) : Stable w (xs.foldl f w) := by
  suffices h : ∀ w', Stable w w' → Stable w (xs.foldl f w') from h w (Stable.refl w)
  induction xs with
  | nil => exact fun _ h => h
  | cons x xs ih =>
    intro w' h
    rw [List.foldl_cons]
    exact ih (fun w'' y hy => step w'' y (List.mem_cons_of_mem _ hy)) _
      (h.trans (step w' x List.mem_cons_self h))

theorem Stable.wrap (w : World) (k : WKind) (t : Nat) : Stable w (w.wrapEffect k t) :=
  ⟨bare_wrapEffect w k t, fun t' h => logOnly_wrapEffect w k t t' h, fun wr h => needs_wrapEffect w k t wr h,
   fun t' => obs_wrapEffect w k t t', ntables_wrapEffect w k t⟩

theorem Stable.of_erase_eq {w w' : World} (h : w'.erase = w.erase) : Stable w w' :=
  ⟨bare_of_erase_eq h, fun t hl => (logOnly_of_erase_eq h t).mpr hl, fun wr hn => (needs_of_erase_eq h wr).mpr hn,
   fun t => by rw [← obs_erase w', h, obs_erase], congrArg (fun w => w.tables.length) h⟩

theorem Stable.render (x : Ext) (w : World) (wr : Wrapper) (hL : LogOnly w wr.core) :
    Stable w (renderTo x w wr).1 :=
  Stable.of_erase_eq (erase_renderTo x w wr hL)

theorem Stable.render_eq {w w' : World} (h : Stable w w') (x : Ext) (wr : Wrapper) (hL : LogOnly w wr.core)
    (hN : Needs w wr) : (renderTo x w' wr).2 = (renderTo x w wr).2 :=
  render_congr x w' w wr h.bare (h.logOnly _ hL) hL (h.needs wr hN) hN

theorem render_wrap_congr (x : Ext) (w1 w2 : World) (wr : Wrapper) (hb : w1.bare = w2.bare)
    (hL1 : LogOnly w1 wr.core) (hL2 : LogOnly w2 wr.core) (ht : wr.core < w1.tables.length) :
    (renderTo x (w1.wrapEffect wr.kind wr.core) wr).2 = (renderTo x (w2.wrapEffect wr.kind wr.core) wr).2 := by
  have ht2 : wr.core < w2.tables.length := by
    have h := congrArg (fun w => w.tables.length) hb
    simp only [World.bare, List.length_map] at h
    omega
  exact render_congr x _ _ wr (by rw [bare_wrapEffect, bare_wrapEffect, hb])
    (logOnly_wrapEffect _ _ _ _ hL1) (logOnly_wrapEffect _ _ _ _ hL2)
    (needs_wrapEffect_self _ wr ht) (needs_wrapEffect_self _ wr ht2)

/-- the package-level render wraps afresh: the table only has to exist -/
theorem Stable.render_pkg_eq {w w' : World} (h : Stable w w') (x : Ext) (wr : Wrapper) (hL : LogOnly w wr.core)
    (ht : wr.core < w.tables.length) :
    (renderTo x (w'.wrapEffect wr.kind wr.core) wr).2 = (renderTo x (w.wrapEffect wr.kind wr.core) wr).2 :=
  render_wrap_congr x w' w wr h.bare (h.logOnly _ hL) hL (h.ntables ▸ ht)

theorem stable_wraps (t : Nat) (ks : List WKind) (w : World) :
    Stable w (ks.foldl (fun w k => w.wrapEffect k t) w) :=
  Stable.foldl _ w ks (fun w' k _ _ => Stable.wrap w' k t)

end World

open World in
theorem stable_ops (x : Ext) (w : World) (ops : List RenderOp) (hops : ∀ op ∈ ops, op.ok w) :
    Stable w (ops.foldl (RenderOp.run x) w) := by
  refine Stable.foldl _ w ops (fun w' op hop h => ?_)
  cases op with
  | wrap k t => exact Stable.wrap w' k t
  | render wr => exact Stable.render x w' wr (h.logOnly _ (hops _ hop))

end Tab
