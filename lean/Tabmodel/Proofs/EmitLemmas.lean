/- Helper lemmas about the `Emit` monad (simp-normal form: everything in terms of `.chunks` / `.res`), after
   the facts about `Except`-valued `mapM` and checked indexing that the renderers share. -/
import Tabmodel.Model.Emit
namespace Tab

theorem getElem?_eq_some_getD {α : Type} {l : List α} {i : Nat} (h : i < l.length) (d : α) :
    l[i]? = some (l.getD i d) := by
  rw [List.getElem?_eq_getElem h, List.getElem_eq_getD d]

theorem idxE_ok {α : Type} {a : List α} {i : Nat} {x : α} (h : a[i]? = some x) (site : String) :
    idxE a i site = .ok x := by
  unfold idxE; rw [h]

theorem mapM_ok {α β ε : Type} (f : α → Except ε β) (g : α → β) (xs : List α)
    (h : ∀ x ∈ xs, f x = .ok (g x)) : xs.mapM f = .ok (xs.map g) := by
  induction xs with
  | nil => rfl
  | cons x t ih =>
    rw [List.mapM_cons, h x (by simp), ih (fun y hy => h y (by simp [hy]))]
    rfl

theorem mapM_err {α β ε : Type} (f : α → Except ε β) (e : ε) (xs : List α)
    (hall : ∀ x ∈ xs, (∃ b, f x = .ok b) ∨ f x = .error e) (hex : ∃ x ∈ xs, f x = .error e) :
    xs.mapM f = .error e := by
  induction xs with
  | nil => obtain ⟨x, hx, _⟩ := hex; cases hx
  | cons x t ih =>
    rw [List.mapM_cons]
    rcases hall x (by simp) with ⟨b, hb⟩ | he
    · rw [hb]
      obtain ⟨y, hy, hye⟩ := hex
      have hyt : y ∈ t := by
        rcases List.mem_cons.mp hy with rfl | h
        · rw [hb] at hye; cases hye
        · exact h
      rw [ih (fun z hz => hall z (by simp [hz])) ⟨y, hyt, hye⟩]
      rfl
    · rw [he]; rfl

namespace Emit

@[simp] theorem pure_eq (a : α) : (pure a : Emit α) = pure' a := rfl
@[simp] theorem bind_eq (m : Emit α) (f : α → Emit β) : (m >>= f) = bind' m f := rfl

@[simp] theorem pure'_chunks (a : α) : (pure' a).chunks = [] := rfl
@[simp] theorem pure'_res (a : α) : (pure' a).res = .ok a := rfl
@[simp] theorem write_chunks (b : Bytes) : (write b).chunks = [b] := rfl
@[simp] theorem write_res (b : Bytes) : (write b).res = .ok () := rfl
@[simp] theorem fail_chunks (e : ErrClass) : (fail e : Emit α).chunks = [] := rfl
@[simp] theorem fail_res (e : ErrClass) : (fail e : Emit α).res = .error (.err e) := rfl
@[simp] theorem panic_chunks (s : String) : (panic s : Emit α).chunks = [] := rfl
@[simp] theorem panic_res (s : String) : (panic s : Emit α).res = .error (.panic s) := rfl
@[simp] theorem lift_chunks (r : Except Stop α) : (lift r).chunks = [] := rfl
@[simp] theorem lift_res (r : Except Stop α) : (lift r).res = r := rfl

theorem bind'_ok {m : Emit α} {a : α} (h : m.res = .ok a) (f : α → Emit β) :
    (bind' m f).chunks = m.chunks ++ (f a).chunks ∧ (bind' m f).res = (f a).res := by
  unfold bind'; rw [h]; exact ⟨rfl, rfl⟩

theorem bind'_err {m : Emit α} {e : Stop} (h : m.res = .error e) (f : α → Emit β) :
    (bind' m f).chunks = m.chunks ∧ (bind' m f).res = .error e := by
  unfold bind'; rw [h]; exact ⟨rfl, rfl⟩

theorem output_def (m : Emit α) : m.output = m.chunks.flatten := rfl

theorem output_bind'_ok {m : Emit α} {a : α} (h : m.res = .ok a) (f : α → Emit β) :
    (bind' m f).output = m.output ++ (f a).output := by
  rw [output_def, (bind'_ok h f).1, List.flatten_append]; rfl

theorem bind'_mk_ok (cs : List Bytes) (a : α) (f : α → Emit β) :
    bind' (⟨cs, .ok a⟩ : Emit α) f = ⟨cs ++ (f a).chunks, (f a).res⟩ := rfl

@[simp] theorem bind'_pure' (a : α) (f : α → Emit β) : bind' (pure' a) f = f a := rfl

@[simp] theorem bind'_write (b : Bytes) (f : Unit → Emit β) :
    bind' (write b) f = ⟨b :: (f ()).chunks, (f ()).res⟩ := rfl

@[simp] theorem bind'_fail (e : ErrClass) (f : α → Emit β) : bind' (fail e) f = ⟨[], .error (.err e)⟩ := rfl

@[simp] theorem bind'_panic (s : String) (f : α → Emit β) : bind' (panic s) f = ⟨[], .error (.panic s)⟩ := rfl

@[simp] theorem bind'_lift_ok (a : α) (f : α → Emit β) : bind' (lift (.ok a)) f = f a := rfl

@[simp] theorem bind'_lift_err (e : Stop) (f : α → Emit β) : bind' (lift (.error e : Except Stop α)) f = ⟨[], .error e⟩ := rfl

theorem bind'_assoc (m : Emit α) (f : α → Emit β) (g : β → Emit γ) :
    bind' (bind' m f) g = bind' m (fun a => bind' (f a) g) := by
  unfold bind'
  cases hm : m.res with
  | error e => simp
  | ok a =>
    simp only
    cases hf : (f a).res with
    | error e => simp
    | ok b => simp [List.append_assoc]

@[simp] theorem forM'_nil (body : α → Emit Unit) : forM' [] body = pure' () := rfl
@[simp] theorem forM'_cons (x : α) (xs : List α) (body : α → Emit Unit) :
    forM' (x :: xs) body = bind' (body x) (fun _ => forM' xs body) := rfl

theorem forM'_map (g : α → β) (xs : List α) (body : β → Emit Unit) :
    forM' (xs.map g) body = forM' xs (fun x => body (g x)) := by
  induction xs with
  | nil => rfl
  | cons x xs ih => rw [List.map_cons, forM'_cons, forM'_cons, ih]

theorem forM'_write (xs : List α) (g : α → Bytes) :
    forM' xs (fun x => write (g x)) = ⟨xs.map g, .ok ()⟩ := by
  induction xs with
  | nil => rfl
  | cons x xs ih => rw [forM'_cons, ih]; rfl

theorem forM'_const_write (n : Nat) (b : Bytes) :
    forM' (List.range n) (fun _ => write b) = ⟨List.replicate n b, .ok ()⟩ := by
  rw [forM'_write (List.range n) (fun _ => b), List.map_const', List.length_range]

theorem forM'_ok (xs : List α) (body : α → Emit Unit) (h : ∀ x ∈ xs, (body x).res = .ok ()) :
    (forM' xs body).res = .ok () ∧ (forM' xs body).chunks = xs.flatMap (fun x => (body x).chunks) := by
  induction xs with
  | nil => simp
  | cons x xs ih =>
    have hx := h x (by simp)
    have ih' := ih (fun y hy => h y (by simp [hy]))
    have := bind'_ok hx (fun _ => forM' xs body)
    simp only [forM'_cons, List.flatMap_cons]
    exact ⟨this.2.trans ih'.1, by rw [this.1, ih'.2]⟩

/-! ### programs that succeed

`Writes m a bs`: the program `m` returns `a`, having written `bs` in all.  The rules follow the
constructors of `Emit` programs, with `++` for `bind'`: what a renderer writes when nothing stops it
is read off its text. -/

structure Writes (m : Emit α) (a : α) (bs : Bytes) : Prop where
  res : m.res = .ok a
  output : m.output = bs

theorem Writes.pure (a : α) : Writes (pure' a) a [] := ⟨rfl, rfl⟩

theorem Writes.write (b : Bytes) : Writes (write b) () b := ⟨rfl, List.append_nil b⟩

theorem Writes.bind {m : Emit α} {f : α → Emit β} {a : α} {b : β} {bs₁ bs₂ : Bytes}
    (hm : Writes m a bs₁) (hf : Writes (f a) b bs₂) : Writes (bind' m f) b (bs₁ ++ bs₂) :=
  ⟨(bind'_ok hm.res f).2.trans hf.res, by rw [output_bind'_ok hm.res, hm.output, hf.output]⟩

theorem Writes.congr {m : Emit α} {a : α} {bs bs' : Bytes} (h : Writes m a bs) (e : bs = bs') :
    Writes m a bs' := e ▸ h

theorem Writes.forM' {xs : List α} {body : α → Emit Unit} {g : α → Bytes}
    (h : ∀ x ∈ xs, Writes (body x) () (g x)) : Writes (forM' xs body) () (xs.flatMap g) := by
  induction xs with
  | nil => exact Writes.pure ()
  | cons x xs ih =>
    exact (h x List.mem_cons_self).bind (ih fun y hy => h y (List.mem_cons_of_mem _ hy))

theorem idx_ok {a : List α} {i : Nat} {x : α} (h : a[i]? = some x) (site : String) : idx a i site = pure' x := by
  unfold idx; rw [h]

/-! ### programs that do not panic

`NoPanic` is kept by every constructor of `Emit` programs but `panic`, and by `idx` / `idxE` in range:
a renderer never panics if its checked indices are in range and its pure parts do not panic. -/

def NoPanic (m : Emit α) : Prop := ∀ s, m.res ≠ .error (.panic s)

theorem noPanic_bind {m : Emit α} {f : α → Emit β} (hm : NoPanic m)
    (hf : ∀ a, m.res = .ok a → NoPanic (f a)) : NoPanic (bind' m f) := by
  intro s
  cases h : m.res with
  | ok a => rw [(bind'_ok h f).2]; exact hf a h s
  | error e =>
    rw [(bind'_err h f).2]
    intro he
    injection he with he
    exact hm s (by rw [h, he])

theorem noPanic_pure (a : α) : NoPanic (pure' a) := by intro s h; cases h
theorem noPanic_write (b : Bytes) : NoPanic (write b) := by intro s h; cases h
theorem noPanic_fail (e : ErrClass) : NoPanic (fail e : Emit α) := by intro s h; cases h

theorem noPanic_ite {c : Prop} [Decidable c] {t e : Emit α} (ht : c → NoPanic t)
    (he : ¬ c → NoPanic e) : NoPanic (if c then t else e) := by
  split
  · exact ht ‹_›
  · exact he ‹_›

theorem idx_noPanic {a : List α} {i : Nat} (h : i < a.length) (site : String) :
    NoPanic (idx a i site) := by
  rw [idx_ok (List.getElem?_eq_getElem h)]; exact noPanic_pure _

theorem forM'_no_panic (xs : List α) (body : α → Emit Unit)
    (h : ∀ x ∈ xs, ∀ s, (body x).res ≠ .error (.panic s)) : ∀ s, (forM' xs body).res ≠ .error (.panic s) := by
  induction xs with
  | nil => exact noPanic_pure ()
  | cons x xs ih =>
    exact noPanic_bind (h x List.mem_cons_self) fun _ _ => ih fun y hy => h y (List.mem_cons_of_mem _ hy)

def NoPanicE (r : Except Stop α) : Prop := ∀ s, r ≠ .error (.panic s)

theorem noPanic_lift {r : Except Stop α} (h : NoPanicE r) : NoPanic (lift r) := h

theorem noPanicE_bind {r : Except Stop α} {f : α → Except Stop β} (hr : NoPanicE r)
    (hf : ∀ a, r = .ok a → NoPanicE (f a)) : NoPanicE (r >>= f) := by
  cases r with
  | ok a => exact hf a rfl
  | error e => exact fun s h => hr s (by rw [Except.error.inj h])

theorem noPanicE_err (e : ErrClass) : NoPanicE (.error (.err e) : Except Stop α) := by
  intro s h; cases h

theorem noPanicE_ite {c : Prop} [Decidable c] {t e : Except Stop α} (ht : NoPanicE t)
    (he : NoPanicE e) : NoPanicE (if c then t else e) := by
  split <;> assumption

theorem idxE_noPanic {a : List α} {i : Nat} (h : i < a.length) (site : String) :
    NoPanicE (idxE a i site) := by
  unfold idxE; rw [List.getElem?_eq_getElem h]; intro s h; cases h

end Emit
end Tab
