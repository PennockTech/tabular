/-
  The view the text renderer reads after its pass (`UserKeysOnly`, the measuring callback registered), from
  the cells of the built world.  Column by column it is, masked, the canonical image (`canonCell`) of the
  built table's column; so under the plain invariant a column's texts and width are those of the built cells,
  and every view cell carries exactly the measurement of its own text.  `ViewOK` of that view needs of the
  built cells only `Cell.FitsW`: a cached width equal to the widest line is enough whatever the item declares.
-/
import Tabmodel.Proofs.C03hInv
import Tabmodel.Proofs.E2EcbMeas
import Tabmodel.Proofs.TextFinal
namespace Tab
namespace C03h
open World

/-! ### columns -/

theorem bodyColCells_map (m : RCell → RCell) (rows : List (Option (List RCell))) (i : Nat) :
    bodyColCells (rows.map (·.map (·.map m))) i = (bodyColCells rows i).map m := by
  unfold bodyColCells
  induction rows with
  | nil => rfl
  | cons r rs ih =>
    cases r with
    | none => simpa using ih
    | some cells =>
      simp only [List.map_cons, Option.map_some, List.filterMap_cons, Option.bind_some, List.getElem?_map]
      cases cells[i]? with
      | none => simpa using ih
      | some c => simp only [Option.map_some, List.map_cons, ih]

theorem colCells_mapCells (m : RCell → RCell) (v : RTable) (i : Nat) :
    (v.mapCells m).colCells i = (v.colCells i).map m := by
  unfold RTable.colCells RTable.mapCells
  simp only [List.map_append, bodyColCells_map]
  congr 1
  cases v.header with
  | none => rfl
  | some hs =>
    simp only [Option.map_some, List.getElem?_map]
    cases hs[i]? <;> rfl

theorem colCells_withCols (v : RTable) (a s : List (Option Val)) (i : Nat) :
    (v.withCols a s).colCells i = v.colCells i := rfl

theorem colCells_canonView (dw : Measure) (tt md : Bool) (w : World) (t i : Nat)
    (hsep : ∀ r, (w.row r).isSep = true → w.rowCells r = []) :
    (canonView dw tt md w t).colCells i = (w.colCellsOf t i).map (canonCell dw tt md w) := by
  unfold RTable.colCells canonView World.colCellsOf
  simp only [List.filterMap_append, List.map_append]
  congr 1
  · cases (w.table t).header with
    | none => rfl
    | some hr =>
      simp only [Option.map_some, List.getElem?_map, Option.toList_some, List.filterMap_cons,
        List.filterMap_nil]
      cases (w.rowCells hr)[i]? <;> rfl
  · unfold bodyColCells
    induction (w.table t).rows with
    | nil => rfl
    | cons r rs ih =>
      simp only [List.map_cons, List.filterMap_cons]
      rw [ih]
      by_cases hs : (w.row r).isSep = true
      · simp [hs, hsep r hs]
      · simp only [hs, Bool.false_eq_true, if_false, Option.bind_some, List.getElem?_map]
        cases (w.rowCells r)[i]? <;> rfl

theorem canonCell_text (dw : Measure) (tt md : Bool) (w : World) (c : Cell) :
    (canonCell dw tt md w c).text = c.str := rfl

theorem canonCell_cellWidth (dw : Measure) (md : Bool) (w : World) (c : Cell) :
    (canonCell dw true md w c).cellWidth = c.termWidth := by
  unfold canonCell World.rcell RCell.mask mval
  simp [Chain.get, dimProps_eq]

/-- column `i` of the view after the pass, read through any `f` of the masked cell (for the fields read below
    masking changes nothing): the same reading of the canonical image of the built column -/
theorem colCells_postpass {δ : Type} (f : RCell → δ) (dw : Measure) (w : World) (t i : Nat)
    (hU : w.UserKeysOnly t) (hcb : Cb.dimSetter ∈ (w.table t).cellCbs.render)
    (hsep : ∀ r, (w.row r).isSep = true → w.rowCells r = []) :
    (((invokeRenderCallbacks dw w t).view t).colCells i).map (fun c => f (c.mask true false)) =
      (w.colCellsOf t i).map (fun ce => f (canonCell dw true false w ce)) := by
  show List.map (f ∘ RCell.mask true false) _ = List.map (f ∘ canonCell dw true false w) _
  rw [← List.map_map, ← colCells_mapCells,
    E2Ecb.view_measured_cb dw true false w t hU (fun _ => hcb) (fun h => Bool.noConfusion h),
    colCells_withCols, colCells_canonView dw true false w t i hsep, List.map_map]

theorem colCellsOf_mem (w : World) (t i : Nat) (ce : Cell) (h : ce ∈ w.colCellsOf t i) :
    ∃ r ∈ (w.table t).header.toList ++ (w.table t).rows, ce ∈ w.rowCells r := by
  unfold World.colCellsOf at h
  obtain ⟨r, hr, e⟩ := List.mem_filterMap.mp h
  exact ⟨r, hr, List.mem_of_getElem? e⟩

/-! ### measured cells -/

theorem termWidth_of_width {dw : Measure} {ce : Cell} (h : ce.width = (longestLine dw ce.str : Nat)) :
    ce.termWidth = ((longestLine dw ce.str : Nat) : Int) := by
  unfold Cell.termWidth
  rw [h]
  split <;> omega

theorem measured_termWidth {dw : Measure} {ce : Cell} (h : ce.Measured dw) :
    ce.termWidth = ((longestLine dw ce.str : Nat) : Int) := termWidth_of_width h.1

theorem measured_hgt {dw : Measure} {ce : Cell} (h : ce.Measured dw) :
    ce.hgt = (((lines ce.str).length : Nat) : Int) := by
  have htw := measured_termWidth h
  unfold Cell.hgt
  rw [htw, h.2]
  by_cases h0 : (lines ce.str).length = 0
  · have hl : lines ce.str = [] := List.eq_nil_of_length_eq_zero h0
    have : longestLine dw ce.str = 0 := by unfold longestLine; rw [hl]
    rw [this, h0]; simp
  · have : ¬ (((lines ce.str).length : Nat) : Int) < 1 := by omega
    simp only [this, if_false]

theorem dimProps_measured (dw : Measure) (it : Item) (ce : Cell) (hw : it.mWidth = none)
    (h : ce.Measured dw) :
    dimProps dw it ce = (.dims ((longestLine dw ce.str : Nat) : Int) (((lines ce.str).length : Nat) : Int),
      .lws ((lines ce.str).map (fun l => ({ s := l, w := ((dw l : Nat) : Int) } : WidthString)))) := by
  rw [dimProps_eq, measured_termWidth h, measured_hgt h]
  unfold Cell.lines
  have : max (((lines ce.str).length : Nat) : Int).toNat (lines ce.str).length - (lines ce.str).length = 0 := by
    simp
  rw [this]
  simp only [List.replicate_zero, List.append_nil, dimLineW, hw, Option.isSome_none, Bool.false_and,
    Bool.false_eq_true, if_false]

theorem sig_of_core_eq {a b : Cell} (e : a.core = b.core) : sig a = sig b := by
  obtain ⟨e1, e2, e3, e4, _⟩ := E2Ecb.core_eq_fields e
  unfold sig
  rw [e1, e2, e3, e4]

/-! ### the view after the pass -/

theorem colCells_text_postpass (dw : Measure) (w : World) (t i : Nat) (hU : w.UserKeysOnly t)
    (hcb : Cb.dimSetter ∈ (w.table t).cellCbs.render)
    (hsep : ∀ r, (w.row r).isSep = true → w.rowCells r = []) :
    (((invokeRenderCallbacks dw w t).view t).colCells i).map (·.text) = w.colTexts t i :=
  colCells_postpass RCell.text dw w t i hU hcb hsep

theorem colWidth_postpass (dw : Measure) (w : World) (t i : Nat) (hU : w.UserKeysOnly t)
    (hcb : Cb.dimSetter ∈ (w.table t).cellCbs.render)
    (hsep : ∀ r, (w.row r).isSep = true → w.rowCells r = [])
    (hm : ∀ r, ∀ ce ∈ w.rowCells r, ce.Measured dw) :
    ((invokeRenderCallbacks dw w t).view t).colWidth i =
      maxNat ((w.colTexts t i).flatMap (fun s => (lines s).map dw)) := by
  have h : (((invokeRenderCallbacks dw w t).view t).colCells i).map (fun c => c.cellWidth.toNat) =
      (w.colCellsOf t i).map (fun ce => maxNat ((lines ce.str).map dw)) := by
    refine (colCells_postpass (fun c => c.cellWidth.toNat) dw w t i hU hcb hsep).trans ?_
    apply List.map_congr_left
    intro ce hce
    obtain ⟨r, _, hr⟩ := colCellsOf_mem w t i ce hce
    rw [canonCell_cellWidth, measured_termWidth (hm r ce hr), longestLine_eq]
    rfl
  unfold RTable.colWidth World.colTexts
  rw [h, maxNat_flatMap, List.map_map]
  rfl

theorem plain_view_cell (dw : Measure) (w : World) (t : Nat) (hU : w.UserKeysOnly t)
    (hcb : Cb.dimSetter ∈ (w.table t).cellCbs.render) (hit : ∀ i, (w.item i).isPlain)
    (hm : ∀ r, ∀ ce ∈ w.rowCells r, ce.Measured dw) :
    ∀ c ∈ ((invokeRenderCallbacks dw w t).view t).allCells,
      c.cellWidth = ((longestLine dw c.text : Nat) : Int) ∧
      c.lws = (lines c.text).map (fun l => ({ s := l, w := ((dw l : Nat) : Int) } : WidthString)) := by
  intro c hc
  obtain ⟨r, _, ce', hce', e, h1, h2⟩ := E2Ecb.cell_measured_cb dw w t hU hcb c hc
  obtain ⟨ce, hce, hee⟩ := E2Ecb.irc_cell_src_cb dw w t r ce' hce'
  have hm' : ce'.Measured dw := sigInv_measured dw ce ce' (sig_of_core_eq hee) (hm r ce hce)
  have hw : ((invokeRenderCallbacks dw w t).item ce'.item).mWidth = none := by
    unfold World.item; rw [E2Ecb.irc_items]
    exact (hit _).1
  rw [dimProps_measured dw _ ce' hw hm'] at h1 h2
  subst e
  unfold World.rcell
  simp only [h1, h2]
  exact ⟨trivial, trivial⟩

theorem viewOK_cb_weak (dw : Measure) (w : World) (t : Nat) (hU : w.UserKeysOnly t)
    (hcb : Cb.dimSetter ∈ (w.table t).cellCbs.render) (hF : TableFitsW dw w t) :
    ViewOK dw ((invokeRenderCallbacks dw w t).view t) := by
  intro c hc
  obtain ⟨r, hr, ce', hce', e, h1, h2⟩ := E2Ecb.cell_measured_cb dw w t hU hcb c hc
  obtain ⟨ce, hce, hee⟩ := E2Ecb.irc_cell_src_cb dw w t r ce' hce'
  have hit : ∀ i, (invokeRenderCallbacks dw w t).item i = w.item i := by
    intro i; unfold World.item; rw [E2Ecb.irc_items]
  have hfit : Cell.FitsW dw ((invokeRenderCallbacks dw w t).item ce'.item) ce' := by
    rw [hit, ← (E2Ecb.core_eq_fields hee).1]
    exact sigInv_fitsW dw _ ce ce' (sig_of_core_eq hee) (hF r hr ce hce)
  rw [e]
  refine ⟨rcell_cellOK dw _ _ ce' h1 h2, ?_⟩
  obtain ⟨e1, e2⟩ := rcell_dims_lws dw (invokeRenderCallbacks dw w t) _ ce' h1 h2
  rcases hfit with ha | ⟨ha, hb⟩
  · exact dimProps_fits_measured dw _ ce' _ _ e1 e2 ha
  · exact dimProps_fits_single_declared dw _ ce' _ _ e1 e2 ha hb

end C03h
end Tab
