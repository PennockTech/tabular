/- The string literals of the HTML template (`html/html.go`) and of the C06 specification, evaluated to
   their byte lists. -/
import Tabmodel.Model.Html
import Tabmodel.Proofs.Literals
namespace Tab

/-- `simp only [html_lits]` replaces every one of the literals in a goal -/
theorem html_lits :
    bytesOfString "<table" = [60, 116, 97, 98, 108, 101] ∧
    bytesOfString " class=\"" = [32, 99, 108, 97, 115, 115, 61, 34] ∧
    bytesOfString "\"" = [34] ∧
    bytesOfString " id=\"" = [32, 105, 100, 61, 34] ∧
    bytesOfString ">\n" = [62, 10] ∧
    bytesOfString "  <caption>" = [32, 32, 60, 99, 97, 112, 116, 105, 111, 110, 62] ∧
    bytesOfString "</caption>\n" = [60, 47, 99, 97, 112, 116, 105, 111, 110, 62, 10] ∧
    bytesOfString "  <thead>\n" = [32, 32, 60, 116, 104, 101, 97, 100, 62, 10] ∧
    bytesOfString "  </thead>\n  <tbody>\n" = [32, 32, 60, 47, 116, 104, 101, 97, 100, 62, 10, 32, 32, 60, 116, 98, 111, 100, 121, 62, 10] ∧
    bytesOfString "  </tbody>\n</table>\n" = [32, 32, 60, 47, 116, 98, 111, 100, 121, 62, 10, 60, 47, 116, 97, 98, 108, 101, 62, 10] ∧
    bytesOfString "    <tr" = [32, 32, 32, 32, 60, 116, 114] ∧
    bytesOfString ">" = [62] ∧
    bytesOfString "</tr>\n" = [60, 47, 116, 114, 62, 10] ∧
    bytesOfString "&#34;" = [38, 35, 51, 52, 59] ∧
    bytesOfString "&amp;" = [38, 97, 109, 112, 59] ∧
    bytesOfString "&#39;" = [38, 35, 51, 57, 59] ∧
    bytesOfString "&#43;" = [38, 35, 52, 51, 59] ∧
    bytesOfString "&lt;" = [38, 108, 116, 59] ∧
    bytesOfString "&gt;" = [38, 103, 116, 59] ∧
    bytesOfString "\n  " = [10, 32, 32] ∧
    bytesOfString "\n    " = [10, 32, 32, 32, 32] ∧
    bytesOfString "\n" = [10] ∧
    bytesOfString "<caption>" = [60, 99, 97, 112, 116, 105, 111, 110, 62] ∧
    bytesOfString "</caption>" = [60, 47, 99, 97, 112, 116, 105, 111, 110, 62] ∧
    bytesOfString "<thead>" = [60, 116, 104, 101, 97, 100, 62] ∧
    bytesOfString "</thead>" = [60, 47, 116, 104, 101, 97, 100, 62] ∧
    bytesOfString "<tbody>" = [60, 116, 98, 111, 100, 121, 62] ∧
    bytesOfString "</tbody>" = [60, 47, 116, 98, 111, 100, 121, 62] ∧
    bytesOfString "</table>" = [60, 47, 116, 97, 98, 108, 101, 62] ∧
    bytesOfString "</tr>" = [60, 47, 116, 114, 62] ∧
    bytesOfString "<tr" = [60, 116, 114] ∧
    bytesOfString "<th>" = [60, 116, 104, 62] ∧
    bytesOfString "</th>" = [60, 47, 116, 104, 62] ∧
    bytesOfString "<td>" = [60, 116, 100, 62] ∧
    bytesOfString "</td>" = [60, 47, 116, 100, 62] ∧
    bytesOfString "<tr class=\"" = [60, 116, 114, 32, 99, 108, 97, 115, 115, 61, 34] ∧
    bytesOfString "\">" = [34, 62] := by
  simp only [bytesOfString, ByteArray_toList]
  decide +kernel

/-- the cell tags the template builds from `"th"` / `"td"` -/
theorem cell_tag_lits :
    bytesOfString ("<" ++ "th" ++ ">") = bytesOfString "<th>" ∧
    bytesOfString ("</" ++ "th" ++ ">") = bytesOfString "</th>" ∧
    bytesOfString ("<" ++ "td" ++ ">") = bytesOfString "<td>" ∧
    bytesOfString ("</" ++ "td" ++ ">") = bytesOfString "</td>" := by
  simp only [bytesOfString, ByteArray_toList]
  decide +kernel

theorem lit_s_tr_plain : bytesOfString "<tr>" = [60, 116, 114, 62] := by
  simp only [bytesOfString, ByteArray_toList]
  decide +kernel

end Tab
