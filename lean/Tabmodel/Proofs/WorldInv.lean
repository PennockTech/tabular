/-
  The structural invariant `SInv` on shapes and its preservation by the abstract machine of `Spec/World.lean`.
  Every operation of the machine is a composition of five updates — growing a table's column count, storing a
  new unattached row, appending a cell to a row, attaching a row to a table, installing a header row — and
  the invariant is proved once for each of them.  `Inv w := SInv w.shape`.
-/
import Tabmodel.Proofs.WorldShape
namespace Tab

theorem getElem?_concat {α} {l : List α} {a b : α} {i : Nat} (h : (l ++ [a])[i]? = some b) :
    l[i]? = some b ∨ (i = l.length ∧ b = a) := by
  rcases Nat.lt_trichotomy i l.length with hi | hi | hi
  · rw [List.getElem?_append_left hi] at h; exact Or.inl h
  · subst hi; rw [List.getElem?_concat_length] at h; exact Or.inr ⟨rfl, (Option.some.inj h).symm⟩
  · rw [List.getElem?_eq_none (by simp; omega)] at h; cases h

namespace Shape

/-! ### reading the stores after a write -/

@[simp] theorem tables_modRow (s : Shape) (r : Nat) (f : RowShape → RowShape) :
    (s.modRow r f).tables = s.tables := rfl
@[simp] theorem table_modRow (s : Shape) (r : Nat) (f : RowShape → RowShape) (t : Nat) :
    (s.modRow r f).table t = s.table t := rfl
@[simp] theorem rows_length_modRow (s : Shape) (r : Nat) (f : RowShape → RowShape) :
    (s.modRow r f).rows.length = s.rows.length := by simp [modRow]
@[simp] theorem rows_modTable (s : Shape) (t : Nat) (f : TableShape → TableShape) :
    (s.modTable t f).rows = s.rows := rfl
@[simp] theorem row_modTable (s : Shape) (t : Nat) (f : TableShape → TableShape) (r : Nat) :
    (s.modTable t f).row r = s.row r := rfl
@[simp] theorem width_modTable (s : Shape) (t : Nat) (f : TableShape → TableShape) (r : Nat) :
    (s.modTable t f).width r = s.width r := rfl
@[simp] theorem tables_length_modTable (s : Shape) (t : Nat) (f : TableShape → TableShape) :
    (s.modTable t f).tables.length = s.tables.length := by simp [modTable]

theorem row_modRow (s : Shape) (r : Nat) (f : RowShape → RowShape) (r' : Nat) :
    (s.modRow r f).row r' = if r = r' ∧ r' < s.rows.length then f (s.row r') else s.row r' :=
  getD_modify _ _ _ _ _

theorem table_modTable (s : Shape) (t : Nat) (f : TableShape → TableShape) (t' : Nat) :
    (s.modTable t f).table t' = if t = t' ∧ t' < s.tables.length then f (s.table t') else s.table t' :=
  getD_modify _ _ _ _ _

theorem row_modRow_self (s : Shape) (r : Nat) (f : RowShape → RowShape) (h : r < s.rows.length) :
    (s.modRow r f).row r = f (s.row r) := by rw [row_modRow, if_pos ⟨rfl, h⟩]
theorem row_modRow_ne (s : Shape) (r r' : Nat) (f : RowShape → RowShape) (h : r ≠ r') :
    (s.modRow r f).row r' = s.row r' := by rw [row_modRow, if_neg (fun e => h e.1)]
theorem table_modTable_self (s : Shape) (t : Nat) (f : TableShape → TableShape) (h : t < s.tables.length) :
    (s.modTable t f).table t = f (s.table t) := by rw [table_modTable, if_pos ⟨rfl, h⟩]
theorem table_modTable_ne (s : Shape) (t t' : Nat) (f : TableShape → TableShape) (h : t ≠ t') :
    (s.modTable t f).table t' = s.table t' := by rw [table_modTable, if_neg (fun e => h e.1)]

theorem row_modRow_proj {β} (s : Shape) (r : Nat) (f : RowShape → RowShape) (g : RowShape → β)
    (h : ∀ x, g (f x) = g x) (r' : Nat) : g ((s.modRow r f).row r') = g (s.row r') := by
  rw [row_modRow]; split
  · exact h _
  · rfl

theorem table_modTable_proj {β} (s : Shape) (t : Nat) (f : TableShape → TableShape) (g : TableShape → β)
    (h : ∀ x, g (f x) = g x) (t' : Nat) : g ((s.modTable t f).table t') = g (s.table t') := by
  rw [table_modTable]; split
  · exact h _
  · rfl

theorem width_modRow_keep (s : Shape) (r : Nat) (f : RowShape → RowShape) (hf : ∀ rw, (f rw).cells = rw.cells)
    (r' : Nat) : (s.modRow r f).width r' = s.width r' :=
  row_modRow_proj s r f (fun rw => (rw.cells.getD []).length) (fun rw => by rw [hf]) r'

theorem modRow_oob (s : Shape) (r : Nat) (f : RowShape → RowShape) (h : s.rows.length ≤ r) :
    s.modRow r f = s := by
  unfold modRow; rw [List.modify_eq_self h]
theorem modTable_oob (s : Shape) (t : Nat) (f : TableShape → TableShape) (h : s.tables.length ≤ t) :
    s.modTable t f = s := by
  unfold modTable; rw [List.modify_eq_self h]

theorem table_oob (s : Shape) (t : Nat) (h : s.tables.length ≤ t) : s.table t = {} := by
  unfold table; simp [List.getD_eq_getElem?_getD, List.getElem?_eq_none h]
theorem row_oob (s : Shape) (r : Nat) (h : s.rows.length ≤ r) : s.row r = {} := by
  unfold row; simp [List.getD_eq_getElem?_getD, List.getElem?_eq_none h]

@[simp] theorem tables_newRow (s : Shape) (x : RowShape) : (s.newRow x).tables = s.tables := rfl
@[simp] theorem table_newRow (s : Shape) (x : RowShape) (t : Nat) : (s.newRow x).table t = s.table t := rfl
@[simp] theorem rows_length_newRow (s : Shape) (x : RowShape) :
    (s.newRow x).rows.length = s.rows.length + 1 := by simp [newRow]

theorem row_newRow_self (s : Shape) (x : RowShape) : (s.newRow x).row s.rows.length = x :=
  getD_append_length _ _ _
theorem row_newRow_ne (s : Shape) (x : RowShape) (r : Nat) (h : r ≠ s.rows.length) :
    (s.newRow x).row r = s.row r := getD_append_ne _ _ _ _ h
theorem row_newRow_lt (s : Shape) (x : RowShape) (r : Nat) (h : r < s.rows.length) :
    (s.newRow x).row r = s.row r := row_newRow_ne s x r (Nat.ne_of_lt h)

theorem width_newRow_self (s : Shape) (x : RowShape) : (s.newRow x).width s.rows.length = (x.cells.getD []).length := by
  unfold width; rw [row_newRow_self]
theorem width_newRow_lt (s : Shape) (x : RowShape) (r : Nat) (h : r < s.rows.length) :
    (s.newRow x).width r = s.width r := by
  unfold width; rw [row_newRow_lt _ _ _ h]

theorem modRow_newRow (s : Shape) (x : RowShape) (f : RowShape → RowShape) :
    (s.newRow x).modRow s.rows.length f = s.newRow (f x) := by
  unfold modRow newRow
  rw [List.modify_eq_take_cons_drop (by simp)]
  simp

@[simp] theorem rows_newTable (s : Shape) : s.newTable.rows = s.rows := rfl
@[simp] theorem row_newTable (s : Shape) (r : Nat) : s.newTable.row r = s.row r := rfl
@[simp] theorem width_newTable (s : Shape) (r : Nat) : s.newTable.width r = s.width r := rfl
@[simp] theorem tables_length_newTable (s : Shape) : s.newTable.tables.length = s.tables.length + 1 := by
  simp [newTable]
/-- appending the empty table is invisible to `table` (its default is the empty table) -/
@[simp] theorem table_newTable (s : Shape) (t : Nat) : s.newTable.table t = s.table t :=
  getD_append_default _ _ _

/-! ### `resize` -/

theorem resize_rows (tb : TableShape) (n : Nat) : (resize tb n).rows = tb.rows := by
  unfold resize; split <;> rfl
theorem resize_header (tb : TableShape) (n : Nat) : (resize tb n).header = tb.header := by
  unfold resize; split <;> rfl
theorem resize_nColumns (tb : TableShape) (n : Nat) : (resize tb n).nColumns = max tb.nColumns n := by
  unfold resize; split
  · rename_i h; exact (Nat.max_eq_left h).symm
  · rename_i h; exact (Nat.max_eq_right (Nat.le_of_not_le h)).symm
theorem resize_cols (tb : TableShape) (n : Nat) (h : tb.nColRecs = tb.nColumns + 1) :
    (resize tb n).nColRecs = (resize tb n).nColumns + 1 := by
  unfold resize; split
  · exact h
  · rename_i hn
    exact Nat.add_sub_of_le (h ▸ Nat.succ_le_succ (Nat.le_of_not_le hn))

/-! ### the invariant -/

theorem sinv_init : SInv {} := by
  have ht : ∀ t, ({} : Shape).table t = {} := fun t => table_oob _ _ (Nat.zero_le _)
  have hr : ∀ r, ({} : Shape).row r = {} := fun r => row_oob _ _ (Nat.zero_le _)
  constructor <;> intros <;> simp_all

theorem SInv.att_mem {s : Shape} (h : SInv s) {t r : Nat} (hm : r ∈ (s.table t).rows) :
    (s.row r).inTable = some t := by
  obtain ⟨i, hi⟩ := List.mem_iff_getElem?.mp hm
  exact (h.att t i r hi).1

theorem mem_rows_lt {s : Shape} {t r : Nat} (hm : r ∈ (s.table t).rows) : t < s.tables.length := by
  apply Nat.lt_of_not_le; intro h
  rw [table_oob s t h] at hm; cases hm

theorem SInv.inTable_lt {s : Shape} (h : SInv s) {t r : Nat} (hi : (s.row r).inTable = some t) :
    t < s.tables.length := mem_rows_lt (h.back r t hi)

/-- same lists, same back-pointers: five clauses of the invariant carry over -/
structure Skel (s s' : Shape) : Prop where
  rowsLen : s'.rows.length = s.rows.length
  rows : ∀ t, (s'.table t).rows = (s.table t).rows
  header : ∀ t, (s'.table t).header = (s.table t).header
  inTable : ∀ r, (s'.row r).inTable = (s.row r).inTable
  rowNum : ∀ r, (s'.row r).rowNum = (s.row r).rowNum
  isSep : ∀ r, (s'.row r).isSep = (s.row r).isSep

theorem Skel.refl (s : Shape) : Skel s s :=
  ⟨rfl, fun _ => rfl, fun _ => rfl, fun _ => rfl, fun _ => rfl, fun _ => rfl⟩

theorem Skel.trans {a b c : Shape} (k1 : Skel a b) (k2 : Skel b c) : Skel a c :=
  ⟨k2.rowsLen.trans k1.rowsLen, fun t => (k2.rows t).trans (k1.rows t),
    fun t => (k2.header t).trans (k1.header t), fun r => (k2.inTable r).trans (k1.inTable r),
    fun r => (k2.rowNum r).trans (k1.rowNum r), fun r => (k2.isSep r).trans (k1.isSep r)⟩

theorem SInv.of_skel {s s' : Shape} (h : SInv s) (k : Skel s s')
    (cols : ∀ t, (s'.table t).nColRecs = (s'.table t).nColumns + 1)
    (wid : ∀ t r, r ∈ (s.table t).rows → s'.width r ≤ (s'.table t).nColumns)
    (hwid : ∀ t hd, (s.table t).header = some hd → s'.width hd ≤ (s'.table t).nColumns)
    (geo : ∀ r cs j g, (s'.row r).cells = some cs → cs[j]? = some g → g = (j + 1, some r))
    (sep : ∀ r, (s.row r).isSep = true → (s'.row r).cells = none) : SInv s' where
  cols := cols
  rowsLt := by intro t r hm; rw [k.rows] at hm; rw [k.rowsLen]; exact h.rowsLt t r hm
  hdrLt := by intro t hd hh; rw [k.header] at hh; rw [k.rowsLen]; exact h.hdrLt t hd hh
  att := by intro t i r hi; rw [k.rows] at hi; rw [k.inTable, k.rowNum]; exact h.att t i r hi
  back := by intro r t hi; rw [k.inTable] at hi; rw [k.rows]; exact h.back r t hi
  hdrFree := by intro t hd hh; rw [k.header] at hh; rw [k.inTable]; exact h.hdrFree t hd hh
  wid := by intro t r hm; rw [k.rows] at hm; exact wid t r hm
  hwid := by intro t hd hh; rw [k.header] at hh; exact hwid t hd hh
  geo := geo
  sep := by intro r hs; rw [k.isSep] at hs; exact sep r hs

/-! #### growing the column count of table `t` to at least `n` -/

theorem resizeT_rows (s : Shape) (t n t' : Nat) :
    ((s.modTable t (fun tb => resize tb n)).table t').rows = (s.table t').rows :=
  table_modTable_proj s t _ (·.rows) (fun tb => resize_rows tb n) t'

theorem resizeT_header (s : Shape) (t n t' : Nat) :
    ((s.modTable t (fun tb => resize tb n)).table t').header = (s.table t').header :=
  table_modTable_proj s t _ (·.header) (fun tb => resize_header tb n) t'

theorem resizeT_nColumns (s : Shape) (t n t' : Nat) (ht : t < s.tables.length) :
    ((s.modTable t (fun tb => resize tb n)).table t').nColumns =
      max (s.table t').nColumns (if t = t' then n else 0) := by
  rw [table_modTable]
  by_cases e : t = t'
  · rw [if_pos ⟨e, e ▸ ht⟩, if_pos e, resize_nColumns]
  · rw [if_neg (fun c => e c.1), if_neg e, Nat.max_zero]

theorem resizeT_nColumns_ge (s : Shape) (t n t' : Nat) :
    (s.table t').nColumns ≤ ((s.modTable t (fun tb => resize tb n)).table t').nColumns := by
  rw [table_modTable]; split
  · rw [resize_nColumns]; exact Nat.le_max_left _ _
  · exact Nat.le_refl _

theorem skel_resizeT (s : Shape) (t n : Nat) : Skel s (s.modTable t (fun tb => resize tb n)) where
  rowsLen := rfl
  rows := resizeT_rows s t n
  header := resizeT_header s t n
  inTable := fun _ => rfl
  rowNum := fun _ => rfl
  isSep := fun _ => rfl

theorem SInv.resizeT {s : Shape} (h : SInv s) (t n : Nat) : SInv (s.modTable t (fun tb => resize tb n)) := by
  apply h.of_skel (skel_resizeT s t n)
  · intro t'
    rw [table_modTable]; split
    · exact resize_cols _ _ (h.cols t')
    · exact h.cols t'
  · intro t' r hm
    exact Nat.le_trans (h.wid t' r hm) (resizeT_nColumns_ge s t n t')
  · intro t' hd hh
    exact Nat.le_trans (h.hwid t' hd hh) (resizeT_nColumns_ge s t n t')
  · exact h.geo
  · exact h.sep

/-! #### a new unattached row -/

theorem SInv.newRow {s : Shape} (h : SInv s) (x : RowShape) (hi : x.inTable = none)
    (hg : ∀ cs j g, x.cells = some cs → cs[j]? = some g → g = (j + 1, some s.rows.length))
    (hs : x.isSep = true → x.cells = none) : SInv (s.newRow x) where
  cols := h.cols
  rowsLt := by intro t r hm; rw [rows_length_newRow]; exact Nat.lt_succ_of_lt (h.rowsLt t r hm)
  hdrLt := by intro t hd hh; rw [rows_length_newRow]; exact Nat.lt_succ_of_lt (h.hdrLt t hd hh)
  att := by
    intro t i r hir
    rw [row_newRow_lt _ _ _ (h.rowsLt t r (List.mem_of_getElem? hir))]
    exact h.att t i r hir
  back := by
    intro r t hir
    by_cases e : r = s.rows.length
    · rw [e, row_newRow_self, hi] at hir; cases hir
    · rw [row_newRow_ne _ _ _ e] at hir; exact h.back r t hir
  hdrFree := by
    intro t hd hh
    rw [row_newRow_lt _ _ _ (h.hdrLt t hd hh)]
    exact h.hdrFree t hd hh
  wid := by
    intro t r hm
    rw [width_newRow_lt _ _ _ (h.rowsLt t r hm)]
    exact h.wid t r hm
  hwid := by
    intro t hd hh
    rw [width_newRow_lt _ _ _ (h.hdrLt t hd hh)]
    exact h.hwid t hd hh
  geo := by
    intro r cs j g hcs hj
    by_cases e : r = s.rows.length
    · rw [e, row_newRow_self] at hcs; rw [e]; exact hg cs j g hcs hj
    · rw [row_newRow_ne _ _ _ e] at hcs; exact h.geo r cs j g hcs hj
  sep := by
    intro r hr
    by_cases e : r = s.rows.length
    · rw [e, row_newRow_self] at hr ⊢; exact hs hr
    · rw [row_newRow_ne _ _ _ e] at hr ⊢; exact h.sep r hr

theorem SInv.newCellRow {s : Shape} (h : SInv s) (cs : List CellGeo)
    (hg : ∀ j g, cs[j]? = some g → g = (j + 1, some s.rows.length)) : SInv (s.newRow { cells := some cs }) :=
  h.newRow _ rfl (fun _ j g e hj => hg j g (by cases e; exact hj)) (fun e => Bool.noConfusion e)

/-! #### appending a cell (`Row.Add`) -/

/-- the row update `Row.Add` performs -/
def pushCell (s : Shape) (r : Nat) (cs : List CellGeo) : Shape :=
  s.modRow r (fun rw => { rw with cells := some (cs ++ [(cs.length + 1, some r)]) })

theorem row_pushCell_ne (s : Shape) (r : Nat) (cs : List CellGeo) (r' : Nat) (h : r ≠ r') :
    (s.pushCell r cs).row r' = s.row r' := row_modRow_ne _ _ _ _ h

theorem row_pushCell_self (s : Shape) (r : Nat) (cs : List CellGeo) (h : r < s.rows.length) :
    (s.pushCell r cs).row r = { s.row r with cells := some (cs ++ [(cs.length + 1, some r)]) } :=
  row_modRow_self _ _ _ h

theorem skel_pushCell (s : Shape) (r : Nat) (cs : List CellGeo) : Skel s (s.pushCell r cs) where
  rowsLen := rows_length_modRow _ _ _
  rows := fun _ => rfl
  header := fun _ => rfl
  inTable := row_modRow_proj s r _ (·.inTable) (fun _ => rfl)
  rowNum := row_modRow_proj s r _ (·.rowNum) (fun _ => rfl)
  isSep := row_modRow_proj s r _ (·.isSep) (fun _ => rfl)

theorem width_pushCell_ne (s : Shape) (r : Nat) (cs : List CellGeo) (r' : Nat) (h : r ≠ r') :
    (s.pushCell r cs).width r' = s.width r' := by
  unfold width; rw [row_pushCell_ne _ _ _ _ h]

theorem width_pushCell_self (s : Shape) (r : Nat) (cs : List CellGeo) (h : r < s.rows.length) :
    (s.pushCell r cs).width r = cs.length + 1 := by
  unfold width; rw [row_pushCell_self _ _ _ h]; simp

theorem SInv.pushCell {s : Shape} (h : SInv s) (r : Nat) (cs : List CellGeo)
    (hc : (s.row r).cells = some cs)
    (hh : ∀ t, (s.table t).header ≠ some r)
    (hw : ∀ t, (s.row r).inTable = some t → cs.length + 1 ≤ (s.table t).nColumns) :
    SInv (s.pushCell r cs) := by
  apply h.of_skel (skel_pushCell s r cs)
  · exact h.cols
  · intro t r' hm
    by_cases e : r = r'
    · subst e
      rw [width_pushCell_self _ _ _ (h.rowsLt t r hm)]
      exact hw t (h.att_mem hm)
    · rw [width_pushCell_ne _ _ _ _ e]; exact h.wid t r' hm
  · intro t hd hhd
    have e : r ≠ hd := by intro e; subst e; exact hh t hhd
    rw [width_pushCell_ne _ _ _ _ e]; exact h.hwid t hd hhd
  · intro r' cs' j g hcs hj
    by_cases e : r = r' ∧ r' < s.rows.length
    · obtain ⟨e, hl⟩ := e
      subst e
      rw [row_pushCell_self _ _ _ hl] at hcs
      cases hcs
      rcases getElem?_concat hj with hj | ⟨hj, hg⟩
      · exact h.geo r cs j g hc hj
      · rw [hj, hg]
    · unfold Shape.pushCell at hcs
      rw [row_modRow, if_neg e] at hcs
      exact h.geo r' cs' j g hcs hj
  · intro r' hs
    by_cases e : r = r'
    · subst e
      have := h.sep r hs
      rw [hc] at this; cases this
    · rw [row_pushCell_ne _ _ _ _ e]; exact h.sep r' hs

theorem rowAdd_cases {P : Shape → Prop} (s : Shape) (r : Nat)
    (nocells : (s.row r).cells = none → P s)
    (free : ∀ cs, (s.row r).cells = some cs → (s.row r).inTable = none → P (s.pushCell r cs))
    (att : ∀ cs t, (s.row r).cells = some cs → (s.row r).inTable = some t →
      P ((s.modTable t (fun tb => resize tb (cs.length + 1))).pushCell r cs)) : P (s.rowAdd r) := by
  unfold rowAdd
  cases hc : (s.row r).cells with
  | none => exact nocells hc
  | some cs =>
    have hi := (skel_pushCell s r cs).inTable r
    unfold Shape.pushCell at hi
    simp only [hi]
    cases hi' : (s.row r).inTable with
    | none => exact free cs hc hi'
    | some t => exact att cs t hc hi'

theorem rowAdd_none (s : Shape) (r : Nat) (hc : (s.row r).cells = none) : s.rowAdd r = s := by
  unfold rowAdd; rw [hc]

theorem SInv.rowAdd {s : Shape} (h : SInv s) (r : Nat) (hh : ∀ t, (s.table t).header ≠ some r) :
    SInv (s.rowAdd r) := by
  refine rowAdd_cases s r (fun _ => h) (fun cs hc hi => ?_) (fun cs t hc hi => ?_)
  · exact h.pushCell r cs hc hh (by intro t ht; rw [hi] at ht; cases ht)
  · apply (h.resizeT t (cs.length + 1)).pushCell r cs hc
    · intro t'; rw [resizeT_header]; exact hh t'
    · intro t' ht'
      have e : t' = t := Option.some.inj (ht'.symm.trans hi)
      rw [e, resizeT_nColumns _ _ _ _ (h.inTable_lt hi), if_pos rfl]
      exact Nat.le_max_right _ _

theorem skel_rowAdd (s : Shape) (r : Nat) : Skel s (s.rowAdd r) :=
  rowAdd_cases s r (fun _ => Skel.refl s) (fun cs _ _ => skel_pushCell s r cs)
    (fun cs t _ _ => (skel_resizeT s t _).trans (skel_pushCell _ r cs))

theorem rowAdd_tables_length (s : Shape) (r : Nat) : (s.rowAdd r).tables.length = s.tables.length :=
  rowAdd_cases (P := fun s' => s'.tables.length = s.tables.length) s r (fun _ => rfl) (fun _ _ _ => rfl)
    (fun _ _ _ _ => tables_length_modTable _ _ _)

/-- the column demand of `Row.Add` on row `r`, seen from table `t`: the new cell's column, if the row is in `t` -/
def addDemand (s : Shape) (t r : Nat) : Nat :=
  match (s.row r).cells, (s.row r).inTable with
  | some cs, some t' => if t' = t then cs.length + 1 else 0
  | _, _ => 0

theorem rowAdd_nColumns {s : Shape} (h : SInv s) (r t' : Nat) :
    ((s.rowAdd r).table t').nColumns = max (s.table t').nColumns (s.addDemand t' r) := by
  unfold addDemand
  refine rowAdd_cases (P := fun s' => (s'.table t').nColumns = _) s r (fun hc => ?_) (fun cs hc hi => ?_)
    (fun cs t hc hi => ?_)
  · rw [hc, Nat.max_zero]
  · rw [hc, hi, Nat.max_zero]; rfl
  · rw [hc, hi]; exact resizeT_nColumns s t _ t' (h.inTable_lt hi)

theorem rowAdd_width_self (s : Shape) (r : Nat) (cs : List CellGeo) (hr : r < s.rows.length)
    (hc : (s.row r).cells = some cs) : (s.rowAdd r).width r = cs.length + 1 := by
  refine rowAdd_cases (P := fun s' => s'.width r = _) s r (fun hc' => ?_) (fun cs' hc' _ => ?_)
      (fun cs' t hc' _ => ?_) <;>
    cases hc.symm.trans hc'
  · exact width_pushCell_self s r cs hr
  · exact width_pushCell_self _ r cs hr

theorem rowAdd_row_ne (s : Shape) (r r' : Nat) (hne : r ≠ r') : (s.rowAdd r).row r' = s.row r' :=
  rowAdd_cases (P := fun s' => s'.row r' = s.row r') s r (fun _ => rfl) (fun cs _ _ => row_pushCell_ne s r cs r' hne)
    (fun cs _ _ _ => row_pushCell_ne _ r cs r' hne)

theorem rowAddN_newRow (s : Shape) (n : Nat) (cs : List CellGeo)
    (hg : ∀ j g, cs[j]? = some g → g = (j + 1, some s.rows.length)) :
    ∃ cs', cs'.length = cs.length + n ∧ (∀ j g, cs'[j]? = some g → g = (j + 1, some s.rows.length)) ∧
      rowAddN s.rows.length n (s.newRow { cells := some cs }) = s.newRow { cells := some cs' } := by
  induction n generalizing cs with
  | zero => exact ⟨cs, rfl, hg, rfl⟩
  | succ n ih =>
    have e : (s.newRow { cells := some cs }).rowAdd s.rows.length =
        s.newRow { cells := some (cs ++ [(cs.length + 1, some s.rows.length)]) } := by
      unfold rowAdd
      simp only [row_newRow_self, modRow_newRow]
    obtain ⟨cs', hl, hg', e'⟩ := ih (cs ++ [(cs.length + 1, some s.rows.length)]) (by
      intro j g hj
      rcases getElem?_concat hj with hj | ⟨hj, hg'⟩
      · exact hg j g hj
      · rw [hj, hg'])
    refine ⟨cs', ?_, hg', ?_⟩
    · rw [hl, List.length_append, List.length_singleton]; omega
    · rw [rowAddN, e, e']

/-! #### attaching a row (shared by `AddRow` and `AddSeparator`) -/

def attach (s : Shape) (t r : Nat) : Shape :=
  (s.modTable t (fun tb => { tb with rows := tb.rows ++ [r] })).modRow r
    (fun rw => { rw with inTable := some t, rowNum := (s.table t).rows.length + 1 })

theorem attach_rows_length (s : Shape) (t r : Nat) : (s.attach t r).rows.length = s.rows.length := by
  simp [attach]

theorem attach_tables_length (s : Shape) (t r : Nat) : (s.attach t r).tables.length = s.tables.length := by
  simp [attach]

theorem row_attach_self (s : Shape) (t r : Nat) (hr : r < s.rows.length) :
    (s.attach t r).row r = { s.row r with inTable := some t, rowNum := (s.table t).rows.length + 1 } :=
  row_modRow_self (s.modTable t _) r _ hr

theorem row_attach_ne (s : Shape) (t r r' : Nat) (hne : r ≠ r') : (s.attach t r).row r' = s.row r' :=
  row_modRow_ne (s.modTable t _) r r' _ hne

theorem cells_attach (s : Shape) (t r r' : Nat) : ((s.attach t r).row r').cells = (s.row r').cells := by
  unfold attach; exact row_modRow_proj _ r _ (·.cells) (fun _ => by rfl) r'

theorem isSep_attach (s : Shape) (t r r' : Nat) : ((s.attach t r).row r').isSep = (s.row r').isSep := by
  unfold attach; exact row_modRow_proj _ r _ (·.isSep) (fun _ => by rfl) r'

theorem width_attach (s : Shape) (t r r' : Nat) : (s.attach t r).width r' = s.width r' := by
  unfold width; rw [cells_attach]

theorem rows_attach (s : Shape) (t r t' : Nat) (ht : t < s.tables.length) :
    ((s.attach t r).table t').rows = (s.table t').rows ++ if t = t' then [r] else [] := by
  show ((s.modTable t _).table t').rows = _
  rw [table_modTable]
  by_cases e : t = t'
  · rw [if_pos ⟨e, e ▸ ht⟩, if_pos e]
  · rw [if_neg (fun c => e c.1), if_neg e, List.append_nil]

theorem header_attach (s : Shape) (t r t' : Nat) : ((s.attach t r).table t').header = (s.table t').header := by
  unfold attach; exact table_modTable_proj s t _ (·.header) (fun _ => by rfl) t'

theorem nColumns_attach (s : Shape) (t r t' : Nat) : ((s.attach t r).table t').nColumns = (s.table t').nColumns := by
  unfold attach; exact table_modTable_proj s t _ (·.nColumns) (fun _ => by rfl) t'

theorem nColRecs_attach (s : Shape) (t r t' : Nat) : ((s.attach t r).table t').nColRecs = (s.table t').nColRecs := by
  unfold attach; exact table_modTable_proj s t _ (·.nColRecs) (fun _ => by rfl) t'

theorem getElem?_rows_attach {s : Shape} {t r t' i r' : Nat} (ht : t < s.tables.length)
    (hi : ((s.attach t r).table t').rows[i]? = some r') :
    (s.table t').rows[i]? = some r' ∨ (t' = t ∧ i = (s.table t).rows.length ∧ r' = r) := by
  rw [rows_attach _ _ _ _ ht] at hi
  by_cases e : t = t'
  · rw [if_pos e] at hi
    subst e
    rcases getElem?_concat hi with hi | ⟨h1, h2⟩
    · exact Or.inl hi
    · exact Or.inr ⟨rfl, h1, h2⟩
  · rw [if_neg e, List.append_nil] at hi; exact Or.inl hi

theorem SInv.attach {s : Shape} (h : SInv s) (t r : Nat) (ht : t < s.tables.length) (hr : r < s.rows.length)
    (hfree : (s.row r).inTable = none) (hh : ∀ t', (s.table t').header ≠ some r)
    (hw : s.width r ≤ (s.table t).nColumns) : SInv (s.attach t r) := by
  have notin : ∀ t' r', r' ∈ (s.table t').rows → r ≠ r' := by
    intro t' r' hm e; subst e
    have := h.att_mem hm; rw [hfree] at this; cases this
  constructor
  · intro t'; rw [nColRecs_attach, nColumns_attach]; exact h.cols t'
  · intro t' r' hm
    obtain ⟨i, hi⟩ := List.mem_iff_getElem?.mp hm
    rw [attach_rows_length]
    rcases getElem?_rows_attach ht hi with hi | ⟨_, _, e⟩
    · exact h.rowsLt t' r' (List.mem_of_getElem? hi)
    · rw [e]; exact hr
  · intro t' hd hhd; rw [header_attach] at hhd; rw [attach_rows_length]; exact h.hdrLt t' hd hhd
  · intro t' i r' hi
    rcases getElem?_rows_attach ht hi with hi | ⟨e1, e2, e3⟩
    · rw [row_attach_ne _ _ _ _ (notin t' r' (List.mem_of_getElem? hi))]
      exact h.att t' i r' hi
    · rw [e1, e2, e3, row_attach_self _ _ _ hr]; exact ⟨rfl, rfl⟩
  · intro r' t' hi
    rw [rows_attach _ _ _ _ ht]
    by_cases e : r = r'
    · subst e
      rw [row_attach_self _ _ _ hr] at hi
      cases hi
      rw [if_pos rfl]; exact List.mem_concat_self
    · rw [row_attach_ne _ _ _ _ e] at hi
      exact List.mem_append_left _ (h.back r' t' hi)
  · intro t' hd hhd
    rw [header_attach] at hhd
    have e : r ≠ hd := by intro e; subst e; exact hh t' hhd
    rw [row_attach_ne _ _ _ _ e]; exact h.hdrFree t' hd hhd
  · intro t' r' hm
    obtain ⟨i, hi⟩ := List.mem_iff_getElem?.mp hm
    rw [width_attach, nColumns_attach]
    rcases getElem?_rows_attach ht hi with hi | ⟨e1, _, e3⟩
    · exact h.wid t' r' (List.mem_of_getElem? hi)
    · rw [e1, e3]; exact hw
  · intro t' hd hhd
    rw [header_attach] at hhd; rw [width_attach, nColumns_attach]; exact h.hwid t' hd hhd
  · intro r' cs j g hcs hj
    rw [cells_attach] at hcs; exact h.geo r' cs j g hcs hj
  · intro r' hs
    rw [isSep_attach] at hs; rw [cells_attach]; exact h.sep r' hs

/-! #### installing a header row -/

def setHeader (s : Shape) (t hr : Nat) : Shape := s.modTable t (fun tb => { tb with header := some hr })

theorem rows_setHeader (s : Shape) (t hr t' : Nat) : ((s.setHeader t hr).table t').rows = (s.table t').rows := by
  unfold setHeader; exact table_modTable_proj s t _ (·.rows) (fun _ => by rfl) t'

theorem nColumns_setHeader (s : Shape) (t hr t' : Nat) :
    ((s.setHeader t hr).table t').nColumns = (s.table t').nColumns := by
  unfold setHeader; exact table_modTable_proj s t _ (·.nColumns) (fun _ => by rfl) t'

theorem nColRecs_setHeader (s : Shape) (t hr t' : Nat) :
    ((s.setHeader t hr).table t').nColRecs = (s.table t').nColRecs := by
  unfold setHeader; exact table_modTable_proj s t _ (·.nColRecs) (fun _ => by rfl) t'

theorem header_setHeader {s : Shape} {t hr t' hd : Nat} (h : ((s.setHeader t hr).table t').header = some hd) :
    (s.table t').header = some hd ∨ (t' = t ∧ hd = hr) := by
  unfold setHeader at h
  rw [table_modTable] at h
  split at h
  · rename_i e; exact Or.inr ⟨e.1.symm, (Option.some.inj h).symm⟩
  · exact Or.inl h

theorem SInv.setHeader {s : Shape} (h : SInv s) (t hr : Nat) (hlt : hr < s.rows.length)
    (hfree : (s.row hr).inTable = none) (hw : s.width hr ≤ (s.table t).nColumns) :
    SInv (s.setHeader t hr) where
  cols := by intro t'; rw [nColRecs_setHeader, nColumns_setHeader]; exact h.cols t'
  rowsLt := by intro t' r hm; rw [rows_setHeader] at hm; exact h.rowsLt t' r hm
  hdrLt := by
    intro t' hd hhd
    rcases header_setHeader hhd with hhd | ⟨_, e⟩
    · exact h.hdrLt t' hd hhd
    · rw [e]; exact hlt
  att := by intro t' i r hi; rw [rows_setHeader] at hi; exact h.att t' i r hi
  back := by intro r t' hi; rw [rows_setHeader]; exact h.back r t' hi
  hdrFree := by
    intro t' hd hhd
    rcases header_setHeader hhd with hhd | ⟨_, e⟩
    · exact h.hdrFree t' hd hhd
    · rw [e]; exact hfree
  wid := by intro t' r hm; rw [rows_setHeader] at hm; rw [nColumns_setHeader]; exact h.wid t' r hm
  hwid := by
    intro t' hd hhd
    rw [nColumns_setHeader]
    rcases header_setHeader hhd with hhd | ⟨e1, e2⟩
    · exact h.hwid t' hd hhd
    · rw [e1, e2]; exact hw
  geo := h.geo
  sep := h.sep

/-! #### the compound operations -/

theorem addRow_eq (s : Shape) (t r : Nat) (ht : t < s.tables.length) :
    s.addRow t r = (s.modTable t (fun tb => resize tb (s.width r))).attach t r := by
  have hw : ∀ (s' : Shape) n, (s'.modRow r (fun rw => { rw with inTable := some t, rowNum := n })).width r =
      s'.width r :=
    fun s' n => width_modRow_keep s' r (fun rw => { rw with inTable := some t, rowNum := n }) (fun _ => rfl) r
  unfold addRow attach
  simp only [hw, width_modTable, table_modTable_self _ _ _ ht, resize_rows]
  -- growing the column count and appending to the row list touch different fields of the table
  have hcomm : (fun tb => resize tb (s.width r)) ∘ (fun tb : TableShape => { tb with rows := tb.rows ++ [r] }) =
      (fun tb => { tb with rows := tb.rows ++ [r] }) ∘ (fun tb => resize tb (s.width r)) := by
    funext tb
    simp only [Function.comp_apply, resize]
    split <;> rfl
  unfold modTable modRow
  simp only [List.modify_modify_eq, List.length_append, List.length_singleton, hcomm]

theorem SInv.addRow {s : Shape} (h : SInv s) (t r : Nat) (ht : t < s.tables.length) (hr : r < s.rows.length)
    (hfree : (s.row r).inTable = none) (hh : ∀ t', (s.table t').header ≠ some r) : SInv (s.addRow t r) := by
  rw [addRow_eq _ _ _ ht]
  apply (h.resizeT t (s.width r)).attach t r ((tables_length_modTable s t _).symm ▸ ht) hr hfree
  · intro t'; rw [resizeT_header]; exact hh t'
  · rw [width_modTable, resizeT_nColumns _ _ _ _ ht, if_pos rfl]; exact Nat.le_max_right _ _

theorem addRow_rows (s : Shape) (t r t' : Nat) (ht : t < s.tables.length) :
    ((s.addRow t r).table t').rows = (s.table t').rows ++ if t = t' then [r] else [] := by
  rw [addRow_eq _ _ _ ht, rows_attach _ _ _ _ ((tables_length_modTable s t _).symm ▸ ht), resizeT_rows]

theorem addRow_nColumns (s : Shape) (t r t' : Nat) (ht : t < s.tables.length) :
    ((s.addRow t r).table t').nColumns = max (s.table t').nColumns (if t = t' then s.width r else 0) := by
  rw [addRow_eq _ _ _ ht, nColumns_attach, resizeT_nColumns _ _ _ _ ht]

theorem addRow_width (s : Shape) (t r r' : Nat) (ht : t < s.tables.length) :
    (s.addRow t r).width r' = s.width r' := by
  rw [addRow_eq _ _ _ ht, width_attach, width_modTable]

theorem addRow_rows_length (s : Shape) (t r : Nat) : (s.addRow t r).rows.length = s.rows.length := by
  simp [Shape.addRow]
theorem addRow_tables_length (s : Shape) (t r : Nat) : (s.addRow t r).tables.length = s.tables.length := by
  simp [Shape.addRow]

/-- the separator row as `newSeparator()` makes it -/
def sepRow : RowShape := { cells := none, isSep := true }

theorem addSeparator_eq (s : Shape) (t : Nat) (ht : t < s.tables.length) :
    s.addSeparator t = (s.newRow sepRow).attach t s.rows.length := by
  unfold addSeparator attach
  simp only
  rw [table_modTable_self (s.newRow _) _ _ ht]
  simp [sepRow]

theorem SInv.addSeparator {s : Shape} (h : SInv s) (t : Nat) (ht : t < s.tables.length) :
    SInv (s.addSeparator t) := by
  rw [addSeparator_eq _ _ ht]
  apply (h.newRow sepRow rfl nofun (fun _ => rfl)).attach t s.rows.length ht
    (by rw [rows_length_newRow]; exact Nat.lt_succ_self _)
  · rw [row_newRow_self]; rfl
  · intro t' e
    exact Nat.lt_irrefl _ (h.hdrLt t' _ e)
  · rw [width_newRow_self]; exact Nat.zero_le _

theorem addRowItems_eq (s : Shape) (t n : Nat) :
    ∃ cs, cs.length = n ∧ (∀ j g, cs[j]? = some g → g = (j + 1, some s.rows.length)) ∧
      s.addRowItems t n = (s.newRow { cells := some cs }).addRow t s.rows.length := by
  obtain ⟨cs, hl, hg, e⟩ := rowAddN_newRow s n [] nofun
  refine ⟨cs, by simpa using hl, hg, ?_⟩
  unfold addRowItems
  exact congrArg (fun s' => s'.addRow t s.rows.length) e

theorem addHeaders_eq (s : Shape) (t n : Nat) :
    ∃ cs, cs.length = n ∧ (∀ j g, cs[j]? = some g → g = (j + 1, some s.rows.length)) ∧
      s.addHeaders t n =
        ((s.modTable t (fun tb => resize tb n)).newRow { cells := some cs }).setHeader t s.rows.length := by
  obtain ⟨cs, hl, hg, e⟩ := rowAddN_newRow (s.modTable t (fun tb => resize tb n)) n [] nofun
  refine ⟨cs, by simpa using hl, hg, ?_⟩
  unfold addHeaders
  exact congrArg (fun s' => s'.setHeader t s.rows.length) e

theorem SInv.addRowItems {s : Shape} (h : SInv s) (t n : Nat) (ht : t < s.tables.length) :
    SInv (s.addRowItems t n) := by
  obtain ⟨cs, _, hg, e⟩ := addRowItems_eq s t n
  rw [e]
  apply (h.newCellRow cs hg).addRow t s.rows.length ht (by rw [rows_length_newRow]; exact Nat.lt_succ_self _)
  · rw [row_newRow_self]
  · intro t' e
    exact Nat.lt_irrefl _ (h.hdrLt t' _ e)

theorem SInv.addHeaders {s : Shape} (h : SInv s) (t n : Nat) (ht : t < s.tables.length) :
    SInv (s.addHeaders t n) := by
  obtain ⟨cs, hl, hg, e⟩ := addHeaders_eq s t n
  rw [e]
  apply ((h.resizeT t n).newCellRow cs hg).setHeader t s.rows.length
    (by rw [rows_length_newRow]; exact Nat.lt_succ_self _)
  · exact congrArg RowShape.inTable (row_newRow_self (s.modTable t _) _)
  · rw [show s.rows.length = (s.modTable t (fun tb => resize tb n)).rows.length from rfl, width_newRow_self,
      table_newRow, resizeT_nColumns _ _ _ _ ht, if_pos rfl]
    exact hl ▸ Nat.le_max_right _ _

end Shape
end Tab
