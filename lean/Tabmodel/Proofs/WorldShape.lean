/-
  Lemmas about the shape projection (`Spec/World.lean`): callbacks and every other
  non-building operation leave the shape alone (`shape_invoke`, …), and each building
  operation of the model acts on the shape as the abstract machine does
  (`shape_addRow : (addRow dw w t r).shape = w.shape.addRow t r`, …).
-/
import Tabmodel.Spec.World
import Tabmodel.Proofs.Traverse
import Tabmodel.Proofs.Store
namespace Tab

theorem getD_map_default {α β} (f : α → β) (l : List α) (i : Nat) (d : α) :
    (l.map f).getD i (f d) = f (l.getD i d) := by
  simp only [List.getD_eq_getElem?_getD, List.getElem?_map, Option.getD_map]

/-! ### reading the shape -/
namespace World

@[simp] theorem shape_tables_length (w : World) : w.shape.tables.length = w.tables.length := by
  simp [shape]
@[simp] theorem shape_rows_length (w : World) : w.shape.rows.length = w.rows.length := by
  simp [shape]

theorem shape_table (w : World) (t : Nat) : w.shape.table t = (w.table t).shape := by
  unfold Shape.table table shape
  exact getD_map_default Table.shape w.tables t {}

theorem shape_row (w : World) (r : Nat) : w.shape.row r = (w.row r).shape := by
  unfold Shape.row row shape
  exact getD_map_default Row.shape w.rows r {}

theorem shape_table_rows (w : World) (t : Nat) : (w.shape.table t).rows = (w.table t).rows := by
  rw [shape_table]; rfl
theorem shape_table_header (w : World) (t : Nat) : (w.shape.table t).header = (w.table t).header := by
  rw [shape_table]; rfl
theorem shape_table_nColumns (w : World) (t : Nat) : (w.shape.table t).nColumns = (w.table t).nColumns := by
  rw [shape_table]; rfl
theorem shape_table_nColRecs (w : World) (t : Nat) : (w.shape.table t).nColRecs = (w.table t).columns.length := by
  rw [shape_table]; rfl
theorem shape_row_inTable (w : World) (r : Nat) : (w.shape.row r).inTable = (w.row r).inTable := by
  rw [shape_row]; rfl
theorem shape_row_rowNum (w : World) (r : Nat) : (w.shape.row r).rowNum = (w.row r).rowNum := by
  rw [shape_row]; rfl
theorem shape_row_isSep (w : World) (r : Nat) : (w.shape.row r).isSep = (w.row r).isSep := by
  rw [shape_row]; rfl
theorem shape_row_cells (w : World) (r : Nat) :
    (w.shape.row r).cells = (w.row r).cells.map (·.map Cell.geo) := by
  rw [shape_row]; rfl

theorem shape_width (w : World) (r : Nat) : w.shape.width r = (w.rowCells r).length := by
  unfold Shape.width rowCells
  rw [shape_row]
  unfold Row.shape
  cases (w.row r).cells <;> simp

theorem shape_modTable (w : World) (t : Nat) (f : Table → Table) (g : TableShape → TableShape)
    (h : ∀ tb, (f tb).shape = g tb.shape) : (w.modTable t f).shape = w.shape.modTable t g := by
  unfold modTable Shape.modTable shape
  simp only [map_modify_comm Table.shape f g h]

theorem shape_modTable_id (w : World) (t : Nat) (f : Table → Table)
    (h : ∀ tb, (f tb).shape = tb.shape) : (w.modTable t f).shape = w.shape := by
  unfold modTable shape
  simp only [map_modify_inv Table.shape f h]

theorem shape_modRow (w : World) (r : Nat) (f : Row → Row) (g : RowShape → RowShape)
    (h : ∀ rw, (f rw).shape = g rw.shape) : (w.modRow r f).shape = w.shape.modRow r g := by
  unfold modRow Shape.modRow shape
  simp only [map_modify_comm Row.shape f g h]

theorem shape_modRow_id (w : World) (r : Nat) (f : Row → Row)
    (h : ∀ rw, (f rw).shape = rw.shape) : (w.modRow r f).shape = w.shape := by
  unfold modRow shape
  simp only [map_modify_inv Row.shape f h]

theorem shape_modCell_id (w : World) (r c : Nat) (f : Cell → Cell)
    (h : ∀ ce, (f ce).geo = ce.geo) : (w.modCell r c f).shape = w.shape := by
  unfold modCell
  apply shape_modRow_id
  intro rw
  unfold Row.shape
  cases rw.cells with
  | none => rfl
  | some cs => simp [map_modify_inv Cell.geo f h]

theorem shape_modColumn_id (w : World) (t n : Nat) (f : Column → Column) :
    (w.modColumn t n f).shape = w.shape := by
  unfold modColumn
  apply shape_modTable_id
  intro tb
  simp [Table.shape]

theorem shape_events (w : World) (ev : List Event) : ({ w with events := ev } : World).shape = w.shape := rfl
theorem shape_copies (w : World) (cp : List Cell) : ({ w with copies := cp } : World).shape = w.shape := rfl
theorem shape_items (w : World) (its : List Item) : ({ w with items := its } : World).shape = w.shape := rfl

/-! ### callbacks never change the shape -/

theorem shape_addErrTo (w : World) (tk : Taker) (e : Nat) : (w.addErrTo tk e).shape = w.shape := by
  unfold addErrTo
  split
  · rfl
  · exact shape_modTable_id _ _ _ (fun _ => rfl)
  · apply shape_modRow_id; intro rw; split <;> rfl
  · split
    · exact shape_modRow_id _ _ _ (fun _ => rfl)
    · exact shape_modRow_id _ _ _ (fun _ => rfl)
    · exact shape_modTable_id _ _ _ (fun _ => rfl)

theorem shape_setProp (w : World) (o : Target) (k : Key) (v : Option Val) :
    (w.setProp o k v).shape = w.shape := by
  unfold setProp
  split
  · exact shape_modTable_id _ _ _ (fun _ => rfl)
  · exact shape_modColumn_id _ _ _ _
  · exact shape_modRow_id _ _ _ (fun _ => rfl)
  · exact shape_modCell_id _ _ _ _ (fun _ => rfl)
  · rfl

theorem shape_invoke (dw : Measure) (w : World) (cbs : List Cb) (tgt : Target) (tk : Taker) :
    (invoke dw w cbs tgt tk).shape = w.shape :=
  invoke_frame (P := fun w' => w'.shape = w.shape) dw cbs tgt tk
    (fun w' cb _ h => invokeOne_frame dw w' cb tgt tk (fun _ _ h => h)
      (fun w' k v h => (shape_setProp w' tgt k v).trans h) (fun w' e h => (shape_addErrTo w' tk e).trans h) h)
    w rfl

theorem shape_addTimeCells (dw : Measure) (t r : Nat) (colTaker : World → Taker) (n i : Nat) (w : World) :
    (addTimeCells dw t r colTaker n i w).shape = w.shape :=
  addTimeCells_keeps (P := fun w' => w'.shape = w.shape)
    (fun w' cbs tgt tk h => (shape_invoke dw w' cbs tgt tk).trans h) t r colTaker n i w rfl

theorem shape_invokeRenderCallbacks (dw : Measure) (w : World) (t : Nat) :
    (invokeRenderCallbacks dw w t).shape = w.shape :=
  invokeRenderCallbacks_keeps (P := fun w' => w'.shape = w.shape)
    (fun w' cbs tgt tk h => (shape_invoke dw w' cbs tgt tk).trans h) t w rfl

theorem shape_registerCb (w w' : World) (owner : Target) (tm : Time) (tg : CbTarget) (cb : Cb)
    (h : w.registerCb owner tm tg cb = some w') : w'.shape = w.shape := by
  unfold registerCb at h
  split at h <;> cases h
  · exact shape_modTable_id _ _ _ (fun _ => rfl)
  · exact shape_modTable_id _ _ _ (fun _ => rfl)
  · exact shape_modTable_id _ _ _ (fun _ => rfl)
  · exact shape_modColumn_id _ _ _ _
  · exact shape_modColumn_id _ _ _ _
  · exact shape_modRow_id _ _ _ (fun _ => rfl)
  · exact shape_modRow_id _ _ _ (fun _ => rfl)
  · exact shape_modCell_id _ _ _ _ (fun _ => rfl)
  · rfl

theorem geo_update (dw : Measure) (it : Item) (c : Cell) : (c.update dw it).geo = c.geo := by
  unfold Cell.update
  split <;> rfl

/-! ### the building operations refine the abstract machine -/

theorem shape_resize (tb : Table) (n : Nat) :
    (resizeColumnsAtLeast tb n).shape = Shape.resize tb.shape n := by
  unfold resizeColumnsAtLeast Shape.resize
  by_cases h : n ≤ tb.nColumns
  · simp [h, Table.shape]
  · simp [h, Table.shape]

/-- the three structural writes the building operations are composed of -/
theorem shape_resizeT (w : World) (t n : Nat) :
    (w.modTable t (fun tb => resizeColumnsAtLeast tb n)).shape = w.shape.modTable t (fun tb => Shape.resize tb n) :=
  shape_modTable _ _ _ _ (fun tb => shape_resize tb n)

theorem shape_appendRowId (w : World) (t r : Nat) :
    (w.modTable t (fun tb => { tb with rows := tb.rows ++ [r] })).shape =
      w.shape.modTable t (fun tb => { tb with rows := tb.rows ++ [r] }) :=
  shape_modTable _ _ _ _ (fun _ => rfl)

theorem shape_setInTable (w : World) (r t n : Nat) :
    (w.modRow r (fun rw => { rw with inTable := some t, rowNum := n })).shape =
      w.shape.modRow r (fun rw => { rw with inTable := some t, rowNum := n }) :=
  shape_modRow _ _ _ _ (fun _ => rfl)

theorem shape_newTable (w : World) : w.newTable.1.shape = w.shape.newTable := by
  simp [newTable, Shape.newTable, shape, Table.shape]

theorem shape_newRow (w : World) (rw : Row) : (w.newRow rw).1.shape = w.shape.newRow rw.shape := by
  simp [newRow, Shape.newRow, shape]

theorem newRow_id (w : World) (rw : Row) : (w.newRow rw).2 = w.rows.length := rfl
theorem newTable_id (w : World) : w.newTable.2 = w.tables.length := rfl

theorem shape_rowAddCell (dw : Measure) (w : World) (r : Nat) (ce : Cell) :
    (rowAddCell dw w r ce).shape = w.shape.rowAdd r := by
  unfold rowAddCell Shape.rowAdd
  rw [shape_row_cells]
  cases (w.row r).cells with
  | none => exact shape_addErrTo w _ _
  | some cs =>
    simp only [Option.map_some, List.length_map]
    have h1 : (w.modRow r (fun rw =>
          { rw with cells := some (cs ++ [{ ce with inRow := some r, columnNum := cs.length + 1 }]) })).shape
        = w.shape.modRow r (fun rw => { rw with cells := some (cs.map Cell.geo ++ [(cs.length + 1, some r)]) }) :=
      shape_modRow _ _ _ _ (by intro rw; simp [Row.shape, Cell.geo])
    rw [shape_invoke, ← h1, shape_row_inTable]
    generalize w.modRow r _ = w1
    cases (w1.row r).inTable with
    | none => rfl
    | some t => exact shape_resizeT w1 t _

theorem shape_rowAdd (dw : Measure) (w : World) (r i : Nat) :
    (rowAdd dw w r i).shape = w.shape.rowAdd r := shape_rowAddCell dw w r _

theorem shape_setEc (w : World) (r : Nat) (e : ECRef) :
    (w.modRow r (fun rw => { rw with ec := e })).shape = w.shape :=
  shape_modRow_id _ _ _ (fun _ => rfl)

theorem shape_addErrs (w : World) (t : Nat) (es : List Nat) :
    (w.modTable t (fun tb => { tb with errs := tb.errs ++ es })).shape = w.shape :=
  shape_modTable_id _ _ _ (fun _ => rfl)

theorem shape_addRow (dw : Measure) (w : World) (t r : Nat) :
    (addRow dw w t r).shape = w.shape.addRow t r := by
  unfold addRow Shape.addRow
  simp only [shape_addTimeCells, shape_invoke]
  rw [shape_setEc, shape_addErrs, shape_resizeT, ← shape_width, shape_setInTable, ← shape_table_rows,
    shape_appendRowId]

theorem shape_rowAddMany (dw : Measure) (r : Nat) (is : List Nat) (w : World) :
    (rowAddMany dw r is w).shape = Shape.rowAddN r is.length w.shape := by
  induction is generalizing w with
  | nil => rfl
  | cons i is ih => simp only [rowAddMany, List.length_cons, Shape.rowAddN]; rw [ih, shape_rowAdd]

theorem shape_addSeparator (w : World) (t : Nat) :
    (addSeparator w t).shape = w.shape.addSeparator t := by
  unfold addSeparator Shape.addSeparator
  simp only [newRow_id]
  refine (shape_modRow _ _ _ (fun rw => { rw with inTable := some t, rowNum := _ }) (fun _ => rfl)).trans ?_
  rw [← shape_table_rows, shape_appendRowId, shape_newRow, shape_rows_length]
  rfl

theorem shape_addHeaders (dw : Measure) (w : World) (t : Nat) (items : List Nat) :
    (addHeaders dw w t items).shape = w.shape.addHeaders t items.length := by
  unfold addHeaders Shape.addHeaders
  simp only [shape_addTimeCells, shape_invoke, newRow_id]
  refine (shape_modTable _ _ _ (fun tb => { tb with header := some _ }) (fun _ => rfl)).trans ?_
  rw [shape_rowAddMany, shape_newRow, ← shape_rows_length, shape_resizeT]
  rfl

theorem shape_addRowItems (dw : Measure) (w : World) (t : Nat) (items : List Nat) :
    (addRowItems dw w t items).1.shape = w.shape.addRowItems t items.length := by
  unfold addRowItems Shape.addRowItems
  simp only [newRow_id]
  rw [shape_addRow, shape_rowAddMany, shape_newRow, shape_rows_length]
  rfl

theorem addRowItems_id (dw : Measure) (w : World) (t : Nat) (items : List Nat) :
    (addRowItems dw w t items).2 = w.rows.length := rfl

theorem shape_appendNewRow (dw : Measure) (w : World) (t : Nat) :
    (appendNewRow dw w t).1.shape = w.shape.appendNewRow t := by
  unfold appendNewRow Shape.appendNewRow
  simp only [newRow_id]
  rw [shape_addRow, shape_newRow, shape_rows_length]
  rfl

theorem appendNewRow_id (dw : Measure) (w : World) (t : Nat) :
    (appendNewRow dw w t).2 = w.rows.length := rfl

end World
end Tab
