/- C03 / C04: the model functions of `Model/Text.lean` and `Model/Decoration.lean` meet the layout spec. -/
import Tabmodel.Proofs.TextLemmas
import Tabmodel.Proofs.EmitLemmas
namespace Tab

theorem range_map_getElem? {α : Type} (f : Nat → α) (n i : Nat) (h : i < n) :
    ((List.range n).map f)[i]? = some (f i) := by
  rw [List.getElem?_map, List.getElem?_range h]; rfl

/-! ### one content line: `renderedLine` is a per-column step that may fail, then a pure assembly -/

/-- the per-column step of `renderedLine` -/
def rlCol (I : Bytes) (parts : List WidthString) (aligns : List Nat) (x : Nat × Nat) :
    Except Stop (List Bytes) := do
  let cs ← idxE parts x.2 "emit.cellStrs[i]"
  let al ← idxE aligns x.2 "emit.colAligns[i]"
  let s ← withinWidthAligned cs x.1 al
  pure (if I != [] then [s, I] else [s])

/-- the fields `renderedLine` joins -/
def rlFields (L I R : Bytes) (cols : List (List Bytes)) : List Bytes :=
  let fields := (if L != [] then [L] else []) ++ cols.flatten
  if R != [] && I != [] then fields.dropLast ++ [R]
  else if R != [] then fields ++ [R]
  else if I != [] then fields.dropLast
  else fields

theorem renderedLine_eq (L I R : Bytes) (cw : List Nat) (parts : List WidthString) (aligns : List Nat) :
    renderedLine L I R cw parts aligns =
      ((cw.zipIdx).mapM (rlCol I parts aligns)).map (fun cols => joinSP (rlFields L I R cols) ++ [LF]) := by
  unfold renderedLine rlFields
  show (List.mapM (rlCol I parts aligns) cw.zipIdx >>= _) = _
  cases List.mapM (rlCol I parts aligns) cw.zipIdx with
  | error e => rfl
  | ok cols => cases R != [] <;> cases I != [] <;> rfl

theorem rlCol_eq {parts : List WidthString} {aligns : List Nat} {i : Nat} {ws : WidthString} {al : Nat}
    (hp : parts[i]? = some ws) (ha : aligns[i]? = some al) (I : Bytes) (w : Nat) :
    rlCol I parts aligns (w, i)
      = (withinWidthAligned ws w al).map (fun s => if I != [] then [s, I] else [s]) := by
  unfold rlCol
  rw [idxE_ok hp, idxE_ok ha]
  rfl

theorem lineSlots_length (cw aligns : List Nat) (g : Nat → WidthString) :
    (lineSlots cw aligns g).length = cw.length := by simp [lineSlots]

theorem lineSlots_ne_nil (cw aligns : List Nat) (g : Nat → WidthString) (h : cw ≠ []) :
    lineSlots cw aligns g ≠ [] :=
  fun e => h (List.zipIdx_eq_nil_iff.mp (List.map_eq_nil_iff.mp e))

theorem renderedLine_cols (I : Bytes) (cw : List Nat) (parts : List WidthString) (aligns : List Nat)
    (g : Nat → WidthString)
    (hparts : ∀ i, i < cw.length → parts[i]? = some (g i))
    (hal : cw.length ≤ aligns.length) (hal3 : ∀ a ∈ aligns, a ≤ 3)
    (hnn : ∀ i, i < cw.length → 0 ≤ (g i).w) :
    (cw.zipIdx).mapM (rlCol I parts aligns)
      = .ok (((lineSlots cw aligns g).map SlotD.bytes).map (fun b => if I != [] then [b, I] else [b])) := by
  unfold lineSlots
  rw [List.map_map, List.map_map]
  apply mapM_ok
  intro x hx
  obtain ⟨w, i⟩ := x
  have hi : i < cw.length := by have := List.mem_zipIdx hx; omega
  have ha := getElem?_eq_some_getD (Nat.lt_of_lt_of_le hi hal) 0
  rw [rlCol_eq (hparts i hi) ha,
    withinWidthAligned_eq _ _ _ (hnn i hi) (hal3 _ (List.mem_of_getElem? ha))]
  rfl

theorem bne_nil_of_ne {x : Bytes} (h : x ≠ []) : (x != []) = true := by simp [h]

theorem rlFields_divs (L I R : Bytes) (bs : List Bytes) (hd : DivsOK L I R) (hne : bs ≠ []) :
    joinSP (rlFields L I R (bs.map (fun b => if I != [] then [b, I] else [b])))
      = if L = [] then joinSP bs else joinSP (L :: (bs.intersperse I ++ [R])) := by
  unfold rlFields
  rcases hd with ⟨hL, hI, hR⟩ | ⟨rfl, rfl, rfl⟩
  · simp only [bne_nil_of_ne hL, bne_nil_of_ne hI, bne_nil_of_ne hR, Bool.and_self, if_true, hL, if_false]
    rw [framed_dropLast L I R bs hne]
  · have : (bs.map (fun b => [b])).flatten = bs := by
      rw [List.flatten_eq_flatMap, List.flatMap_map]; exact List.flatMap_singleton' bs
    simp [this]

/-- C04 at function level: one content line is the spec's `contentLine` of the spec's slots -/
theorem renderedLine_divs (L I R : Bytes) (cw : List Nat) (parts : List WidthString) (aligns : List Nat)
    (g : Nat → WidthString) (hd : DivsOK L I R) (hcw : cw ≠ [])
    (hparts : ∀ i, i < cw.length → parts[i]? = some (g i))
    (hal : cw.length ≤ aligns.length) (hal3 : ∀ a ∈ aligns, a ≤ 3)
    (hnn : ∀ i, i < cw.length → 0 ≤ (g i).w) :
    renderedLine L I R cw parts aligns = .ok (contentLine L I R (lineSlots cw aligns g)) := by
  have hne : (lineSlots cw aligns g).map SlotD.bytes ≠ [] :=
    fun h => lineSlots_ne_nil cw aligns g hcw (List.map_eq_nil_iff.mp h)
  rw [renderedLine_eq, renderedLine_cols I cw parts aligns g hparts hal hal3 hnn]
  show Except.ok (joinSP _ ++ [LF]) = _
  rw [rlFields_divs L I R _ hd hne]
  rfl

open Emit

/-! ### rows -/

theorem ttRowLines_eq (cells : List RCell) (n : Nat) :
    ttRowLines cells n = (List.range (rowLineCount cells n)).map (fun l =>
      (List.range n).map (fun c => cellLineWS cells c l)) := by
  unfold ttRowLines rowLineCount
  have ht : cells.take (min cells.length n) = cells.take n := by
    rw [Nat.min_comm, ← List.take_eq_take_min]
  simp only [ht, foldl_ite_max List.length, List.map_map]
  have hc : (List.length ∘ fun (x : RCell) => x.lws) = (fun c => c.lws.length) := rfl
  rw [hc]
  apply List.map_congr_left
  intro l _
  apply List.map_congr_left
  intro c hcn
  have hcn' : c < n := by simpa using hcn
  unfold cellLineWS blankWS
  simp only [List.getElem?_map, List.getElem?_take, hcn', if_true]
  cases cells[c]? with
  | none => rfl
  | some cell =>
    simp only [Option.map_some, List.getD_eq_getElem?_getD]
    cases cell.lws[l]? <;> rfl

theorem cellLineWS_cases {P : WidthString → Prop} (cells : List RCell) (i k : Nat) (h0 : P blankWS)
    (h : ∀ c ∈ cells, ∀ x ∈ c.lws, P x) : P (cellLineWS cells i k) := by
  unfold cellLineWS
  cases hc : cells[i]? with
  | none => exact h0
  | some c =>
    show P (c.lws.getD k blankWS)
    rw [List.getD_eq_getElem?_getD]
    cases hx : c.lws[k]? with
    | none => exact h0
    | some x => exact h c (List.mem_of_getElem? hc) x (List.mem_of_getElem? hx)

theorem cellLineWS_nonneg (cells : List RCell) (h : ∀ c ∈ cells, ∀ x ∈ c.lws, 0 ≤ x.w) (i k : Nat) :
    0 ≤ (cellLineWS cells i k).w :=
  cellLineWS_cases (P := fun x => 0 ≤ x.w) cells i k (Int.le_refl 0) h

theorem cellLineWS_measured (dw : Measure) (cells : List RCell) (i k : Nat) (h0 : dw [] = 0)
    (hm : ∀ c ∈ cells, CellMeasured dw c) :
    (cellLineWS cells i k).w = ((dw (cellLineWS cells i k).s : Nat) : Int) :=
  cellLineWS_cases (P := fun x => x.w = ((dw x.s : Nat) : Int)) cells i k (by rw [blankWS, h0]; rfl) hm

theorem cellLineWS_fits (cells : List RCell) (i k : Nat) (c : RCell) (hc : cells[i]? = some c)
    (h0 : 0 ≤ c.cellWidth) (hf : ∀ x ∈ c.lws, x.w ≤ c.cellWidth) :
    (cellLineWS cells i k).w ≤ c.cellWidth := by
  unfold cellLineWS
  simp only [hc, List.getD_eq_getElem?_getD]
  cases hx : c.lws[k]? with
  | none => simpa [blankWS] using h0
  | some x => exact hf x (List.mem_of_getElem? hx)

theorem ttEmitRow_ok (L I R : Bytes) (cw aligns : List Nat) (cells : List RCell) (n : Nat)
    (hd : DivsOK L I R) (hn : 1 ≤ n) (hcw : cw.length = n)
    (hal : aligns.length = n) (hal3 : ∀ a ∈ aligns, a ≤ 3)
    (hnn : ∀ c ∈ cells, ∀ x ∈ c.lws, 0 ≤ x.w) :
    (ttEmitRow L I R cw aligns cells n).res = .ok () ∧
    (ttEmitRow L I R cw aligns cells n).chunks = rowChunks L I R cw aligns cells n := by
  have hne : cw ≠ [] := List.ne_nil_of_length_pos (hcw ▸ hn)
  have hline : ∀ k, renderedLine L I R cw ((List.range n).map (fun c => cellLineWS cells c k)) aligns
      = .ok (contentLine L I R (rowSlots cw aligns cells k)) := fun k =>
    renderedLine_divs L I R cw _ aligns (fun i => cellLineWS cells i k) hd hne
      (fun i hi => range_map_getElem? _ n i (by omega)) (by omega) hal3
      (fun i _ => cellLineWS_nonneg cells hnn i k)
  unfold ttEmitRow rowChunks
  rw [ttRowLines_eq, forM'_map]
  simp only [bind_eq, hline, bind'_lift_ok]
  rw [forM'_write]
  exact ⟨rfl, rfl⟩

/-! ### alignments -/

theorem effAlign_ok (v : RTable) (h : AlignOK v) (i : Nat) (hi : i < v.ncols) :
    (match v.colAlign.getD (i + 1) none with
      | some a => ttAligns.alignOf (some a)
      | none => ttAligns.alignOf (v.colAlign.getD 0 none)) = .ok (v.effAlign i) ∧ v.effAlign i ≤ 3 := by
  have raw : ∀ j, j ≤ v.ncols →
      ttAligns.alignOf (v.colAlign.getD j none) = .ok (alignNum (v.colAlign.getD j none)) ∧
      alignNum (v.colAlign.getD j none) ≤ 3 := by
    intro j hj
    rcases h j hj with h0 | ⟨a, ha, h0⟩
    · rw [h0]; exact ⟨rfl, Nat.zero_le 3⟩
    · rw [h0]; exact ⟨rfl, show a ≤ 3 by omega⟩
  have h1 := raw (i + 1) hi
  unfold RTable.effAlign
  cases hc : v.colAlign.getD (i + 1) none with
  | none => exact raw 0 (Nat.zero_le _)
  | some a => rw [hc] at h1; exact h1

theorem ttAligns_eq (v : RTable) (h : AlignOK v) : ttAligns v = .ok v.effAligns :=
  mapM_ok _ _ _ (fun i hi => (effAlign_ok v h i (List.mem_range.mp hi)).1)

theorem effAligns_le3 (v : RTable) (h : AlignOK v) : ∀ a ∈ v.effAligns, a ≤ 3 := by
  intro a ha
  obtain ⟨i, hi, rfl⟩ := List.mem_map.mp ha
  exact (effAlign_ok v h i (List.mem_range.mp hi)).2

theorem effAligns_length (v : RTable) : v.effAligns.length = v.ncols := by simp [RTable.effAligns]
theorem colWidths_length (v : RTable) : v.colWidths.length = v.ncols := by simp [RTable.colWidths]

/-! ### column widths -/

/-- one row widens the widths entry by entry -/
def widenBy : List Int → List RCell → List Int
  | ws, [] => ws
  | [], _ :: _ => []
  | w :: ws, c :: cs => max w c.cellWidth :: widenBy ws cs

theorem ttWidenRow_append (n : Nat) (cs : List RCell) (pre ws : List Int)
    (hn : pre.length + cs.length ≤ n) (hws : cs.length ≤ ws.length) :
    ttWidenRow n cs pre.length (pre ++ ws) = .ok (pre ++ widenBy ws cs) := by
  induction cs generalizing pre ws with
  | nil => unfold ttWidenRow widenBy; rfl
  | cons c cs ih =>
    cases ws with
    | nil => exact absurd hws (Nat.not_succ_le_zero _)
    | cons w ws =>
      have hset : (if c.cellWidth > w then (pre ++ w :: ws).set pre.length c.cellWidth else pre ++ w :: ws)
          = (pre ++ [max w c.cellWidth]) ++ ws := by
        rw [List.append_assoc]
        by_cases hgt : c.cellWidth > w
        · rw [if_pos hgt, Int.max_eq_right (Int.le_of_lt hgt), List.set_append_right _ _ (Nat.le_refl _),
            Nat.sub_self]
          rfl
        · rw [if_neg hgt, Int.max_eq_left (Int.not_lt.mp hgt)]
          rfl
      have ih' := ih (pre ++ [max w c.cellWidth]) ws
        (by rw [List.length_append, List.length_singleton, Nat.add_right_comm]; exact hn) (Nat.le_of_succ_le_succ hws)
      rw [List.length_append, List.length_singleton] at ih'
      unfold ttWidenRow
      rw [if_neg (Nat.not_lt.mpr (Nat.le_trans (Nat.le_add_right _ _) hn)), List.getElem?_append_right (Nat.le_refl _), Nat.sub_self,
        List.getElem?_cons_zero]
      simp only []
      rw [hset, ih', List.append_assoc]
      rfl

theorem widenBy_range_map (n : Nat) (f : Nat → Int) (cs : List RCell) (h : cs.length ≤ n) :
    widenBy ((List.range n).map f) cs
      = (List.range n).map (fun j => match cs[j]? with | some c => max (f j) c.cellWidth | none => f j) := by
  induction cs generalizing n f with
  | nil => unfold widenBy; rfl
  | cons c cs ih =>
    cases n with
    | zero => exact absurd h (Nat.not_succ_le_zero _)
    | succ n =>
      rw [List.range_succ_eq_map, List.map_cons, List.map_cons, List.map_map, List.map_map, widenBy,
        ih n _ (Nat.le_of_succ_le_succ h)]
      rfl
theorem ttWidenRows_eq (n : Nat) (rows : List (Option (List RCell))) (f : Nat → Int)
    (h : ∀ cells, some cells ∈ rows → cells.length ≤ n) :
    rows.foldlM (fun (ws : List Int) (r : Option (List RCell)) => match r with
      | none => (Except.ok ws : Except Stop (List Int))
      | some cells => ttWidenRow n cells 0 ws) ((List.range n).map f)
    = Except.ok ((List.range n).map (fun j =>
        (bodyColCells rows j).foldl (fun m c => max m c.cellWidth) (f j))) := by
  induction rows generalizing f with
  | nil => simp [bodyColCells]; rfl
  | cons r rows ih =>
    rw [List.foldlM_cons]
    have ih' := fun f => ih f (fun cells hc => h cells (by simp [hc]))
    cases r with
    | none =>
      show List.foldlM _ _ rows = _
      rw [ih']
      simp [bodyColCells]
    | some cells =>
      have hlen := h cells (by simp)
      show (ttWidenRow n cells 0 _ >>= fun ws => List.foldlM _ ws rows) = _
      have hrow : ttWidenRow n cells 0 ((List.range n).map f) = .ok (widenBy ((List.range n).map f) cells) :=
        ttWidenRow_append n cells [] _ (by rw [List.length_nil, Nat.zero_add]; exact hlen)
          (by rw [List.length_map, List.length_range]; exact hlen)
      rw [hrow, widenBy_range_map n f cells hlen]
      show List.foldlM _ _ rows = _
      rw [ih']
      congr 1
      apply List.map_congr_left
      intro j _
      simp only [bodyColCells, List.filterMap_cons, Option.bind_some]
      cases cells[j]? with
      | none => rfl
      | some c => rfl

theorem toNat_max (a b : Int) : (max a b).toNat = max a.toNat b.toNat := by
  by_cases h : a ≤ b
  · rw [Int.max_eq_right h, Nat.max_eq_right (Int.toNat_le_toNat h)]
  · have h' : b ≤ a := Int.le_of_lt (Int.not_le.mp h)
    rw [Int.max_eq_left h', Nat.max_eq_left (Int.toNat_le_toNat h')]

theorem toNat_foldl_max (cs : List RCell) (a : Int) :
    (cs.foldl (fun m c => max m c.cellWidth) a).toNat
      = (cs.map (fun c => c.cellWidth.toNat)).foldl max a.toNat := by
  induction cs generalizing a with
  | nil => rfl
  | cons c t ih => rw [List.foldl_cons, List.map_cons, List.foldl_cons, ih, toNat_max]

/-- C03 column widths at function level: no panic, and (after the `toNat` the emitter applies)
    exactly the spec widths. -/
theorem ttColumnWidths_eq (v : RTable) (h : WFShape v) :
    ∃ wsI, ttColumnWidths v = .ok wsI ∧ wsI.map Int.toNat = v.colWidths := by
  unfold ttColumnWidths
  simp only []
  refine ⟨_, ttWidenRows_eq v.ncols v.rows _ h.2, ?_⟩
  unfold RTable.colWidths
  rw [List.map_map]
  apply List.map_congr_left
  intro j _
  simp only [Function.comp, toNat_foldl_max]
  unfold RTable.colWidth RTable.colCells maxNat
  rw [List.map_append, List.foldl_append]
  show _ = List.foldl max _ (List.map (fun c => c.cellWidth.toNat) (bodyColCells v.rows j))
  congr 1
  cases v.header with
  | none => rfl
  | some hs =>
    simp only
    cases hs[j]? with
    | none => rfl
    | some c => simp

/-! ### assembly: `renderTextBody` writes exactly `specChunks` -/

/-- one body row of `renderTextBody` -/
def ttBodyRow (d : Decoration) (cw aligns : List Nat) (n : Nat) : Option (List RCell) → Emit Unit
  | none => write (lineSeparator d cw)
  | some cells => ttEmitRow d.vBodyBorder d.vBodyInner d.vBodyBorder cw aligns cells n

/-- `renderTextBody` once the column widths and alignments are known -/
def ttBody (d : Decoration) (cw aligns : List Nat) (n : Nat) (header : Option (List RCell))
    (rows : List (Option (List RCell))) : Emit Unit := do
  match header with
  | some hs => do
    write (lineHeaderTop d cw)
    ttEmitRow d.vHeader d.vHeader d.vHeader cw aligns hs n
    write (lineHeaderBodySep d cw)
  | none => write (lineBodyTop d cw)
  forM' rows (ttBodyRow d cw aligns n)
  write (lineBottom d cw)

theorem renderTextBody_def (d : Decoration) (v : RTable) :
    renderTextBody d v = bind' (lift (ttColumnWidths v)) (fun wsI =>
      bind' (lift (ttAligns v)) (fun aligns =>
        ttBody d (wsI.map Int.toNat) aligns v.ncols v.header v.rows)) := rfl

theorem renderTextBody_wf (d : Decoration) (v : RTable) (hs : WFShape v) (ha : AlignOK v) :
    renderTextBody d v = ttBody d v.colWidths v.effAligns v.ncols v.header v.rows := by
  obtain ⟨wsI, hws, hcw⟩ := ttColumnWidths_eq v hs
  rw [renderTextBody_def, hws, ttAligns_eq v ha, bind'_lift_ok, bind'_lift_ok, hcw]

theorem tt_bind_unit_ok {β : Type} {m : Emit Unit} (h : m.res = .ok ()) (f : Unit → Emit β) :
    bind' m f = ⟨m.chunks ++ (f ()).chunks, (f ()).res⟩ := by
  unfold bind'; rw [h]

theorem tt_emit_seq {m : Emit Unit} {f : Unit → Emit Unit} {c1 c2 : List Bytes}
    (h1 : m.res = .ok () ∧ m.chunks = c1) (h2 : (f ()).res = .ok () ∧ (f ()).chunks = c2) :
    (bind' m f).res = .ok () ∧ (bind' m f).chunks = c1 ++ c2 := by
  rw [tt_bind_unit_ok h1.1]; exact ⟨h2.1, by rw [h1.2, h2.2]⟩

theorem tt_emit_write_seq (b : Bytes) {f : Unit → Emit Unit} {c2 : List Bytes}
    (h2 : (f ()).res = .ok () ∧ (f ()).chunks = c2) :
    (bind' (write b) f).res = .ok () ∧ (bind' (write b) f).chunks = b :: c2 := by
  rw [bind'_write]; exact ⟨h2.1, by rw [h2.2]⟩

theorem tt_forM_ok_chunks {α : Type} (xs : List α) (body : α → Emit Unit) (g : α → List Bytes)
    (h : ∀ x ∈ xs, (body x).res = .ok () ∧ (body x).chunks = g x) :
    (forM' xs body).res = .ok () ∧ (forM' xs body).chunks = xs.flatMap g := by
  have := forM'_ok xs body (fun x hx => (h x hx).1)
  refine ⟨this.1, ?_⟩
  rw [this.2]
  clear this
  induction xs with
  | nil => rfl
  | cons x t ih =>
    simp only [List.flatMap_cons]
    rw [(h x (by simp)).2, ih (fun y hy => h y (by simp [hy]))]

theorem ttBody_ok (d : Decoration) (cw aligns : List Nat) (n : Nat) (header : Option (List RCell))
    (rows : List (Option (List RCell))) (rc : Bytes → Bytes → Bytes → List RCell → List Bytes)
    (hh : ∀ hs, header = some hs →
      (ttEmitRow d.vHeader d.vHeader d.vHeader cw aligns hs n).res = .ok () ∧
      (ttEmitRow d.vHeader d.vHeader d.vHeader cw aligns hs n).chunks = rc d.vHeader d.vHeader d.vHeader hs)
    (hb : ∀ cells, some cells ∈ rows →
      (ttEmitRow d.vBodyBorder d.vBodyInner d.vBodyBorder cw aligns cells n).res = .ok () ∧
      (ttEmitRow d.vBodyBorder d.vBodyInner d.vBodyBorder cw aligns cells n).chunks
        = rc d.vBodyBorder d.vBodyInner d.vBodyBorder cells) :
    (ttBody d cw aligns n header rows).res = .ok () ∧
    (ttBody d cw aligns n header rows).chunks =
      (match (generalizing := false) header with
       | some hs => lineHeaderTop d cw :: (rc d.vHeader d.vHeader d.vHeader hs ++ [lineHeaderBodySep d cw])
       | none => [lineBodyTop d cw]) ++
      rows.flatMap (fun r => match r with
        | none => [lineSeparator d cw]
        | some cells => rc d.vBodyBorder d.vBodyInner d.vBodyBorder cells) ++
      [lineBottom d cw] := by
  have hrows := tt_forM_ok_chunks rows (ttBodyRow d cw aligns n)
    (fun r => match r with
      | none => [lineSeparator d cw]
      | some cells => rc d.vBodyBorder d.vBodyInner d.vBodyBorder cells)
    (fun r hr => by
      cases r with
      | none => exact ⟨rfl, rfl⟩
      | some cells => exact hb cells hr)
  unfold ttBody
  cases header with
  | none =>
    simp only [bind_eq, List.cons_append, List.nil_append]
    exact tt_emit_write_seq _ (tt_emit_seq (c2 := [lineBottom d cw]) hrows ⟨rfl, rfl⟩)
  | some hs =>
    simp only [bind_eq, List.cons_append, List.append_assoc]
    exact tt_emit_write_seq _ (tt_emit_seq (hh hs rfl) (tt_emit_write_seq _ (tt_emit_seq (c2 := [lineBottom d cw]) hrows ⟨rfl, rfl⟩)))

theorem mem_allCells (v : RTable) (cells : List RCell) (c : RCell)
    (hrow : v.header = some cells ∨ some cells ∈ v.rows) (hc : c ∈ cells) : c ∈ v.allCells := by
  unfold RTable.allCells
  rcases hrow with h | h
  · apply List.mem_append_left; rw [h]; exact hc
  · apply List.mem_append_right; exact List.mem_flatMap.mpr ⟨some cells, h, hc⟩

theorem renderTextBody_eq (d : Decoration) (v : RTable) (hn : 1 ≤ v.ncols) (hs : WFShape v) (ha : AlignOK v)
    (hdh : DivsOK d.vHeader d.vHeader d.vHeader) (hdb : DivsOK d.vBodyBorder d.vBodyInner d.vBodyBorder)
    (hnn : ∀ c ∈ v.allCells, ∀ x ∈ c.lws, 0 ≤ x.w) :
    (renderTextBody d v).res = .ok () ∧ (renderTextBody d v).chunks = specChunks d v := by
  have hrow : ∀ cells, (v.header = some cells ∨ some cells ∈ v.rows) → ∀ L I R, DivsOK L I R →
      (ttEmitRow L I R v.colWidths v.effAligns cells v.ncols).res = .ok () ∧
      (ttEmitRow L I R v.colWidths v.effAligns cells v.ncols).chunks
        = rowChunks L I R v.colWidths v.effAligns cells v.ncols := fun cells hc L I R hd =>
    ttEmitRow_ok L I R _ _ cells v.ncols hd hn (colWidths_length v) (effAligns_length v)
      (effAligns_le3 v ha) (fun c hcm => hnn c (mem_allCells v cells c hc hcm))
  rw [renderTextBody_wf d v hs ha]
  exact ttBody_ok d _ _ _ _ _ (fun L I R cells => rowChunks L I R v.colWidths v.effAligns cells v.ncols)
    (fun hs' hh => hrow hs' (Or.inl hh) _ _ _ hdh) (fun cells hr => hrow cells (Or.inr hr) _ _ _ hdb)

end Tab
