/-
  The invariant read back on worlds (`Inv w = SInv w.shape`), and the render view
  (`view`) under it.
-/
import Tabmodel.Proofs.WorldCols
import Tabmodel.Model.View
import Tabmodel.Spec.Shape
namespace Tab
namespace Inv
open World

theorem cols {w : World} (h : Inv w) (t : Nat) : (w.table t).columns.length = (w.table t).nColumns + 1 := by
  have := Shape.SInv.cols h t
  rwa [shape_table_nColRecs, shape_table_nColumns] at this

theorem rowsLt {w : World} (h : Inv w) (t r : Nat) (hm : r ∈ (w.table t).rows) : r < w.rows.length := by
  have := Shape.SInv.rowsLt h t r (by rw [shape_table_rows]; exact hm)
  simpa using this

theorem hdrLt {w : World} (h : Inv w) (t hd : Nat) (hh : (w.table t).header = some hd) : hd < w.rows.length := by
  have := Shape.SInv.hdrLt h t hd (by rw [shape_table_header]; exact hh)
  simpa using this

theorem att {w : World} (h : Inv w) (t i r : Nat) (hi : (w.table t).rows[i]? = some r) :
    (w.row r).inTable = some t ∧ (w.row r).rowNum = i + 1 := by
  have := Shape.SInv.att h t i r (by rw [shape_table_rows]; exact hi)
  rwa [shape_row_inTable, shape_row_rowNum] at this

theorem back {w : World} (h : Inv w) (r t : Nat) (hi : (w.row r).inTable = some t) : r ∈ (w.table t).rows := by
  have := Shape.SInv.back h r t (by rw [shape_row_inTable]; exact hi)
  rwa [shape_table_rows] at this

theorem hdrFree {w : World} (h : Inv w) (t hd : Nat) (hh : (w.table t).header = some hd) :
    (w.row hd).inTable = none := by
  have := Shape.SInv.hdrFree h t hd (by rw [shape_table_header]; exact hh)
  rwa [shape_row_inTable] at this

theorem wid {w : World} (h : Inv w) (t r : Nat) (hm : r ∈ (w.table t).rows) :
    (w.rowCells r).length ≤ (w.table t).nColumns := by
  have := Shape.SInv.wid h t r (by rw [shape_table_rows]; exact hm)
  rwa [shape_width, shape_table_nColumns] at this

theorem hwid {w : World} (h : Inv w) (t hd : Nat) (hh : (w.table t).header = some hd) :
    (w.rowCells hd).length ≤ (w.table t).nColumns := by
  have := Shape.SInv.hwid h t hd (by rw [shape_table_header]; exact hh)
  rwa [shape_width, shape_table_nColumns] at this

theorem geo {w : World} (h : Inv w) (r : Nat) (cs : List Cell) (j : Nat) (ce : Cell)
    (hc : (w.row r).cells = some cs) (hj : cs[j]? = some ce) :
    ce.columnNum = j + 1 ∧ ce.inRow = some r := by
  have := Shape.SInv.geo h r (cs.map Cell.geo) j ce.geo
    (by rw [shape_row_cells, hc]; rfl) (by rw [List.getElem?_map, hj]; rfl)
  unfold Cell.geo at this
  exact ⟨congrArg Prod.fst this, congrArg Prod.snd this⟩

theorem sep {w : World} (h : Inv w) (r : Nat) (hs : (w.row r).isSep = true) : (w.row r).cells = none := by
  have := Shape.SInv.sep h r (by rw [shape_row_isSep]; exact hs)
  rw [shape_row_cells] at this
  cases hc : (w.row r).cells with
  | none => rfl
  | some cs => rw [hc] at this; cases this

end Inv

theorem view_wf {w : World} (h : Inv w) (t : Nat) :
    WFShape (w.view t) ∧ (w.view t).colAlign.length = (w.view t).ncols + 1 ∧
      (w.view t).colSkip.length = (w.view t).ncols + 1 := by
  refine ⟨⟨?_, ?_⟩, ?_, ?_⟩
  · intro hs hh
    simp only [World.view] at hh ⊢
    cases hd : (w.table t).header with
    | none => rw [hd] at hh; cases hh
    | some hr =>
      rw [hd] at hh
      simp only [Option.map_some, Option.some.injEq] at hh
      subst hh
      rw [List.length_map]
      exact h.hwid t hr hd
  · intro cs hm
    simp only [World.view] at hm ⊢
    rw [List.mem_map] at hm
    obtain ⟨r, hr, he⟩ := hm
    split at he
    · cases he
    · simp only [Option.some.injEq] at he
      subst he
      rw [List.length_map]
      exact h.wid t r hr
  · simp only [World.view, List.length_map]; exact h.cols t
  · simp only [World.view, List.length_map]; exact h.cols t

theorem inv_of_shape_eq {w w' : World} (h : Inv w) (e : w'.shape = w.shape) : Inv w' := by
  unfold Inv; rw [e]; exact h

theorem inv_init : Inv ({} : World) := Shape.sinv_init

theorem inv_step (dw : Measure) {w : World} (hinv : Inv w) (op : BuildOp)
    (hok : w.shape.ok op = true) : Inv (applyOp dw w op) := by
  unfold Inv; rw [shape_applyOp]; exact Shape.SInv.step hinv op hok

theorem rows_length_step (dw : Measure) (w : World) (op : BuildOp) :
    (applyOp dw w op).rows.length = w.rows.length + op.newRows := by
  have := Shape.step_rows_length w.shape op
  rwa [← shape_applyOp dw, World.shape_rows_length, World.shape_rows_length] at this

end Tab
