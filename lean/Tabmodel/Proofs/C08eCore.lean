/-
  The view the Markdown renderer reads (AFTER its callbacks pass), for `Props/E2Ecb.lean`, `Props/C08e.lean` and
  `Props/C08eH.lean`: what it shows of the table in a world satisfying the structural invariant (`postView_inv`);
  `c08_cells` transported from it to the view of the world BEFORE the pass; the post-pass alignments as last
  writes; the delimiter line of any `MdOK` view (`c08_delim` with `c08_control_cell`) and
  the domain of its effective alignments.

  Imports nothing that depends on `Spec/Json.lean`, so that it can be used both next to
  `Props/E2Ecb.lean` and next to `Props/C12h.lean` (which cannot be imported together).
-/
import Tabmodel.Props.C08
import Tabmodel.Props.C02
import Tabmodel.Proofs.E2EcbView
import Tabmodel.Proofs.E2EDefs
import Tabmodel.Proofs.C09hTotal
namespace Tab
namespace C08e
open World E2Ecb

theorem filterMap_id_map_map {α β : Type} (f : α → β) (l : List (Option α)) :
    (l.map (·.map f)).filterMap id = (l.filterMap id).map f := by
  induction l with
  | nil => rfl
  | cons a l ih =>
    cases a with
    | none => simpa using ih
    | some x => simpa using ih

theorem bodyRows_content {rs' rs : List (Option (List RCell))}
    (hr : rs'.map (·.map (·.map RCell.content)) = rs.map (·.map (·.map RCell.content))) :
    (rs'.filterMap id).map (·.map RCell.content) = (rs.filterMap id).map (·.map RCell.content) := by
  rw [← filterMap_id_map_map, ← filterMap_id_map_map, hr]

theorem text_of_content {c' c : RCell} (h : c'.content = c.content) : c'.text = c.text :=
  congrArg Prod.fst h

/-- `c08_cells` for the rendered view `v'`, read against ANY view `v` with the same column count and
    the same cell contents (in particular the view before the callbacks pass). -/
theorem cells_of_content_views (dw : Measure) (v v' : RTable) (hn : v'.ncols = v.ncols)
    (hh : v'.header.map (·.map RCell.content) = v.header.map (·.map RCell.content))
    (hr : v'.rows.map (·.map (·.map RCell.content)) = v.rows.map (·.map (·.map RCell.content)))
    (hmd : MdOK v') (hs : List RCell) (hhs : v.header = some hs)
    (k : Nat) (cells : List RCell) (hk : (hs :: bodyRows v)[k]? = some cells) :
    ∃ line, (lines (renderMarkdown dw v').output)[if k = 0 then 0 else k + 1]? = some line ∧
      (∀ j c, cells[j]? = some c →
        ∃ e l r, (splitPipes line)[j + 1]? = some e ∧
          e = spaces (l + 1) ++ mdEscape c.text ++ spaces (r + 1) ∧
          mdDecode (trimSp e) = trimSp c.text) ∧
      (∀ j, cells.length ≤ j → j < v.ncols → (splitPipes line)[j + 1]? = some [32]) := by
  -- the header and the source row of the rendered view
  rw [hhs, Option.map_some] at hh
  obtain ⟨hs', hhs', hcs⟩ := Option.map_eq_some_iff.mp hh
  have hall : (hs' :: bodyRows v').map (·.map RCell.content) = (hs :: bodyRows v).map (·.map RCell.content) := by
    rw [List.map_cons, List.map_cons, hcs]
    exact congrArg _ (bodyRows_content hr)
  have hk' := congrArg (·[k]?) hall
  simp only [List.getElem?_map, hk, Option.map_some] at hk'
  obtain ⟨cells', hk', hcc⟩ := Option.map_eq_some_iff.mp hk'
  have hlen : cells'.length = cells.length := by simpa using congrArg List.length hcc
  obtain ⟨line, hline, hcell, hpad⟩ := c08_cells dw v' hmd hs' hhs' k cells' hk'
  refine ⟨line, hline, fun j c hc => ?_, fun j h1 h2 => hpad j (by rw [hlen]; exact h1) (by rw [hn]; exact h2)⟩
  -- cell `j` of that row has the text of `c`
  have hj := cells_of_content hcc j
  rw [hc, Option.map_some] at hj
  obtain ⟨c', h', hj⟩ := Option.map_eq_some_iff.mp hj
  obtain ⟨e, l, r, h1, h2, h3⟩ := hcell j c' h'
  rw [text_of_content hj] at h2 h3
  exact ⟨e, l, r, h1, h2, h3⟩

/-- the Markdown render of any world is `renderMarkdown` of the view after its own pass, and cells
    read back against the view BEFORE the pass -/
theorem cells_world (x : Ext) (w : World) (wr : Wrapper) (hk : wr.kind = .markdown)
    (hmd : MdOK ((invokeRenderCallbacks x.dw w wr.core).view wr.core))
    (hs : List RCell) (hhs : (w.view wr.core).header = some hs)
    (k : Nat) (cells : List RCell) (hkk : (hs :: bodyRows (w.view wr.core))[k]? = some cells) :
    ∃ line, (lines (w.renderTo x wr).2.output)[if k = 0 then 0 else k + 1]? = some line ∧
      (∀ j c, cells[j]? = some c →
        ∃ e l r, (splitPipes line)[j + 1]? = some e ∧
          e = spaces (l + 1) ++ mdEscape c.text ++ spaces (r + 1) ∧
          mdDecode (trimSp e) = trimSp c.text) ∧
      (∀ j, cells.length ≤ j → j < (w.view wr.core).ncols → (splitPipes line)[j + 1]? = some [32]) := by
  obtain ⟨hn, hh, hr⟩ := irc_view_content x.dw w wr.core wr.core
  rw [renderTo_markdown x w wr hk]
  exact cells_of_content_views x.dw _ _ hn hh hr hmd hs hhs k cells hkk

/-- what the view after the pass shows of a table, in any world satisfying the structural invariant (every
    valid history: `c02_inv_run`), alignments in their domain: the table's column count and header, a
    well-formed shape, alignments the Markdown renderer accepts -/
theorem postView_inv (dw : Measure) {w : World} (hinv : Inv w) (t : Nat) (ht : t < w.tables.length)
    (ha : AlignOK ((invokeRenderCallbacks dw w t).view t)) :
    ((invokeRenderCallbacks dw w t).view t).ncols = (w.table t).nColumns ∧
    ((invokeRenderCallbacks dw w t).view t).header.isSome = (w.table t).header.isSome ∧
    WFShape ((invokeRenderCallbacks dw w t).view t) ∧ AlignsOK ((invokeRenderCallbacks dw w t).view t) := by
  obtain ⟨_, hwf, hlen, _⟩ := c02_view_wf_after_callbacks dw hinv t ht
  refine ⟨(irc_view_content dw w t t).1, ?_, hwf, alignsOK_of_alignOK _ hlen ha⟩
  rw [view_header_isSome, of_core_eq (fun w => (w.table t).header) (rd_header t) (irc_core dw w t)]

/-- hence `MdOK` of that view, for a table with a header and a column -/
theorem mdOK_inv (dw : Measure) {w : World} (hinv : Inv w) (t : Nat) (ht : t < w.tables.length)
    (ha : AlignOK ((invokeRenderCallbacks dw w t).view t))
    (hh : (w.table t).header.isSome = true) (hn : 1 ≤ (w.table t).nColumns) :
    MdOK ((invokeRenderCallbacks dw w t).view t) := by
  obtain ⟨hnc, hhc, hwf, hal⟩ := postView_inv dw hinv t ht ha
  exact ⟨by rw [hnc]; exact hn, by rw [hhc]; exact hh, hwf, hal⟩

theorem colAlign_getD_last_writer (dw : Measure) (w : World) (t : Nat)
    (hnd : ∀ c ∈ (w.table t).columns, c.props.keys.Nodup) (n : Nat) :
    ((invokeRenderCallbacks dw w t).view t).colAlign.getD n none =
      ((w.table t).columns[n]?).bind (fun c =>
        lastWrite .align (c.selfCbs.pre ++ c.selfCbs.post) (c.props.get .align)) := by
  rw [view_colAlign, irc_colGet, List.getD_eq_getElem?_getD, List.getElem?_map]
  cases h : (w.table t).columns[n]? with
  | none => rfl
  | some c => exact get_foldl_applyChain _ _ _ (hnd c (List.mem_of_getElem? h))

/-- the delimiter line of the Markdown render of a view: cell `i` is the control cell of the column's
    effective alignment, at least three dashes between its marker bytes -/
theorem delim_view (dw : Measure) (v : RTable) (hmd : MdOK v) (i : Nat) (hi : i < v.ncols) :
    ∃ (line : Bytes) (l r nd : Nat),
      (lines (renderMarkdown dw v).output)[1]? = some line ∧
      (splitPipes line)[i + 1]? =
        some (spaces l ++ mdControlCell (mdColWidth v i) (effAlignNat v i) ++ spaces r) ∧
      (mdColWidth v i ≤ (dw (mdControlCell (mdColWidth v i) (effAlignNat v i)) : Nat) → l = 0 ∧ r = 0) ∧
      3 ≤ nd ∧ mdColWidth v i ≤ (nd : Int) ∧
      mdControlCell (mdColWidth v i) (effAlignNat v i) =
        (mdMarkers (effAlignNat v i)).1 :: List.replicate nd 45 ++ [(mdMarkers (effAlignNat v i)).2] := by
  obtain ⟨line, l, r, h1, h2, h3⟩ := c08_delim dw v hmd i hi
  obtain ⟨nd, h4, h5, h6⟩ := c08_control_cell (mdColWidth v i) (effAlignNat v i)
  exact ⟨line, l, r, nd, h1, h2, h3, h4, h5, h6⟩

/-- the effective alignment of a column of an `AlignOK` view is unset, left, right or centre -/
theorem effAlignNat_domain (v : RTable) (ha : AlignOK v) (i : Nat) (hi : i < v.ncols) :
    effAlignNat v i = 0 ∨ effAlignNat v i = 1 ∨ effAlignNat v i = 2 ∨ effAlignNat v i = 3 := by
  unfold effAlignNat effAlign
  rcases ha (i + 1) hi with h1 | ⟨a, ha1, h1⟩
  · rw [h1]
    rcases ha 0 (Nat.zero_le _) with h0 | ⟨b, hb, h0⟩
    · rw [h0]; exact Or.inl rfl
    · rw [h0]; simp only; omega
  · rw [h1]; simp only; omega

theorem bodyRows_view (w : World) (t : Nat) :
    bodyRows (w.view t) =
      ((w.table t).rows.filter (fun r => !(w.row r).isSep)).map (fun r => (w.rowCells r).map w.rcell) := by
  unfold bodyRows World.view
  simp only
  induction (w.table t).rows with
  | nil => rfl
  | cons r rs ih =>
    simp only [List.map_cons, List.filterMap_cons, List.filter_cons]
    cases (w.row r).isSep with
    | true => simpa using ih
    | false => simpa using ih

theorem srcRows_view (w : World) (t hr : Nat) (hh : (w.table t).header = some hr) :
    (w.view t).header = some ((w.rowCells hr).map w.rcell) ∧
    ((w.rowCells hr).map w.rcell :: bodyRows (w.view t)) =
      (hr :: (w.table t).rows.filter (fun r => !(w.row r).isSep)).map (fun r => (w.rowCells r).map w.rcell) := by
  refine ⟨?_, by rw [bodyRows_view]; rfl⟩
  unfold World.view
  simp only [hh, Option.map_some]

end C08e
end Tab
