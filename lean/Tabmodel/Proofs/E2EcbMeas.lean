/-
  The MEASURED fields of the view after a pass with arbitrary user callbacks that name no private key
  (`UserKeysOnly`, Proofs/StableTraverse.lean).  Whatever else the callbacks set, log or fail, every cell
  the pass visits ends with the measured values under the private keys of the measuring callback(s)
  registered on the table's cells (`measAll_irc_cb`), so the masked view is `canonView` of the world
  BEFORE the pass, with the column properties of the world AFTER it; and each cell of that view comes
  from a cell of the world before the pass.
-/
import Tabmodel.Proofs.E2EcbView
import Tabmodel.Proofs.E2EDefs
import Tabmodel.Proofs.TextDims
namespace Tab
namespace E2Ecb
open World

/-! ### the masked view after the pass -/

theorem canonCell_core (dw : Measure) (tt md : Bool) (w : World) (c : Cell) :
    canonCell dw tt md w.core c.core = canonCell dw tt md w c := rfl

theorem view_measured_cb (dw : Measure) (tt md : Bool) (w : World) (t : Nat) (hU : w.UserKeysOnly t)
    (htt : tt = true → Cb.dimSetter ∈ (w.table t).cellCbs.render)
    (hmd : md = true → Cb.widthSetter ∈ (w.table t).cellCbs.render) :
    ((invokeRenderCallbacks dw w t).view t).mapCells (RCell.mask tt md) =
      (canonView dw tt md w t).withCols ((invokeRenderCallbacks dw w t).view t).colAlign
        ((invokeRenderCallbacks dw w t).view t).colSkip :=
  view_mask_of_core dw tt md (irc_core dw w t) t (measAll_irc_cb dw tt md w t hU htt hmd)

/-! ### cells after the pass come from cells before it -/

theorem irc_cell_src_cb (dw : Measure) (w : World) (t : Nat) (r : Nat) (ce' : Cell)
    (h : ce' ∈ (invokeRenderCallbacks dw w t).rowCells r) : ∃ ce ∈ w.rowCells r, ce.core = ce'.core := by
  have hm : ce'.core ∈ ((invokeRenderCallbacks dw w t).rowCells r).map Cell.core :=
    List.mem_map.mpr ⟨ce', h, rfl⟩
  rw [← core_rowCells, irc_core dw w t, core_rowCells] at hm
  obtain ⟨ce, hce, e⟩ := List.mem_map.mp hm
  exact ⟨ce, hce, e⟩

theorem core_eq_fields {a b : Cell} (h : a.core = b.core) :
    a.item = b.item ∧ a.str = b.str ∧ a.width = b.width ∧ a.height = b.height ∧ a.empty = b.empty := by
  have h1 := congrArg Cell.item h
  have h2 := congrArg Cell.str h
  have h3 := congrArg Cell.width h
  have h4 := congrArg Cell.height h
  have h5 := congrArg Cell.empty h
  exact ⟨h1, h2, h3, h4, h5⟩

theorem cell_measured_cb (dw : Measure) (w : World) (t : Nat) (hU : w.UserKeysOnly t)
    (hcb : Cb.dimSetter ∈ (w.table t).cellCbs.render) (c : RCell)
    (hc : c ∈ ((invokeRenderCallbacks dw w t).view t).allCells) :
    ∃ r ∈ passRows w t,
      ∃ ce' ∈ (invokeRenderCallbacks dw w t).rowCells r, c = (invokeRenderCallbacks dw w t).rcell ce' ∧
        ce'.props.get .ttDims = some (dimProps dw ((invokeRenderCallbacks dw w t).item ce'.item) ce').1 ∧
        ce'.props.get .ttLines = some (dimProps dw ((invokeRenderCallbacks dw w t).item ce'.item) ce').2 := by
  obtain ⟨r, hr, ce', hce', e⟩ := mem_allCells_view _ t c hc
  have hM := measAll_irc_cb dw true false w t hU (fun _ => hcb) (fun h => Bool.noConfusion h) r hr ce' hce'
  have hr' : r ∈ passRows w t := by rw [← passRows_core (irc_core dw w t) t]; exact hr
  exact ⟨r, hr', ce', hce', e, (hM.1 rfl).1, (hM.1 rfl).2⟩

theorem cellOK_cb (dw : Measure) (w : World) (t : Nat) (hU : w.UserKeysOnly t)
    (hcb : Cb.dimSetter ∈ (w.table t).cellCbs.render) :
    ∀ c ∈ ((invokeRenderCallbacks dw w t).view t).allCells, Tab.CellOK dw c := by
  intro c hc
  obtain ⟨r, _, ce', _, e, h1, h2⟩ := cell_measured_cb dw w t hU hcb c hc
  rw [e]
  exact rcell_cellOK dw _ _ ce' h1 h2

theorem cell_src_cb (dw : Measure) (w : World) (t : Nat) (hU : w.UserKeysOnly t)
    (hcb : Cb.dimSetter ∈ (w.table t).cellCbs.render) (c : RCell)
    (hc : c ∈ ((invokeRenderCallbacks dw w t).view t).allCells) :
    ∃ r ∈ (w.table t).header.toList ++ (w.table t).rows, ∃ ce ∈ w.rowCells r,
      c.text = ce.str ∧ c.empty = ce.empty ∧ c.cellWidth = ce.termWidth := by
  obtain ⟨r, hr, ce', hce', e, h1, _⟩ := cell_measured_cb dw w t hU hcb c hc
  obtain ⟨ce, hce, hee⟩ := irc_cell_src_cb dw w t r ce' hce'
  obtain ⟨_, f2, f3, _, f5⟩ := core_eq_fields hee
  refine ⟨r, hr, ce, hce, ?_, ?_, ?_⟩
  · rw [e]; exact f2.symm
  · rw [e]; exact f5.symm
  · rw [e]
    have : ((invokeRenderCallbacks dw w t).rcell ce').cellWidth = ce'.termWidth := by
      unfold World.rcell; rw [h1, dimProps_eq]
    rw [this]
    unfold Cell.termWidth
    rw [f3]

theorem fitsSrc_of_core_eq {dw : Measure} {it : Item} {a b : Cell} (h : a.core = b.core)
    (hf : Cell.FitsSrc dw it a) : Cell.FitsSrc dw it b := by
  obtain ⟨_, h2, h3, _, _⟩ := core_eq_fields h
  unfold Cell.FitsSrc Cell.lines at hf ⊢
  rw [← h2, ← h3]
  exact hf

theorem viewOK_cb (dw : Measure) (w : World) (t : Nat) (hU : w.UserKeysOnly t)
    (hcb : Cb.dimSetter ∈ (w.table t).cellCbs.render) (hF : TableFits dw w t) :
    ViewOK dw ((invokeRenderCallbacks dw w t).view t) := by
  intro c hc
  obtain ⟨r, hr, ce', hce', e, h1, h2⟩ := cell_measured_cb dw w t hU hcb c hc
  obtain ⟨ce, hce, hee⟩ := irc_cell_src_cb dw w t r ce' hce'
  have hit : ∀ i, (invokeRenderCallbacks dw w t).item i = w.item i := by
    intro i; unfold World.item; rw [irc_items]
  have hfit : Cell.FitsSrc dw ((invokeRenderCallbacks dw w t).item ce'.item) ce' := by
    rw [hit, ← (core_eq_fields hee).1]
    exact fitsSrc_of_core_eq hee (hF r hr ce hce)
  rw [e]
  refine ⟨rcell_cellOK dw _ _ ce' h1 h2, ?_⟩
  obtain ⟨e1, e2⟩ := rcell_dims_lws dw (invokeRenderCallbacks dw w t) _ ce' h1 h2
  rcases hfit with ⟨_, hb⟩ | ⟨ha, hb⟩
  · exact dimProps_fits_measured dw _ ce' _ _ e1 e2 hb
  · exact dimProps_fits_single_declared dw _ ce' _ _ e1 e2 ha hb

end E2Ecb
end Tab
