/- `bytesLt` decides the lexicographic order of `List UInt8`, a strict total order (core's);
   `sortBytes`, an insertion sort, yields the sorted permutation of its input. -/
import Tabmodel.Model.Registry
import Tabmodel.Proofs.Literals
namespace Tab

namespace Registry

@[simp] theorem bytesLt_nil_nil : bytesLt [] [] = false := rfl
@[simp] theorem bytesLt_nil_cons (b : UInt8) (bs : Bytes) : bytesLt [] (b :: bs) = true := rfl
@[simp] theorem bytesLt_cons_nil (a : UInt8) (as : Bytes) : bytesLt (a :: as) [] = false := rfl
theorem bytesLt_cons_cons (a b : UInt8) (as bs : Bytes) :
    bytesLt (a :: as) (b :: bs) = if a < b then true else if b < a then false else bytesLt as bs := rfl

theorem bytesLt_iff_lt {a b : Bytes} : bytesLt a b = true ↔ a < b := by
  fun_induction bytesLt a b with
  | case1 => simp
  | case2 => simp
  | case3 => simp
  | case4 a as b bs hab => simp [List.cons_lt_cons_iff, hab]
  | case5 a as b bs hab hba => simp [List.cons_lt_cons_iff, hab, (UInt8.ne_of_lt hba).symm]
  | case6 a as b bs hab hba ih =>
    have e : a = b := UInt8.le_antisymm (UInt8.not_lt.mp hba) (UInt8.not_lt.mp hab)
    simp [e, ih]

abbrev BLe (a b : Bytes) : Prop := bytesLt b a = false
abbrev BLt (a b : Bytes) : Prop := bytesLt a b = true

theorem BLe.iff_le {a b : Bytes} : BLe a b ↔ a ≤ b := by
  rw [← List.not_lt, ← bytesLt_iff_lt, Bool.not_eq_true]

theorem bytesLt_irrefl (a : Bytes) : bytesLt a a = false :=
  BLe.iff_le.mpr (List.le_refl a)

theorem bytesLt_trans {a b c : Bytes} (h1 : bytesLt a b = true) (h2 : bytesLt b c = true) :
    bytesLt a c = true :=
  bytesLt_iff_lt.mpr (List.lt_trans (bytesLt_iff_lt.mp h1) (bytesLt_iff_lt.mp h2))

theorem bytesLt_trichotomy (a b : Bytes) : bytesLt a b = true ∨ a = b ∨ bytesLt b a = true := by
  rw [bytesLt_iff_lt, bytesLt_iff_lt]
  by_cases h : b < a
  · exact .inr (.inr h)
  · exact (List.le_iff_lt_or_eq.mp (List.not_lt.mp h)).elim .inl (fun e => .inr (.inl e))

theorem BLe.of_lt {a b : Bytes} (h : BLt a b) : BLe a b :=
  BLe.iff_le.mpr (List.le_of_lt (bytesLt_iff_lt.mp h))

theorem BLe.trans {a b c : Bytes} (h1 : BLe a b) (h2 : BLe b c) : BLe a c :=
  BLe.iff_le.mpr (List.le_trans (BLe.iff_le.mp h1) (BLe.iff_le.mp h2))

theorem BLe.antisymm {a b : Bytes} (h1 : BLe a b) (h2 : BLe b a) : a = b :=
  List.le_antisymm (BLe.iff_le.mp h1) (BLe.iff_le.mp h2)

theorem BLt.of_le_of_ne {a b : Bytes} (h : BLe a b) (hne : a ≠ b) : BLt a b :=
  (List.le_iff_lt_or_eq.mp (BLe.iff_le.mp h)).elim bytesLt_iff_lt.mpr (absurd · hne)

theorem BLt.ne {a b : Bytes} (h : BLt a b) : a ≠ b :=
  fun e => List.lt_irrefl b (bytesLt_iff_lt.mp (e ▸ h))

theorem insertSorted_perm (x : Bytes) (l : List Bytes) : (insertSorted x l).Perm (x :: l) := by
  fun_induction insertSorted x l with
  | case1 => exact List.Perm.refl _
  | case2 y ys hlt ih => exact (List.Perm.cons y ih).trans (List.Perm.swap x y ys)
  | case3 y ys hnlt => exact List.Perm.refl _

theorem sortBytes_nil : sortBytes [] = [] := rfl
theorem sortBytes_cons (x : Bytes) (l : List Bytes) : sortBytes (x :: l) = insertSorted x (sortBytes l) := rfl

theorem sortBytes_perm (l : List Bytes) : (sortBytes l).Perm l := by
  induction l with
  | nil => exact List.Perm.refl _
  | cons x xs ih =>
    rw [sortBytes_cons]
    exact (insertSorted_perm x _).trans (List.Perm.cons x ih)

theorem mem_sortBytes {l : List Bytes} {x : Bytes} : x ∈ sortBytes l ↔ x ∈ l :=
  (sortBytes_perm l).mem_iff

theorem insertSorted_sorted (x : Bytes) (l : List Bytes) (h : l.Pairwise BLe) :
    (insertSorted x l).Pairwise BLe := by
  fun_induction insertSorted x l with
  | case1 => exact List.pairwise_singleton _ _
  | case2 y ys hlt ih =>
    refine List.Pairwise.cons (fun z hz => ?_) (ih (List.Pairwise.of_cons h))
    rcases List.mem_cons.mp ((insertSorted_perm x ys).mem_iff.mp hz) with rfl | hz
    · exact BLe.of_lt hlt
    · exact List.rel_of_pairwise_cons h hz
  | case3 y ys hnlt =>
    have hxy : BLe x y := Bool.eq_false_iff.mpr hnlt
    refine List.Pairwise.cons (fun z hz => ?_) h
    rcases List.mem_cons.mp hz with rfl | hz
    · exact hxy
    · exact hxy.trans (List.rel_of_pairwise_cons h hz)

theorem sortBytes_sorted (l : List Bytes) : (sortBytes l).Pairwise BLe := by
  induction l with
  | nil => exact List.Pairwise.nil
  | cons x xs ih => rw [sortBytes_cons]; exact insertSorted_sorted x _ ih

theorem sortBytes_nodup {l : List Bytes} (h : l.Nodup) : (sortBytes l).Nodup :=
  (sortBytes_perm l).nodup_iff.mpr h

theorem sortBytes_strict {l : List Bytes} (h : l.Nodup) : (sortBytes l).Pairwise BLt := by
  have h1 := sortBytes_sorted l
  have h2 : (sortBytes l).Pairwise (· ≠ ·) := sortBytes_nodup h
  exact (h1.and h2).imp (fun ⟨a, b⟩ => BLt.of_le_of_ne a b)

theorem nodup_of_strict {l : List Bytes} (h : l.Pairwise BLt) : l.Nodup :=
  h.imp BLt.ne

theorem eq_of_perm_of_sorted {l₁ l₂ : List Bytes} (hp : l₁.Perm l₂) (h1 : l₁.Pairwise BLe)
    (h2 : l₂.Pairwise BLe) : l₁ = l₂ :=
  List.Perm.eq_of_pairwise (le := BLe) (fun _ _ _ _ => BLe.antisymm) h1 h2 hp

/-- sorting is insensitive to the order of the input (the map's iteration order) -/
theorem sortBytes_eq_of_perm {l₁ l₂ : List Bytes} (h : l₁.Perm l₂) : sortBytes l₁ = sortBytes l₂ :=
  eq_of_perm_of_sorted ((sortBytes_perm l₁).trans (h.trans (sortBytes_perm l₂).symm))
    (sortBytes_sorted l₁) (sortBytes_sorted l₂)

theorem sortBytes_of_sorted {l : List Bytes} (h : l.Pairwise BLe) : sortBytes l = l :=
  eq_of_perm_of_sorted (sortBytes_perm l) (sortBytes_sorted l) h

end Registry
end Tab
