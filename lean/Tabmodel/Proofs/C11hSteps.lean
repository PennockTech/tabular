/- C11, history level — the two kinds of step (ownership unchanged / a row joins a table), and the law of
   every operation but `AddRow`, its two variants and `AddHeaders`. -/
import Tabmodel.Proofs.C11hGood
import Tabmodel.Proofs.WorldObs
namespace Tab
namespace World

/-! ### the error-routing half of `HInv` -/

structure HE (hs : List Nat) (w : World) : Prop where
  att : ∀ t, t < w.tables.length → attachedAll w t
  ect : ∀ r t, (w.row r).ec = .table t → t < w.tables.length ∧ (r ∈ (w.table t).rows ∨ r ∈ hs)

theorem HE.of_stable {hs : List Nat} {w w' : World} (h : HE hs w) (s : Stable w w') : HE hs w' where
  att t ht := attachedAll_stable s t (h.att t (by rw [← s.tlen]; exact ht))
  ect r t hec := by
    obtain ⟨h1, h2⟩ := h.ect r t ((s.ecT r t).mpr hec)
    exact ⟨by rw [s.tlen]; exact h1, by rw [s.trows]; exact h2⟩

theorem he_attach {hs : List Nat} {w w' : World} {t r : Nat} (h : HE hs w) (ht : t < w.tables.length)
    (hlen : w'.tables.length = w.tables.length) (hatt : ∀ t', attachedAll w t' → attachedAll w' t')
    (hec : (w'.row r).ec = .table t)
    (hne : ∀ r', r' ≠ r → ∀ t', (w'.row r').ec = .table t' → (w.row r').ec = .table t')
    (hrows : (w'.table t).rows = (w.table t).rows ++ [r])
    (hrows_ne : ∀ t', t ≠ t' → (w'.table t').rows = (w.table t').rows) : HE hs w' where
  att t' ht' := hatt t' (h.att t' (by rw [← hlen]; exact ht'))
  ect r' t' hec' := by
    rw [hlen]
    by_cases hrr : r' = r
    · subst hrr
      rw [hec] at hec'
      cases hec'
      exact ⟨ht, Or.inl (by rw [hrows]; exact List.mem_concat_self)⟩
    · obtain ⟨h1, h2⟩ := h.ect r' t' (hne r' hrr t' hec')
      refine ⟨h1, h2.imp (fun h2 => ?_) id⟩
      by_cases htt : t = t'
      · subst htt; rw [hrows]; exact List.mem_append_left _ h2
      · rw [hrows_ne t' htt]; exact h2

theorem unattached_oob (w : World) (r : Nat) (h : w.rows.length ≤ r) : unattached w r := by
  left; rw [row_oob w r h]

theorem unattached_of_later {w w' : World} {r : Nat}
    (h : ∀ t, (w.row r).ec = .table t → (w'.row r).ec = .table t) (hu : unattached w' r) :
    unattached w r := by
  rw [unattached_iff] at hu ⊢
  exact fun t ht => hu t (h t ht)

theorem unattached_of_stable {w w' : World} (s : Stable w w') {r : Nat} (h : unattached w r) :
    unattached w' r :=
  unattached_of_later (fun t => (s.ecT r t).mpr) h

theorem cnt_row_oob (w : World) (r e : Nat) (h : w.rows.length ≤ r) : cnt w e (.row r) = 0 := by
  simp only [cnt, row_oob w r h]; rfl

theorem cnt_row_unattached (w : World) (r e : Nat) (h : unattached w r) :
    cnt w e (.row r) = (rowErrors w r).count e := by
  simp only [cnt, ownCount, rowErrors]
  rcases h with h | ⟨es, h⟩ <;> simp [h]

/-! ### the two kinds of step -/

/-- ownership unchanged; `n` errors `e` raised on `d` -/
structure SStep (e : Nat) (d : Option Src) (n : Nat) (w w' : World) : Prop where
  own : ∀ r t, (w.row r).ec = .table t ↔ (w'.row r).ec = .table t
  ms : mass w' e = mass w e + n
  ct : ∀ g, cnt w' e g = cnt w e g + if d.map w.ownerOf = some g then n else 0

/-- the unattached row `r` joins table `t`; `n` errors `e` raised on the table -/
structure AStep (e t r n : Nat) (w w' : World) : Prop where
  un : unattached w r
  ec : (w'.row r).ec = .table t
  own : ∀ r', r' ≠ r → ∀ t', (w.row r').ec = .table t' ↔ (w'.row r').ec = .table t'
  ms : mass w' e = mass w e + n
  ct : ∀ g, g ≠ .row r →
    cnt w' e g = cnt w e g + if g = .table t then cnt w e (.row r) + n else 0

theorem SStep.same {e : Nat} {d : Option Src} {w w' : World} (h : SameErrs w w') : SStep e d 0 w w' :=
  ⟨fun r t => by rw [h.ec], h.mass e, fun g => by rw [h.cnt]; simp⟩

theorem SStep.refl (e : Nat) (d : Option Src) (w : World) : SStep e d 0 w w :=
  .same (.of_stores rfl rfl)

theorem SStep.of_good {e k n : Nat} {d : Option Src} {g0 : Src} {w : World} {c : Cnt}
    (h : Good w e k g0 c) (hd : d.map w.ownerOf = some g0) (hn : c.2 = k + n) : SStep e d n w c.1 := by
  have hk : c.2 - k = n := by rw [hn, Nat.add_sub_cancel_left]
  exact ⟨h.st.ecT, hk ▸ h.ms, fun g => by simp only [h.ct g, hd, hk, Option.some.injEq]⟩

theorem SStep.trans {e n₁ n₂ : Nat} {d : Option Src} {w w₁ w₂ : World} (s₁ : SStep e d n₁ w w₁)
    (s₂ : SStep e d n₂ w₁ w₂) : SStep e d (n₁ + n₂) w w₂ where
  own r t := (s₁.own r t).trans (s₂.own r t)
  ms := by rw [s₂.ms, s₁.ms, Nat.add_assoc]
  ct g := by
    rw [s₂.ct g, s₁.ct g, funext (ownerOf_congr s₁.own)]
    split <;> omega

/-- what is raised on an unattached row before it joins a table arrives there with it -/
theorem AStep.after {e t r n₁ n₂ : Nat} {w w₁ w₂ : World} (hu : unattached w r)
    (s : SStep e (some (.row r)) n₁ w w₁) (a : AStep e t r n₂ w₁ w₂) : AStep e t r (n₁ + n₂) w w₂ where
  un := hu
  ec := a.ec
  own r' hne t' := (s.own r' t').trans (a.own r' hne t')
  ms := by rw [a.ms, s.ms, Nat.add_assoc]
  ct g hg := by
    have ho : (some (Src.row r)).map w.ownerOf = some (.row r) := congrArg some (ownerOf_row_unattached hu)
    have hne : ¬ some (Src.row r) = some g := fun x => hg (Option.some.inj x).symm
    rw [a.ct g hg, s.ct g, s.ct (.row r), ho, if_neg hne, if_pos rfl]
    split <;> omega

/-- what is raised on the table once the row has joined it -/
theorem AStep.andThen {e t r n₁ n₂ : Nat} {w w₁ w₂ : World} (a : AStep e t r n₁ w w₁)
    (s : SStep e (some (.table t)) n₂ w₁ w₂) : AStep e t r (n₁ + n₂) w w₂ where
  un := a.un
  ec := (s.own r t).mp a.ec
  own r' hne t' := (a.own r' hne t').trans (s.own r' t')
  ms := by rw [s.ms, a.ms, Nat.add_assoc]
  ct g hg := by
    have ho : (some (Src.table t)).map w₁.ownerOf = some g ↔ g = .table t :=
      ⟨fun x => (Option.some.inj x).symm, fun x => congrArg some x.symm⟩
    rw [s.ct g, a.ct g hg]
    simp only [ho]
    split <;> omega

/-- a fresh row is stored sharing table `t`'s container; no list changes -/
theorem astep_fresh {w w' : World} {t : Nat} (e : Nat) (hec : (w'.row w.rows.length).ec = .table t)
    (hrow : ∀ r, r ≠ w.rows.length → w'.row r = w.row r)
    (herrs : ∀ t', (w'.table t').errs = (w.table t').errs) (hms : mass w' e = mass w e) :
    AStep e t w.rows.length 0 w w' where
  un := unattached_oob w _ (Nat.le_refl _)
  ec := hec
  own r' hne t' := by rw [hrow r' hne]
  ms := hms
  ct g hg := by
    have : cnt w' e g = cnt w e g := by
      cases g with
      | table t' => simp only [cnt, herrs]
      | row r' => simp only [cnt, hrow r' fun x => hg (congrArg Src.row x)]
    rw [this, cnt_row_oob w _ e (Nat.le_refl _)]
    split <;> rfl

/-! ### stores that grow -/

theorem sameErrs_newTable (w : World) : SameErrs w w.newTable.1 :=
  ⟨fun t => congrArg Table.errs (table_newTable w t), fun _ => rfl, fun e => by simp [mass, newTable]⟩

theorem ec_newRow (w : World) (rw : Row) (h : rw.ec = .none) (r : Nat) :
    ((w.newRow rw).1.row r).ec = (w.row r).ec := by
  by_cases hr : r = w.rows.length
  · subst hr; rw [row_newRow_self, row_oob w _ (Nat.le_refl _)]; exact h
  · rw [row_newRow_ne w rw r hr]

theorem mass_newRow (w : World) (rw : Row) (e : Nat) (h : ownCount e rw = 0) :
    mass (w.newRow rw).1 e = mass w e := by
  simp [mass, newRow, h]

theorem sameErrs_newRow (w : World) (rw : Row) (h : rw.ec = .none) : SameErrs w (w.newRow rw).1 :=
  ⟨fun _ => rfl, ec_newRow w rw h, fun e => mass_newRow w rw e (by simp [ownCount, h])⟩

theorem lt_newRow (w : World) (rw : Row) : w.rows.length < (w.newRow rw).1.rows.length := by
  simp [newRow]

theorem unattached_newRow (w : World) : unattached (w.newRow {}).1 w.rows.length :=
  Or.inl (congrArg Row.ec (row_newRow_self w {}))

theorem he_newTable {hs : List Nat} {w : World} (h : HE hs w) : HE hs w.newTable.1 where
  att t ht := by
    have hlen : w.newTable.1.tables.length = w.tables.length + 1 := by simp [newTable]
    rw [hlen] at ht
    by_cases h' : t < w.tables.length
    · exact (attachedAll_newTable w t (h.att t h')).1
    · have : t = w.tables.length := by omega
      subst this
      refine ⟨by rw [hlen]; omega, ?_, ?_⟩
      · intro r hm; rw [table_newTable, table_oob w _ (Nat.le_refl _)] at hm; simp at hm
      · intro r hm; rw [table_newTable, table_oob w _ (Nat.le_refl _)] at hm; simp at hm
  ect r t hec := by
    obtain ⟨h1, h2⟩ := h.ect r t hec
    refine ⟨by simp [newTable]; omega, ?_⟩
    rw [table_newTable]; exact h2

theorem he_newRow {hs : List Nat} {w : World} (h : HE hs w) (rw : Row) (hn : rw.ec = .none) :
    HE hs (w.newRow rw).1 where
  att t ht := attachedAll_newRow w rw t (h.att t ht)
  ect r t hec := by
    rw [ec_newRow w rw hn] at hec
    exact h.ect r t hec

/-! ### operations that touch neither lists nor containers -/

theorem stable_items (w : World) (its : List Item) : Stable w { w with items := its } :=
  .of_stores rfl rfl

theorem sameErrs_registerCb (w w' : World) (owner : Target) (tm : Time) (tg : CbTarget) (cb : Cb)
    (h : registerCb w owner tm tg cb = some w') : SameErrs w w' := by
  cases owner with
  | table t =>
    cases tg <;> simp only [registerCb, Option.some.injEq] at h <;> subst h <;>
      exact sameErrs_modTable _ _ _ fun _ => rfl
  | column t n =>
    cases tg <;> simp only [registerCb, Option.some.injEq, reduceCtorEq] at h <;> subst h <;>
      exact sameErrs_modTable _ _ _ fun _ => rfl
  | row r =>
    cases tg <;> simp only [registerCb, Option.some.injEq] at h <;> subst h <;>
      exact sameErrs_modRow _ _ _ fun _ => rfl
  | cell r c =>
    cases tg <;> simp only [registerCb, Option.some.injEq, reduceCtorEq] at h <;> subst h <;>
      exact sameErrs_modRow _ _ _ fun _ => rfl
  | copy n =>
    cases tg <;> simp only [registerCb, Option.some.injEq, reduceCtorEq] at h <;> subst h <;>
      exact .of_stores rfl rfl

/-! ### `Row.Add` -/

theorem resolve_rowLazy {hs : List Nat} {w : World} (h : HE hs w) (r : Nat) (hr : r < w.rows.length) :
    resolve w (.rowLazy r) = some (w.ownerOf (.row r)) := by
  simp only [resolve, hr, if_true, ownerOf]
  cases hec : (w.row r).ec with
  | none => rfl
  | own es => rfl
  | table t => simp [(h.ect r t hec).1]

theorem sstep_rowAddCell (dw : Measure) {hs : List Nat} {w : World} (h : HE hs w) (r : Nat) (ce : Cell)
    (e : Nat) (hr : r < w.rows.length) :
    SStep e (some (.row r)) (rowAddCellK dw e (w, 0) r ce).2 w (rowAddCell dw w r ce) := by
  rw [← rowAddCellK_fst dw e (w, 0) r ce]
  exact SStep.of_good
    (rowAddCellK_good dw (Good.start w e 0 (w.ownerOf (.row r))) r ce (resolve_rowLazy h r hr)) rfl
    (Nat.zero_add _).symm

/-! ### direct `AddError` -/

theorem sstep_addErr (dw : Measure) (w : World) (tk : Taker) (e' e : Nat) :
    SStep e (BuildOp.addErr tk e').dest (raisedBy dw w (.addErr tk e') e) w (addErrTo w tk e') := by
  have hn : raisedBy dw w (.addErr tk e') e = if live w tk ∧ e' = e then 1 else 0 := Nat.zero_add _
  rw [dest_addErr, hn]
  refine ⟨(addErrTo_stable w tk e').ecT, ?_, fun g => ?_⟩
  · rw [mass_addErrTo_gen]; simp only [eq_comm]
  · rw [cnt_addErrTo]
    by_cases hd : (tkDest tk).map w.ownerOf = some g
    · simp only [resolve_eq_dest, hd, and_true, if_true, @eq_comm _ e e']
    · simp only [resolve_eq_dest, hd, and_false, false_and, if_false]

/-! ### render -/

theorem invokeK_nil (dw : Measure) (e : Nat) (c : Cnt) (cbs : World → List Cb) (tgt : Target)
    (tk : World → Taker) (h : cbs c.1 = []) : invokeK dw e c cbs tgt tk = c := by
  simp only [invokeK, h, invoke, List.foldl_nil, raiseCount, List.filter_nil, List.length_nil,
    Nat.add_zero]

theorem at_default (tm : Time) : ({} : CbSet).at tm = [] := by cases tm <;> rfl

theorem renderK_oob (dw : Measure) (e : Nat) (c : Cnt) (t : Nat) (h : c.1.tables.length ≤ t) :
    renderK dw e c t = c := by
  have hT : c.1.table t = {} := table_oob c.1 t h
  have h1 : invokeK dw e c (fun w => (w.table t).selfCbs.at .pre) (.table t) (fun _ => .table t) = c :=
    invokeK_nil dw e c _ _ _ (by simp only [hT]; rfl)
  have h4 : invokeK dw e c (fun w => (w.table t).selfCbs.at .post) (.table t) (fun _ => .table t) = c :=
    invokeK_nil dw e c _ _ _ (by simp only [hT]; rfl)
  have hcol : ∀ tm, renderColumnsK dw e t tm (c.1.table t).columns.length 0 c = c := by
    intro tm
    have : (c.1.table t).columns.length = 1 := by rw [hT]; rfl
    rw [this, renderColumnsK, renderColumnsK]
    exact invokeK_nil dw e c _ _ _ (by simp only [column?, hT]; cases tm <;> rfl)
  have hh : renderHeaderK dw e t c = c := by simp only [renderHeaderK, hT]
  have hr : (c.1.table t).rows.foldl (renderRowK dw e t) c = c := by rw [hT]; rfl
  unfold renderK
  simp only
  rw [h1, hcol, hh, hr, hcol, h4]

theorem sstep_render (dw : Measure) {hs : List Nat} {w : World} (h : HE hs w) (t e : Nat) :
    SStep e (some (.table t)) (renderK dw e (w, 0) t).2 w (invokeRenderCallbacks dw w t) := by
  by_cases ht : t < w.tables.length
  · rw [← renderK_fst dw e (w, 0) t]
    exact SStep.of_good (renderK_good dw e 0 w t (h.att t ht)) rfl (Nat.zero_add _).symm
  · have := renderK_oob dw e (w, 0) t (Nat.le_of_not_lt ht)
    rw [← renderK_fst dw e (w, 0) t, this]
    exact SStep.refl e _ w

/-! ### `AddSeparator` -/

theorem addSeparator_row_ne (w : World) (t r : Nat) (h : r ≠ w.rows.length) :
    (addSeparator w t).row r = w.row r := by
  simp only [addSeparator, newRow]
  rw [row_modRow_ne _ _ _ _ (Ne.symm h), row_modTable]
  exact getD_append_ne w.rows _ {} r h

theorem addSeparator_errs (w : World) (t t' : Nat) :
    ((addSeparator w t).table t').errs = (w.table t').errs := by
  simp only [addSeparator, newRow, table_modRow]
  refine table_modTable_proj _ _ _ (·.errs) ?_ _
  intro _; rfl

theorem addSeparator_rows (w : World) (t : Nat) (ht : t < w.tables.length) :
    ((addSeparator w t).table t).rows = (w.table t).rows ++ [w.rows.length] := by
  simp only [addSeparator, newRow, table_modRow]
  rw [table_modTable_self _ _ _ (by exact ht)]
  rfl

theorem addSeparator_rows_ne (w : World) (t t' : Nat) (h : t ≠ t') :
    ((addSeparator w t).table t').rows = (w.table t').rows := by
  simp only [addSeparator, newRow, table_modRow]
  rw [table_modTable_ne _ _ _ _ h]
  rfl

theorem mass_modRow_zero (w : World) (r : Nat) (f : Row → Row) (e : Nat) (hr : r < w.rows.length)
    (h1 : ownCount e (w.row r) = 0) (h2 : ownCount e (f (w.row r)) = 0) :
    mass (w.modRow r f) e = mass w e := by
  have := mass_modRow w r f e hr
  omega

theorem mass_addSeparator (w : World) (t e : Nat) : mass (addSeparator w t) e = mass w e := by
  simp only [addSeparator, newRow]
  refine (mass_modRow_zero _ _ _ e (by simp) ?_ rfl).trans ?_
  · rw [row_modTable]
    exact congrArg (ownCount e) (getD_append_length w.rows _ _)
  · refine (mass_modTable_same _ _ _ _ ?_).trans (mass_newRow w { cells := none, isSep := true } e rfl)
    exact fun _ => rfl

theorem astep_addSeparator (w : World) (t e : Nat) : AStep e t w.rows.length 0 w (addSeparator w t) :=
  astep_fresh e (addSeparator_ec w t) (addSeparator_row_ne w t) (addSeparator_errs w t)
    (mass_addSeparator w t e)

theorem he_addSeparator {hs : List Nat} {w : World} (h : HE hs w) (t : Nat) (ht : t < w.tables.length) :
    HE hs (addSeparator w t) :=
  he_attach h ht (by simp [addSeparator, newRow]) (attachedAll_addSeparator w t) (addSeparator_ec w t)
    (fun r' hne t' hec => by rwa [addSeparator_row_ne w t r' hne] at hec)
    (addSeparator_rows w t ht) (addSeparator_rows_ne w t)

end World
end Tab
