/-
  C09 (totality), text renderer: `renderTextBody` returns `.ok ()` for EVERY decoration value on every
  well-shaped view with handled alignment values (`renderTextBody_total`).  No `1 ≤ ncols`, no `CellOK`,
  no sign condition on the laid-out widths (a negative width just yields a slot of spaces), no condition
  on the dividers: `commonRenderedLine` only touches the last field when there is one (the repair
  recorded as D28; model: `fields.dropLast`), so after the per-column step `renderedLine` has no panic
  branch left.  What is needed: the column-width index is safe (`WFShape`) and the alignment values are
  in {unset, left, right, centre} (`AlignOK`).

  `renderTextBody_no_panic` is the same fact in the form the per-decoration statements use: it carries
  `DivsOK` (the dividers of a content line are all present or all absent) because that is what the
  decorations in use satisfy (`divsOK_populate`, `builtins_divsOK`).
-/
import Tabmodel.Proofs.TextRender
import Tabmodel.Generated.Decorations
namespace Tab
open Emit

theorem withinWidthAligned_total (ws : WidthString) (cw al : Nat) (hal : al ≤ 3) :
    ∃ b, withinWidthAligned ws cw al = .ok b := by
  by_cases h : ws.w < 0
  · exact ⟨spaces cw, by unfold withinWidthAligned; rw [if_pos h]⟩
  · exact ⟨_, withinWidthAligned_eq ws cw al (by omega) hal⟩

theorem tt_mapM_except_total {α β ε : Type} (f : α → Except ε β) (xs : List α)
    (h : ∀ x ∈ xs, ∃ b, f x = .ok b) : ∃ bs, xs.mapM f = .ok bs := by
  induction xs with
  | nil => exact ⟨[], rfl⟩
  | cons x t ih =>
    obtain ⟨b, hb⟩ := h x (by simp)
    obtain ⟨bs, hbs⟩ := ih (fun y hy => h y (by simp [hy]))
    exact ⟨b :: bs, by rw [List.mapM_cons, hb, hbs]; rfl⟩

theorem renderedLine_total (L I R : Bytes) (cw : List Nat) (parts : List WidthString) (aligns : List Nat)
    (hparts : cw.length ≤ parts.length) (hal : cw.length ≤ aligns.length) (hal3 : ∀ a ∈ aligns, a ≤ 3) :
    ∃ b, renderedLine L I R cw parts aligns = .ok b := by
  obtain ⟨cols, hc⟩ := tt_mapM_except_total (rlCol I parts aligns) cw.zipIdx (by
    intro x hx
    obtain ⟨w, i⟩ := x
    have hi : i < cw.length := by have := List.mem_zipIdx hx; omega
    have ha := getElem?_eq_some_getD (Nat.lt_of_lt_of_le hi hal) 0
    obtain ⟨s, hs⟩ := withinWidthAligned_total (parts.getD i blankWS) w _ (hal3 _ (List.mem_of_getElem? ha))
    exact ⟨_, by rw [rlCol_eq (getElem?_eq_some_getD (Nat.lt_of_lt_of_le hi hparts) blankWS) ha, hs]; rfl⟩)
  exact ⟨_, by rw [renderedLine_eq, hc]; rfl⟩

theorem ttEmitRow_res_total (L I R : Bytes) (cw aligns : List Nat) (cells : List RCell) (n : Nat)
    (hcw : cw.length = n) (hal : aligns.length = n) (hal3 : ∀ a ∈ aligns, a ≤ 3) :
    (ttEmitRow L I R cw aligns cells n).res = .ok () := by
  unfold ttEmitRow
  refine (forM'_ok _ _ ?_).1
  intro parts hp
  rw [ttRowLines_eq] at hp
  obtain ⟨k, _, rfl⟩ := List.mem_map.mp hp
  obtain ⟨b, hb⟩ := renderedLine_total L I R cw ((List.range n).map (fun c => cellLineWS cells c k)) aligns
    (by simp; omega) (by omega) hal3
  simp only [bind_eq, hb, bind'_lift_ok]
  rfl

/-- `renderTextBody` returns `.ok ()` — neither an error nor a panic — for EVERY decoration value
    (Populate-completed or hand-assembled, boxless or not, the all-empty one included) on every
    well-shaped view with handled alignment values, zero-column views included. -/
theorem renderTextBody_total (d : Decoration) (v : RTable) (hs : WFShape v) (ha : AlignOK v) :
    (renderTextBody d v).res = .ok () := by
  have hrow : ∀ L I R cells, (ttEmitRow L I R v.colWidths v.effAligns cells v.ncols).res = .ok () :=
    fun L I R cells => ttEmitRow_res_total L I R _ _ cells v.ncols (colWidths_length v)
      (effAligns_length v) (effAligns_le3 v ha)
  rw [renderTextBody_wf d v hs ha]
  exact (ttBody_ok d _ _ _ _ _ (fun L I R cells => (ttEmitRow L I R v.colWidths v.effAligns cells v.ncols).chunks)
    (fun _ _ => ⟨hrow .., rfl⟩) (fun _ _ => ⟨hrow .., rfl⟩)).1

/-- the header dividers are one and the same glyph -/
theorem divsOK_same (x : Bytes) : DivsOK x x x := by
  by_cases h : x = []
  · exact Or.inr ⟨h, h, h⟩
  · exact Or.inl ⟨h, h, h⟩

/-- C09, text renderer: total (returns `.ok ()`, hence neither error nor panic) for EVERY well-shaped
    view with handled alignment values — including zero-column tables, negative laid-out widths and
    cells the measuring callback never visited.  Neither `hdh` (which `divsOK_same` gives for every
    decoration) nor `hdb` is used. -/
theorem renderTextBody_no_panic (d : Decoration) (v : RTable) (hs : WFShape v) (ha : AlignOK v)
    (hdh : DivsOK d.vHeader d.vHeader d.vHeader) (hdb : DivsOK d.vBodyBorder d.vBodyInner d.vBodyBorder) :
    (renderTextBody d v).res = .ok () :=
  have _ := hdh
  have _ := hdb
  renderTextBody_total d v hs ha

/-! ### discharging `DivsOK` for real decorations -/

theorem divsOK_populate (d : Decoration) :
    DivsOK d.populate.vHeader d.populate.vHeader d.populate.vHeader ∧
    DivsOK d.populate.vBodyBorder d.populate.vBodyInner d.populate.vBodyBorder := by
  have h := populate_glyphs_ne d
  simp only [List.forall_mem_cons, List.not_mem_nil, false_imp_iff, implies_true, and_true] at h
  obtain ⟨_, _, _, _, _, _, _, _, _, _, _, _, _, _, _, h1, h2, h3⟩ := h
  exact ⟨Or.inl ⟨h1, h1, h1⟩, Or.inl ⟨h2, h3, h2⟩⟩

/-- `decide`-friendly check -/
def divsOKb (d : Decoration) : Bool :=
  (d.vBodyBorder != [] && d.vBodyInner != []) || (d.vBodyBorder == [] && d.vBodyInner == [])

theorem divsOKb_sound (d : Decoration) (h : divsOKb d = true) :
    DivsOK d.vHeader d.vHeader d.vHeader ∧ DivsOK d.vBodyBorder d.vBodyInner d.vBodyBorder := by
  refine ⟨divsOK_same _, ?_⟩
  unfold divsOKb at h
  by_cases hb : d.vBodyBorder = [] <;> by_cases hi : d.vBodyInner = []
  · exact Or.inr ⟨hb, hi, hb⟩
  · simp [hb, hi] at h
  · simp [hb, hi] at h
  · exact Or.inl ⟨hb, hi, hb⟩

/-- the six built-in decorations (regenerated from a run of the real code) all pass -/
theorem builtins_divsOK : ∀ p ∈ Generated.builtins, divsOKb p.2 = true := by decide

theorem builtins_no_panic (v : RTable) (hs : WFShape v) (ha : AlignOK v) :
    ∀ p ∈ Generated.builtins, (renderTextBody p.2 v).res = .ok () := fun p _ =>
  renderTextBody_total p.2 v hs ha

/-! ### zero columns, explicitly; and a decoration outside `DivsOK` -/

namespace TextTotalExample

def zeroView : RTable :=
  { ncols := 0, header := some [], rows := [some [], none, some []], colAlign := [none], colSkip := [none] }
def zeroViewNoHeader : RTable := { zeroView with header := none }

def ascii : Decoration := ({ horizontal := [45], vertical := [124], crossPiece := [43] } : Decoration).populate
def boxless : Decoration := { isBoxless := true }

theorem zero_wf : WFShape zeroView := by decide
theorem zero_al : AlignOK zeroView := by
  intro i hi
  have : i = 0 := by simp [zeroView] at hi; omega
  subst this; left; rfl

example : (renderTextBody ascii zeroView).res = .ok () :=
  renderTextBody_no_panic _ _ zero_wf zero_al (divsOK_populate _).1 (divsOK_populate _).2
example : (renderTextBody boxless zeroView).res = .ok () :=
  renderTextBody_no_panic _ _ zero_wf zero_al (divsOK_same _) (Or.inr ⟨rfl, rfl, rfl⟩)
/-- what a zero-column table looks like: `++` rules and `|` content lines (Go agrees: `fields` is
    `[left]`, its last element is overwritten by `right`) -/
example : (renderTextBody ascii zeroView).output =
    [43, 43, 10, 124, 10, 43, 43, 10, 124, 10, 43, 43, 10, 124, 10, 43, 43, 10] := by decide
example : (renderTextBody boxless zeroView).output = [10, 10, 10] := by decide
example : (renderTextBody ascii zeroViewNoHeader).res = .ok () := by
  refine renderTextBody_no_panic _ _ (by decide) ?_ (divsOK_populate _).1 (divsOK_populate _).2
  intro i hi
  have : i = 0 := by simp [zeroViewNoHeader, zeroView] at hi; omega
  subst this; left; rfl

/-- A hand-made decoration with an inner body divider but no body border, on a zero-column table with
    one (empty) row: `fields` is empty, there is nothing to drop and the line is empty.  (Without the
    repair recorded as D28, DESIGN.md section 3, `fields[:len(fields)-1]` panics here: slice bounds out
    of range.)  `DivsOK` is therefore not needed for totality (`renderTextBody_total`). -/
def partialDeco : Decoration := { vBodyInner := [124] }
example : ¬ DivsOK partialDeco.vBodyBorder partialDeco.vBodyInner partialDeco.vBodyBorder := by
  rintro (⟨h, _, _⟩ | ⟨_, h, _⟩)
  · exact h rfl
  · cases h
example : (renderTextBody partialDeco zeroView).res = .ok () := by rfl
/-- the header line can never be the culprit (its three dividers are the same glyph), and with at
    least one column the same decoration renders fine -/
example : (renderTextBody partialDeco { zeroView with ncols := 1, colAlign := [none, none] }).res = .ok () := by
  rfl

end TextTotalExample
end Tab
