/- C11, history level — the law of `AddRow`, of its two variants that build the row first, and of
   `AddHeaders`. -/
import Tabmodel.Proofs.C11hSteps
namespace Tab
namespace World

/-! ### `AddRow` -/

/-- the structural part: the row's own list is absorbed by the table's, nothing is raised -/
theorem astep_addRowCore (e : Nat) (w : World) (t r : Nat) (ht : t < w.tables.length)
    (hr : r < w.rows.length) (hu : unattached w r) : AStep e t r 0 w (addRowCore w t r) where
  un := hu
  ec := addRowCore_ec w t r hr
  own r' hne t' := by rw [addRowCore_ec_ne w t r r' (Ne.symm hne)]
  ms := addRowCore_mass w t r ht hr hu e
  ct g hg := by
    cases g with
    | table t' =>
      by_cases htt : t' = t
      · subst htt
        simp only [if_true, cnt, addRowCore_errs w t' r ht, List.count_append, ownCount_unattached hu,
          Nat.add_zero]
      · simp only [Src.table.injEq, htt, if_false, cnt, addRowCore_errs_ne w t r t' (Ne.symm htt),
          Nat.add_zero]
    | row r' =>
      have : r ≠ r' := fun x => hg (by rw [x])
      simp only [cnt, ownCount, addRowCore_ec_ne w t r r' this, reduceCtorEq, if_false, Nat.add_zero]

theorem astep_addRowK (dw : Measure) (e k : Nat) (w : World) (t r : Nat) (ht : t < w.tables.length)
    (hr : r < w.rows.length) (hu : unattached w r) :
    k ≤ (addRowK dw e (w, k) t r).2 ∧
    AStep e t r ((addRowK dw e (w, k) t r).2 - k) w (addRow dw w t r) := by
  have G := addRowK_good dw e k w t r ht hr
  have := (astep_addRowCore e w t r ht hr hu).andThen
    (SStep.of_good G rfl (Nat.add_sub_of_le G.le).symm)
  rw [Nat.zero_add, addRowK_fst] at this
  exact ⟨G.le, this⟩

theorem astep_addRow (dw : Measure) (e : Nat) (w : World) (t r : Nat) (ht : t < w.tables.length)
    (hr : r < w.rows.length) (hu : unattached w r) :
    AStep e t r (addRowK dw e (w, 0) t r).2 w (addRow dw w t r) := by
  have := (astep_addRowK dw e 0 w t r ht hr hu).2
  rwa [Nat.sub_zero] at this

theorem addRow_rows_self (dw : Measure) (w : World) (t r : Nat) (ht : t < w.tables.length) :
    ((addRow dw w t r).table t).rows = (w.table t).rows ++ [r] := by
  rw [addRow_eq, (addRowCbs_stable dw _ t r).trows, addRowCore_rows w t r ht]

theorem addRow_rows_ne (dw : Measure) (w : World) (t r t' : Nat) (h : t ≠ t') :
    ((addRow dw w t r).table t').rows = (w.table t').rows := by
  rw [addRow_eq, (addRowCbs_stable dw _ t r).trows, addRowCore_rows_ne w t r t' h]

theorem addRow_tables_length (dw : Measure) (w : World) (t r : Nat) :
    (addRow dw w t r).tables.length = w.tables.length := by
  rw [addRow_eq, (addRowCbs_stable dw _ t r).tlen, addRowCore_tables_length]

theorem addRow_ec (dw : Measure) (w : World) (t r : Nat) (hr : r < w.rows.length) :
    ((addRow dw w t r).row r).ec = .table t := by
  rw [addRow_eq]
  exact ((addRowCbs_stable dw _ t r).ecT r t).mp (addRowCore_ec w t r hr)

theorem he_addRow (dw : Measure) {hs : List Nat} {w : World} (h : HE hs w) (t r : Nat)
    (ht : t < w.tables.length) (hr : r < w.rows.length) (hu : unattached w r) :
    HE hs (addRow dw w t r) :=
  he_attach h ht (addRow_tables_length dw w t r) (fun t' => attachedAll_addRow dw w t r t' ht hr hu)
    (addRow_ec dw w t r hr)
    (fun r' hne t' hec => by
      rw [addRow_eq] at hec
      have := ((addRowCbs_stable dw _ t r).ecT r' t').mpr hec
      rwa [addRowCore_ec_ne w t r r' (Ne.symm hne)] at this)
    (addRow_rows_self dw w t r ht) (addRow_rows_ne dw w t r)

/-! ### `AppendNewRow`, `AddRowItems`: the row is built first -/

theorem astep_addRowItems (dw : Measure) (e : Nat) (w : World) (t : Nat) (items : List Nat)
    (ht : t < w.tables.length) :
    AStep e t w.rows.length
      (addRowK dw e (rowAddManyK dw e w.rows.length items ((w.newRow {}).1, 0)) t w.rows.length).2 w
      (addRow dw (rowAddMany dw w.rows.length items (w.newRow {}).1) t w.rows.length) := by
  have hu := unattached_newRow w
  -- the cells: raised on the fresh row, which holds them itself
  have G1 := rowAddManyK_good dw w.rows.length items _
    (Good.start (w.newRow {}).1 e 0 (.row w.rows.length))
    (by simp only [resolve, lt_newRow w {}, if_true, row_newRow_self])
  rw [← rowAddManyK_fst dw e w.rows.length items ((w.newRow {}).1, 0)]
  generalize rowAddManyK dw e w.rows.length items ((w.newRow {}).1, 0) = c1 at G1 ⊢
  obtain ⟨w1, k1⟩ := c1
  have s := (SStep.same (sameErrs_newRow w {} rfl)).trans
    (SStep.of_good G1 (d := some (.row w.rows.length)) (congrArg some (ownerOf_row_unattached hu))
      (Nat.zero_add _).symm)
  -- the row joins the table
  obtain ⟨hle, a⟩ := astep_addRowK dw e k1 w1 t w.rows.length
    (by rw [G1.st.tlen]; exact ht) (by rw [G1.st.rlen]; exact lt_newRow w {}) (unattached_of_stable G1.st hu)
  have := AStep.after (unattached_oob w _ (Nat.le_refl _)) s a
  simp only [Nat.zero_add] at this
  rwa [Nat.add_sub_of_le hle] at this

theorem astep_appendNewRow (dw : Measure) (e : Nat) (w : World) (t : Nat) (ht : t < w.tables.length) :
    AStep e t w.rows.length (addRowK dw e ((w.newRow {}).1, 0) t w.rows.length).2 w
      (addRow dw (w.newRow {}).1 t w.rows.length) :=
  astep_addRowItems dw e w t [] ht

theorem he_rowAddMany (dw : Measure) {hs : List Nat} {w : World} (h : HE hs w) (r : Nat)
    (is : List Nat) : HE hs (rowAddMany dw r is w) := h.of_stable (rowAddMany_stable dw r is w)

/-! ### `AddHeaders` -/

/-- the world in which `addHeaders` adds the cells: columns resized, the empty header row stored -/
def hdrW2 (w : World) (t : Nat) (n : Nat) : World :=
  ((w.modTable t (fun tb => resizeColumnsAtLeast tb n)).newRow { ec := .table t }).1

theorem hdrW2_row_self (w : World) (t n : Nat) : (hdrW2 w t n).row w.rows.length = { ec := .table t } :=
  row_newRow_self _ _

theorem hdrW2_row_ne (w : World) (t n r : Nat) (h : r ≠ w.rows.length) :
    (hdrW2 w t n).row r = w.row r := by
  unfold hdrW2
  rw [row_newRow_ne _ _ _ (by exact h)]
  rfl

theorem hdrW2_errs (w : World) (t n t' : Nat) : ((hdrW2 w t n).table t').errs = (w.table t').errs := by
  unfold hdrW2
  exact table_modTable_proj _ _ _ (·.errs) (fun x => resize_errs x _) _

theorem hdrW2_rows (w : World) (t n t' : Nat) : ((hdrW2 w t n).table t').rows = (w.table t').rows := by
  unfold hdrW2
  exact table_modTable_proj _ _ _ (·.rows) (fun x => resize_rows x _) _

theorem hdrW2_tables_length (w : World) (t n : Nat) : (hdrW2 w t n).tables.length = w.tables.length := by
  simp [hdrW2, newRow]

theorem hdrW2_rows_length (w : World) (t n : Nat) : (hdrW2 w t n).rows.length = w.rows.length + 1 := by
  simp [hdrW2, newRow]

theorem hdrW2_mass (w : World) (t n e : Nat) : mass (hdrW2 w t n) e = mass w e := by
  unfold hdrW2
  rw [mass_newRow _ _ _ rfl]
  exact mass_modTable_same _ _ _ _ (fun x => resize_errs x _)

/-- the second half of `addHeadersK`, from the counter state `c` in which the header row is built: the
    header is set, then the add-time callbacks run on it -/
def hdrCbsK (dw : Measure) (e t hr : Nat) (c : Cnt) : Cnt :=
  let c : Cnt := (c.1.modTable t (fun tb => { tb with header := some hr }), c.2)
  let c := invokeK dw e c (fun w => (w.table t).rowCbs.at .add) (.row hr) (fun _ => .table t)
  addTimeCellsK dw e t hr (fun _ => .table t) (c.1.rowCells hr).length 0 c

theorem addHeadersK_eq (dw : Measure) (e : Nat) (w : World) (t : Nat) (items : List Nat) :
    addHeadersK dw e (w, 0) t items = hdrCbsK dw e t w.rows.length
      (rowAddManyK dw e w.rows.length items (hdrW2 w t items.length, 0)) := rfl

theorem sameErrs_setHeader (w : World) (t hr : Nat) :
    SameErrs w (w.modTable t (fun tb => { tb with header := some hr })) :=
  sameErrs_modTable _ _ _ fun _ => rfl

theorem setHeader_rows (w : World) (t hr : Nat) :
    ∀ t', ((w.modTable t (fun tb => { tb with header := some hr })).table t').rows = (w.table t').rows :=
  table_modTable_proj _ _ _ (·.rows) (fun _ => rfl)

theorem hdrCbsK_good (dw : Measure) (e t hr : Nat) (c : Cnt) (ht : t < c.1.tables.length) :
    Good (c.1.modTable t (fun tb => { tb with header := some hr })) e c.2 (.table t)
      (hdrCbsK dw e t hr c) := by
  have ht' : t < (c.1.modTable t (fun tb => { tb with header := some hr })).tables.length := by
    rw [modTable_tables_length]; exact ht
  unfold hdrCbsK
  exact addTimeCellsK_good dw t hr _ _ 0 _
    (invokeK_good dw (Good.start _ e c.2 (.table t)) _ _ _ (resolve_table ht')) (fun _ _ => resolve_table ht')

theorem astep_hdrW2 (e : Nat) (w : World) (t n : Nat) : AStep e t w.rows.length 0 w (hdrW2 w t n) :=
  astep_fresh e (congrArg Row.ec (hdrW2_row_self w t n)) (hdrW2_row_ne w t n) (hdrW2_errs w t n)
    (hdrW2_mass w t n e)

/-- `addHeaders` in three segments: the fresh header row is stored, sharing the table's container from the
    start (`hdrW2`); its cells are added (up to `c3`); the header is set, which `Stable` does not allow, and
    the add-time callbacks run -/
theorem addHeadersK_chain (dw : Measure) (e : Nat) (w : World) (t : Nat) (items : List Nat)
    (ht : t < w.tables.length) :
    ∃ c3 : Cnt, Good (hdrW2 w t items.length) e 0 (.table t) c3 ∧
      Good (c3.1.modTable t (fun tb => { tb with header := some w.rows.length })) e c3.2 (.table t)
        (addHeadersK dw e (w, 0) t items) := by
  have ht2 : t < (hdrW2 w t items.length).tables.length := by rw [hdrW2_tables_length]; exact ht
  have hres : resolve (hdrW2 w t items.length) (.rowLazy w.rows.length) = some (.table t) := by
    have : w.rows.length < (hdrW2 w t items.length).rows.length := by rw [hdrW2_rows_length]; omega
    simp only [resolve, this, if_true, hdrW2_row_self, ht2]
  have G3 := rowAddManyK_good dw w.rows.length items _
    (Good.start (hdrW2 w t items.length) e 0 (.table t)) hres
  rw [addHeadersK_eq]
  exact ⟨_, G3, hdrCbsK_good dw e t w.rows.length _ (by rw [G3.st.tlen]; exact ht2)⟩

theorem astep_addHeaders (dw : Measure) (e : Nat) (w : World) (t : Nat) (items : List Nat)
    (ht : t < w.tables.length) :
    AStep e t w.rows.length (addHeadersK dw e (w, 0) t items).2 w (addHeaders dw w t items) := by
  obtain ⟨c3, G3, G5⟩ := addHeadersK_chain dw e w t items ht
  have s := ((SStep.of_good G3 (d := some (.table t)) rfl (Nat.zero_add _).symm).trans
    (.same (sameErrs_setHeader c3.1 t w.rows.length))).trans
    (SStep.of_good G5 rfl (Nat.add_sub_of_le G5.le).symm)
  have := (astep_hdrW2 e w t items.length).andThen s
  rw [addHeadersK_fst] at this
  have hn : 0 + (c3.2 + 0 + ((addHeadersK dw e (w, 0) t items).2 - c3.2))
      = (addHeadersK dw e (w, 0) t items).2 := by
    have := G5.le
    omega
  rwa [hn] at this

theorem addHeaders_chain (dw : Measure) (w : World) (t : Nat) (items : List Nat)
    (ht : t < w.tables.length) :
    ∃ w3 : World, Stable (hdrW2 w t items.length) w3 ∧
      Stable (w3.modTable t (fun tb => { tb with header := some w.rows.length }))
        (addHeaders dw w t items) := by
  obtain ⟨c3, G3, G5⟩ := addHeadersK_chain dw 0 w t items ht
  have S5 := G5.st
  rw [addHeadersK_fst] at S5
  exact ⟨c3.1, G3.st, S5⟩

theorem he_addHeaders (dw : Measure) {hs : List Nat} {w : World} (h : HE hs w) (t : Nat)
    (items : List Nat) (ht : t < w.tables.length) :
    HE (w.rows.length :: hs) (addHeaders dw w t items) := by
  obtain ⟨w3, S3, S5⟩ := addHeaders_chain dw w t items ht
  have A := astep_addHeaders dw 0 w t items ht
  have hlen : (addHeaders dw w t items).tables.length = w.tables.length := by
    rw [S5.tlen, modTable_tables_length, S3.tlen, hdrW2_tables_length]
  have hrows : ∀ t', ((addHeaders dw w t items).table t').rows = (w.table t').rows := fun t' => by
    rw [S5.trows, setHeader_rows, S3.trows, hdrW2_rows]
  refine ⟨?_, ?_⟩
  · intro t' ht'
    rw [hlen] at ht'
    exact attachedAll_addHeaders dw w t t' items (h.att t' ht')
  · intro r t' hec
    rw [hlen, hrows]
    by_cases hr : r = w.rows.length
    · subst hr
      rw [A.ec] at hec; cases hec
      exact ⟨ht, Or.inr (List.mem_cons_self ..)⟩
    · obtain ⟨h1, h2⟩ := h.ect r t' ((A.own r hr t').mpr hec)
      exact ⟨h1, h2.imp id (List.mem_cons_of_mem _)⟩

end World
end Tab
