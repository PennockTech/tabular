/-
  Every renderer is total on every world that satisfies the structural invariant.  Stated without
  `Props/C07.lean` (whose `Spec/Json.lean` cannot be imported together with `Proofs/C12hDefs.lean`: both
  declare `Tab.PState`), so that both sides of that clash can import it; the JSON part is
  `C09h.renderJson_noPanic`.

  The text part (`renderTextBody_total`, Proofs/TextTotal.lean) holds for every decoration value.
-/
import Tabmodel.Proofs.C09hJson
import Tabmodel.Proofs.TextTotal
import Tabmodel.Proofs.E2EView
import Tabmodel.Props.C05
import Tabmodel.Props.C08
namespace Tab

/-- alignment values within their documented domain imply the Markdown renderer's weaker demand -/
theorem alignsOK_of_alignOK (v : RTable) (hlen : v.colAlign.length = v.ncols + 1) (ha : AlignOK v) :
    AlignsOK v := by
  unfold AlignsOK
  rw [List.all_eq_true]
  intro e he
  obtain ⟨i, hi, hget⟩ := List.getElem_of_mem he
  have hd : v.colAlign.getD i none = e := by
    simp [List.getD_eq_getElem?_getD, List.getElem?_eq_getElem hi, hget]
  rcases ha i (by omega) with h | ⟨a, _, h⟩
  · rw [hd] at h; subst h; rfl
  · rw [hd] at h; subst h; rfl

namespace C09h
open World

/-- No panic from any world satisfying the structural invariant, any table id, any wrapper kind and
    ANY decoration, given `AlignOK` of the view after the pass. -/
theorem total_inv_any (x : Ext) (w : World) (hinv : Inv w) (wr : Wrapper)
    (ha : AlignOK ((invokeRenderCallbacks x.dw w wr.core).view wr.core)) :
    ∀ site, (w.renderTo x wr).2.res ≠ .error (.panic site) := by
  intro site
  obtain ⟨hs, hlen, _⟩ := view_wf (c02_inv_render x.dw hinv wr.core) wr.core
  cases hk : wr.kind with
  | csv => rw [renderTo_csv x w wr hk]; exact c05_no_panic _ site
  | json => rw [renderTo_json x w wr hk]; exact renderJson_noPanic x.js _ site
  | markdown =>
    rw [renderTo_markdown x w wr hk]
    exact c08_no_panic x.dw _ (alignsOK_of_alignOK _ hlen ha) site
  | html => rw [renderTo_html x w wr hk]; exact nofun
  | text =>
    by_cases hd : wr.decor = emptyDecoration
    · rw [renderTo_noDecoration x w wr hk hd]; exact nofun
    · rw [renderTo_text x w wr hk hd, renderTextBody_total wr.decor _ hs ha]; exact nofun

/-- the text wrapper, exactly: refused (`noDecoration`, nothing written, no callback run) iff the
    decoration is the all-empty value, `.ok ()` otherwise -/
theorem text_outcome (x : Ext) (w : World) (hinv : Inv w) (wr : Wrapper) (hk : wr.kind = .text)
    (ha : AlignOK ((invokeRenderCallbacks x.dw w wr.core).view wr.core)) :
    (wr.decor = emptyDecoration → (w.renderTo x wr).2.res = .error (.err .noDecoration) ∧
      (w.renderTo x wr).2.chunks = [] ∧ (w.renderTo x wr).1 = w) ∧
    (wr.decor ≠ emptyDecoration → (w.renderTo x wr).2.res = .ok ()) := by
  obtain ⟨hs, _, _⟩ := view_wf (c02_inv_render x.dw hinv wr.core) wr.core
  constructor
  · intro he
    rw [renderTo_noDecoration x w wr hk he]
    exact ⟨rfl, rfl, rfl⟩
  · intro hne
    rw [renderTo_text x w wr hk hne]
    exact renderTextBody_total wr.decor _ hs ha

end C09h
end Tab
