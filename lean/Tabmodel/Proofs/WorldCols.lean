/-
  Column counts along a history: the `resizeColumnsAtLeast` law of every step, and the exact
  characterisation `nColumns = max (largest header ever set) (widest attached row now)`.
-/
import Tabmodel.Proofs.WorldHist
namespace Tab

def lmax (l : List Nat) : Nat := l.foldr max 0

theorem lmax_nil : lmax [] = 0 := rfl
theorem lmax_cons (x : Nat) (l : List Nat) : lmax (x :: l) = max x (lmax l) := rfl

theorem lmax_append (a b : List Nat) : lmax (a ++ b) = max (lmax a) (lmax b) := by
  induction a with
  | nil => exact (Nat.zero_max _).symm
  | cons x a ih => rw [List.cons_append, lmax_cons, lmax_cons, ih, Nat.max_assoc]

theorem le_lmax_of_mem {l : List Nat} {x : Nat} (h : x ∈ l) : x ≤ lmax l := by
  induction l with
  | nil => cases h
  | cons y l ih =>
    rw [lmax_cons]
    rcases List.mem_cons.mp h with e | e
    · subst e; exact Nat.le_max_left _ _
    · exact Nat.le_trans (ih e) (Nat.le_max_right _ _)

theorem lmax_le {l : List Nat} {b : Nat} (h : ∀ x ∈ l, x ≤ b) : lmax l ≤ b := by
  induction l with
  | nil => exact Nat.zero_le _
  | cons y l ih =>
    rw [lmax_cons]
    exact Nat.max_le.mpr ⟨h y (List.mem_cons_self ..), ih (fun x hx => h x (List.mem_cons_of_mem _ hx))⟩

theorem lmax_map_congr {l : List Nat} {f g : Nat → Nat} (h : ∀ x ∈ l, f x = g x) :
    lmax (l.map f) = lmax (l.map g) := by
  rw [List.map_congr_left h]

theorem lmax_map_ite (c : Prop) [Decidable c] (f : Nat → Nat) (r : Nat) :
    lmax ((if c then [r] else []).map f) = if c then f r else 0 := by
  split
  · exact Nat.max_zero _
  · rfl

theorem lmax_map_bump (l : List Nat) (f g : Nat → Nat) (r : Nat)
    (hne : ∀ x ∈ l, x ≠ r → g x = f x) (hr : f r ≤ g r) :
    lmax (l.map g) = if r ∈ l then max (lmax (l.map f)) (g r) else lmax (l.map f) := by
  split
  · rename_i hm
    apply Nat.le_antisymm
    · apply lmax_le
      intro y hy
      obtain ⟨x, hx, rfl⟩ := List.mem_map.mp hy
      by_cases e : x = r
      · rw [e]; exact Nat.le_max_right _ _
      · rw [hne x hx e]
        exact Nat.le_trans (le_lmax_of_mem (List.mem_map_of_mem hx)) (Nat.le_max_left _ _)
    · refine Nat.max_le.mpr ⟨lmax_le ?_, le_lmax_of_mem (List.mem_map_of_mem hm)⟩
      intro y hy
      obtain ⟨x, hx, rfl⟩ := List.mem_map.mp hy
      refine Nat.le_trans ?_ (le_lmax_of_mem (List.mem_map_of_mem (f := g) hx))
      by_cases e : x = r
      · rw [e]; exact hr
      · rw [hne x hx e]; exact Nat.le_refl _
  · rename_i hm
    exact lmax_map_congr (fun x hx => hne x hx (fun e => hm (e ▸ hx)))

namespace Shape

theorem rowsMax_eq (s : Shape) (t : Nat) : s.rowsMax t = lmax ((s.table t).rows.map s.width) := rfl

theorem step_nColumns {s : Shape} (h : SInv s) (op : BuildOp) (hok : s.ok op = true) (t : Nat) :
    ((s.step op).table t).nColumns = max (s.table t).nColumns (s.demand t op) := by
  cases op <;> simp only [Shape.step, Shape.demand]
  case newTable => rw [table_newTable, Nat.max_zero]
  case addHeaders t' items =>
    obtain ⟨cs, _, _, e⟩ := addHeaders_eq s t' items.length
    rw [e, nColumns_setHeader, table_newRow]
    exact resizeT_nColumns s t' _ t (of_decide_eq_true hok)
  case addRowItems t' items => exact addRowItems_nColumns s t' _ t (of_decide_eq_true hok)
  case appendNewRow t' =>
    exact (addRowItems_nColumns s t' 0 t (of_decide_eq_true hok)).trans (congrArg _ (ite_self _))
  case rowAdd r i => exact rowAdd_nColumns h r t
  case rowAddCell r ce => exact rowAdd_nColumns h r t
  case addRow t' r => exact addRow_nColumns s t' r t (ok_addRow hok).1
  case addSeparator t' =>
    have ht : t' < s.tables.length := of_decide_eq_true hok
    rw [addSeparator_eq _ _ ht, nColumns_attach, table_newRow, Nat.max_zero]
  all_goals exact (Nat.max_zero _).symm

/-- the part of a step's column demand that comes from rows (everything but `AddHeaders`) -/
def rowDemand (s : Shape) (t : Nat) : BuildOp → Nat
  | .addHeaders _ _ => 0
  | op => s.demand t op

theorem demand_split (s : Shape) (t : Nat) (op : BuildOp) :
    s.demand t op = max (op.hdrDemand t) (s.rowDemand t op) := by
  cases op with
  | addHeaders t' items => exact (Nat.max_zero _).symm
  | _ => exact (Nat.zero_max _).symm

theorem rowsMax_of (s s' : Shape) (t : Nat) (att : List Nat)
    (hrows : (s'.table t).rows = (s.table t).rows ++ att)
    (hold : ∀ r ∈ (s.table t).rows, s'.width r = s.width r) :
    s'.rowsMax t = max (s.rowsMax t) (lmax (att.map s'.width)) := by
  rw [rowsMax_eq, rowsMax_eq, hrows, List.map_append, lmax_append, lmax_map_congr hold]

theorem addRowItems_rowsMax {s : Shape} (h : SInv s) (t' n t : Nat) (ht : t' < s.tables.length) :
    (s.addRowItems t' n).rowsMax t = max (s.rowsMax t) (if t' = t then n else 0) := by
  obtain ⟨cs, rfl, _, e⟩ := addRowItems_eq s t' n
  have hw : ∀ r, (s.addRowItems t' cs.length).width r = (s.newRow { cells := some cs }).width r :=
    fun r => by rw [e, addRow_width (s.newRow _) _ _ _ ht]
  rw [rowsMax_of s _ t _ (addRowItems_rows s t' _ t ht)
      (fun r hr => by rw [hw, width_newRow_lt _ _ _ (h.rowsLt t r hr)]),
    lmax_map_ite, hw, width_newRow_self]
  rfl

theorem rowAdd_rowsMax {s : Shape} (h : SInv s) (r t : Nat) (hr : r < s.rows.length) :
    (s.rowAdd r).rowsMax t = max (s.rowsMax t) (s.addDemand t r) := by
  unfold addDemand
  cases hc : (s.row r).cells with
  | none => rw [rowAdd_none s r hc]; exact (Nat.max_zero _).symm
  | some cs =>
    have hw' : (s.rowAdd r).width r = cs.length + 1 := rowAdd_width_self s r cs hr hc
    have hw : s.width r = cs.length := by unfold width; rw [hc]; rfl
    have hb := lmax_map_bump (s.table t).rows s.width (s.rowAdd r).width r
      (fun x _ hne => by unfold width; rw [rowAdd_row_ne _ _ _ (Ne.symm hne)]) (by rw [hw, hw']; exact Nat.le_succ _)
    rw [rowsMax_eq, rowsMax_eq, (skel_rowAdd s r).rows, hb, hw']
    -- only row `r` got wider, and it is in `t`'s list exactly if it names `t`
    have hmem : r ∈ (s.table t).rows ↔ (s.row r).inTable = some t := ⟨h.att_mem, h.back r t⟩
    cases hi : (s.row r).inTable with
    | none => rw [if_neg (by rw [hmem, hi]; nofun)]; exact (Nat.max_zero _).symm
    | some t' =>
      dsimp only
      by_cases e : t' = t
      · rw [if_pos (by rw [hmem, hi, e]), if_pos e]
      · rw [if_neg (by rw [hmem, hi]; exact fun c => e (Option.some.inj c)), if_neg e]
        exact (Nat.max_zero _).symm

theorem step_rowsMax {s : Shape} (h : SInv s) (op : BuildOp) (hok : s.ok op = true) (t : Nat) :
    (s.step op).rowsMax t = max (s.rowsMax t) (s.rowDemand t op) := by
  -- the step appends `op.attaches` to `t`'s list (`step_rows`); what is left, case by case, is that the rows
  -- already in the list keep their width, and the width of the row attached
  have key := rowsMax_of s (s.step op) t _ (step_rows s op hok t)
  have hlt := h.rowsLt t
  cases op
  case addHeaders t' items =>
    refine key (fun r hr => ?_)
    obtain ⟨cs, _, _, e⟩ := addHeaders_eq s t' items.length
    simp only [Shape.step, e]
    exact width_newRow_lt (s.modTable t' _) _ r (hlt r hr)
  case addRowItems t' items => exact addRowItems_rowsMax h t' _ t (of_decide_eq_true hok)
  case appendNewRow t' =>
    exact (addRowItems_rowsMax h t' 0 t (of_decide_eq_true hok)).trans (congrArg _ (ite_self _))
  case newRow => exact key (fun r hr => width_newRow_lt s _ r (hlt r hr))
  case zeroRow => exact key (fun r hr => width_newRow_lt s _ r (hlt r hr))
  case addRow t' r =>
    have hw := fun r' => addRow_width s t' r r' (ok_addRow hok).1
    rw [key (fun r' _ => hw r')]
    simp only [BuildOp.attaches, rowDemand, demand, Shape.step, lmax_map_ite, hw]
  case addSeparator t' =>
    have ht : t' < s.tables.length := of_decide_eq_true hok
    have e := addSeparator_eq s t' ht
    rw [key (fun r hr => by simp only [Shape.step, e, width_attach]; exact width_newRow_lt s _ r (hlt r hr))]
    simp only [BuildOp.attaches, rowDemand, demand, Shape.step, lmax_map_ite, e, width_attach, width_newRow_self]
    exact congrArg _ (ite_self _)
  case rowAdd r i => exact rowAdd_rowsMax h r t (ok_rowAdd hok).1
  case rowAddCell r ce => exact rowAdd_rowsMax h r t (ok_rowAdd hok).1
  all_goals exact key (fun _ _ => rfl)

theorem runFrom_nColumns {s : Shape} (h : SInv s) (ops : List BuildOp) (hv : s.validFrom ops = true) (t H : Nat)
    (hn : (s.table t).nColumns = max H (s.rowsMax t)) :
    ((s.runFrom ops).table t).nColumns = max (max H (hdrMax t ops)) ((s.runFrom ops).rowsMax t) := by
  induction ops generalizing s H with
  | nil => rw [show hdrMax t [] = 0 from rfl, Nat.max_zero]; exact hn
  | cons op ops ih =>
    simp only [validFrom, Bool.and_eq_true] at hv
    have hn' : ((s.step op).table t).nColumns = max (max H (op.hdrDemand t)) ((s.step op).rowsMax t) := by
      rw [step_nColumns h op hv.1 t, step_rowsMax h op hv.1 t, hn, demand_split]
      ac_rfl
    rw [show hdrMax t (op :: ops) = max (op.hdrDemand t) (hdrMax t ops) from rfl, ← Nat.max_assoc]
    exact ih (h.step op hv.1) hv.2 _ hn'

end Shape

theorem World.shape_rowsMax (w : World) (t : Nat) : w.shape.rowsMax t = w.rowsMax t := by
  unfold Shape.rowsMax World.rowsMax
  rw [World.shape_table]
  have : w.shape.width = fun r => (w.rowCells r).length := funext (World.shape_width w)
  rw [this]; rfl

end Tab
