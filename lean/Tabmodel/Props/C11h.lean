/-
  C11, history level — every error raised while building or rendering is reported exactly
  once, by the table's list once the row belongs to the table.

  Vocabulary: the build histories of C02 (`Spec/World.lean`: `BuildOp`, `applyOp`, `run`, `Valid`) and
  the definitions of `Proofs/C11hDefs.lean`, restated below:
  * `raisedBy dw w op e`: how many times `e` is raised when `op` is applied in `w` — counted on
    the callbacks the operation invokes (and misuse / direct `addErr`), never on containers;
  * `raisedFrom`, `ledgerFrom`: the same along a history;
  * `BuildOp.dest`, `ownerOf`, `charged`: on which object an operation's errors are raised, and
    which object's list reports that object in a given world;
  * `HdrSafe`: rows created by `AddHeaders` are never attached by `AddRow` (the Go API gives a
    caller no handle on the header row; `Valid` alone only excludes the *current* header);
  * `HInv`: the invariant that makes every error taker live.
-/
import Tabmodel.Proofs.C11hSums
import Tabmodel.Proofs.C11hLedger
namespace Tab
open World

/-! ## The definitions, restated -/

/-- `raisedBy` is the counter of the counting re-run `applyOpK`, whose world component is the
    model's `applyOp`. -/
theorem c11h_def_raisedBy (dw : Measure) (w : World) (op : BuildOp) (e k : Nat) :
    raisedBy dw w op e = (applyOpK dw e (w, 0) op).2 ∧
    (applyOpK dw e (w, k) op).1 = applyOp dw w op := ⟨rfl, applyOpK_fst dw e (w, k) op⟩

/-- the only thing the counting re-run adds to the model: each `invoke` call counts the
    callbacks of its list that return `e` on its target -/
theorem c11h_def_invokeK (dw : Measure) (e : Nat) (c : Cnt) (cbs : World → List Cb) (tgt : Target)
    (tk : World → Taker) :
    invokeK dw e c cbs tgt tk
      = (invoke dw c.1 (cbs c.1) tgt (tk c.1),
         c.2 + ((cbs c.1).filter (fun cb => raises tgt cb == some e)).length) := rfl

theorem c11h_def_raisedFrom (dw : Measure) (e : Nat) (w : World) (op : BuildOp) (ops : List BuildOp) :
    raisedFrom dw e w [] = 0 ∧
    raisedFrom dw e w (op :: ops) = raisedBy dw w op e + raisedFrom dw e (applyOp dw w op) ops :=
  ⟨rfl, rfl⟩

/-- the history sum, position by position -/
theorem c11h_raisedFrom_sum (dw : Measure) (e : Nat) (ops : List BuildOp) :
    raisedFrom dw e {} ops =
      ((List.range ops.length).map
        (fun i => raisedBy dw (run dw (ops.take i)) (ops[i]?.getD .newTable) e)).sum :=
  raisedFrom_eq_sum dw e {} ops

theorem c11h_def_ledger (dw : Measure) (e : Nat) (w : World) (op : BuildOp) (ops : List BuildOp)
    (g : Src) (L : List (Option Src × Nat)) :
    ledgerFrom dw e w [] = [] ∧
    ledgerFrom dw e w (op :: ops) = (op.dest, raisedBy dw w op e) :: ledgerFrom dw e (applyOp dw w op) ops ∧
    charged w g L = ((L.filter (fun p => p.1.map w.ownerOf == some g)).map (·.2)).sum :=
  ⟨rfl, rfl, rfl⟩

/-- who reports for whom: a table for itself; a row sharing a table's container is reported by
    that table; any other row by itself -/
theorem c11h_def_ownerOf (w : World) (t r : Nat) :
    w.ownerOf (.table t) = .table t ∧
    ((w.row r).ec = .table t → w.ownerOf (.row r) = .table t) ∧
    (unattached w r → w.ownerOf (.row r) = .row r) :=
  ⟨rfl, ownerOf_row_table, ownerOf_row_unattached⟩

/-! ## What each kind of operation raises -/

/-- a direct `AddError(e')` through taker `tk`: one, if the taker is live and the id matches -/
theorem c11h_raised_addErr (dw : Measure) (w : World) (tk : Taker) (e' e : Nat) :
    raisedBy dw w (.addErr tk e') e = if live w tk ∧ e' = e then 1 else 0 := by
  simp only [raisedBy, applyOpK, Nat.zero_add]

/-- `Row.Add` on a separator / zero-value row: one `errNonCellRow` -/
theorem c11h_raised_misuse (dw : Measure) (w : World) (r i : Nat) (ce : Cell) (e : Nat)
    (hc : (w.row r).cells = none) :
    raisedBy dw w (.rowAdd r i) e = (if errNonCellRow = e then 1 else 0) ∧
    raisedBy dw w (.rowAddCell r ce) e = (if errNonCellRow = e then 1 else 0) := by
  simp only [raisedBy, applyOpK, rowAddCellK, hc, Nat.zero_add, and_self]

/-- `Row.Add` on a cell row: the row's add-time cell callbacks that return `e` on the new cell -/
theorem c11h_raised_rowAdd (dw : Measure) (w : World) (r i : Nat) (ce : Cell) (cs : List Cell) (e : Nat)
    (hc : (w.row r).cells = some cs) :
    raisedBy dw w (.rowAdd r i) e = raiseCount (.cell r cs.length) e ((w.row r).cellCbs.at .add) ∧
    raisedBy dw w (.rowAddCell r ce) e = raiseCount (.cell r cs.length) e ((w.row r).cellCbs.at .add) := by
  simp only [raisedBy, applyOpK, rowAddCellK, hc, invokeK_snd, Nat.zero_add, rowAddCellPre_cellCbs,
    and_self]

/-- operations that invoke no callback and are no `AddError` raise nothing -/
theorem c11h_raised_zero (dw : Measure) (w : World) (e : Nat) :
    raisedBy dw w .newTable e = 0 ∧ raisedBy dw w .newRow e = 0 ∧ raisedBy dw w .zeroRow e = 0 ∧
    (∀ t, raisedBy dw w (.addSeparator t) e = 0) ∧
    (∀ o tm tg cb, raisedBy dw w (.regCb o tm tg cb) e = 0) ∧
    (∀ o k v, raisedBy dw w (.setProp o k v) e = 0) ∧
    (∀ its, raisedBy dw w (.setItems its) e = 0) ∧
    (∀ r c, raisedBy dw w (.updateCell r c) e = 0) ∧ (∀ r c, raisedBy dw w (.copyCell r c) e = 0) :=
  ⟨rfl, rfl, rfl, fun _ => rfl, fun _ _ _ _ => rfl, fun _ _ _ => rfl, fun _ => rfl, fun _ _ => rfl,
   fun _ _ => rfl⟩

/-- `AddRow`, `AddHeaders`, render, …: by definition the counters of the counting re-runs (every
    `invokeK` adds the `raiseCount` of the list the model's `invoke` is given at that moment) … -/
theorem c11h_raised_traversals (dw : Measure) (w : World) (t r : Nat) (items : List Nat) (e : Nat) :
    raisedBy dw w (.addRow t r) e = (addRowK dw e (w, 0) t r).2 ∧
    raisedBy dw w (.addHeaders t items) e = (addHeadersK dw e (w, 0) t items).2 ∧
    raisedBy dw w (.render t) e = (renderK dw e (w, 0) t).2 ∧
    raisedBy dw w (.appendNewRow t) e = (addRowK dw e ((w.newRow {}).1, 0) t w.rows.length).2 ∧
    raisedBy dw w (.addRowItems t items) e
      = (addRowK dw e (rowAddManyK dw e w.rows.length items ((w.newRow {}).1, 0)) t w.rows.length).2 :=
  ⟨rfl, rfl, rfl, rfl, rfl⟩

/-- … but callbacks can change neither which callbacks are registered nor the structure that
    decides which of them apply, so those counters are plain sums over the callback lists of
    one world.  The static sums (definitions in `Proofs/C11hStatic.lean`): -/
theorem c11h_def_static (w : World) (e t r n i : Nat) (b : Bool) (tm : Time) :
    addCellsCount w e t r 0 i = 0 ∧
    addCellsCount w e t r (n + 1) i =
      raiseCount (.cell r i) e (colCellCbs w (columnOf w r i) .add)
        + raiseCount (.cell r i) e ((w.table t).cellCbs.at .add) + addCellsCount w e t r n (i + 1) ∧
    addCbsCount w e t r b =
      (if b then raiseCount (.row r) e ((w.row r).selfCbs.at .add) else 0)
        + raiseCount (.row r) e ((w.table t).rowCbs.at .add)
        + addCellsCount w e t r (w.rowCells r).length 0 ∧
    cellRenderCount w e t r i =
      ((cellCalls t r i (columnOf w r i)).map (fun d => raiseCount (.cell r i) e (d.1 w))).sum ∧
    cellsRenderCount w e t r (n + 1) i = cellRenderCount w e t r i + cellsRenderCount w e t r n (i + 1) ∧
    rowRenderCount w e t r =
      raiseCount (.row r) e ((w.row r).selfCbs.at .pre)
        + cellsRenderCount w e t r (w.rowCells r).length 0
        + raiseCount (.row r) e ((w.row r).selfCbs.at .post) ∧
    colsRenderCount w e t tm (n + 1) i =
      raiseCount (.column t i) e (((w.column? t i).map (·.selfCbs.at tm)).getD [])
        + colsRenderCount w e t tm n (i + 1) ∧
    renderCount w e t =
      raiseCount (.table t) e ((w.table t).selfCbs.at .pre)
        + colsRenderCount w e t .pre (w.table t).columns.length 0
        + hdrRenderCount w e t
        + ((w.table t).rows.map (rowRenderCount w e t)).sum
        + colsRenderCount w e t .post (w.table t).columns.length 0
        + raiseCount (.table t) e ((w.table t).selfCbs.at .post) :=
  ⟨rfl, rfl, rfl, rfl, rfl, rfl, rfl, rfl⟩

/-- callback invocations leave the registered callbacks and the structure alone -/
theorem c11h_callbacks_frame (dw : Measure) (w : World) (cbs : List Cb) (tgt : Target) (tk : Taker) :
    (invoke dw w cbs tgt tk).cbv = w.cbv ∧ (invoke dw w cbs tgt tk).shape = w.shape :=
  ⟨cbv_invoke dw w cbs tgt tk, shape_invoke dw w cbs tgt tk⟩

/-- `addRow` is its structural part `addRowCore` (which invokes nothing) followed by the
    add-time callbacks; the structural part keeps the row's and the table's callbacks -/
theorem c11h_def_addRowCore (dw : Measure) (w : World) (t r : Nat) :
    addRow dw w t r = addRowCbs dw (addRowCore w t r) t r ∧
    ((addRowCore w t r).row r).selfCbs = (w.row r).selfCbs ∧
    ((addRowCore w t r).table t).rowCbs = (w.table t).rowCbs :=
  ⟨rfl, addRowCore_selfCbs w t r, addRowCore_rowCbs w t r⟩

/-- `AddRow(t, r)` raises what the row's own add-time callbacks, the table's add-time row
    callbacks and, cell by cell, the column's and the table's add-time cell callbacks return —
    all as registered when the row has just been put into the table. -/
theorem c11h_raised_addRow (dw : Measure) (w : World) (t r e : Nat) :
    raisedBy dw w (.addRow t r) e = addCbsCount (addRowCore w t r) e t r true :=
  raised_addRow dw w t r e

/-- a render raises what the table's, the columns', the header row's, each row's and each
    cell's render-time callbacks return, as registered when the render starts -/
theorem c11h_raised_render (dw : Measure) (w : World) (t e : Nat) :
    raisedBy dw w (.render t) e = renderCount w e t := raised_render dw w t e

/-- `AppendNewRow` / `AddRowItems`: the fresh row has no callbacks of its own, so building it
    raises nothing; then as `AddRow` -/
theorem c11h_raised_newRows (dw : Measure) (w : World) (t : Nat) (items : List Nat) (e : Nat) :
    raisedBy dw w (.appendNewRow t) e
      = addCbsCount (addRowCore (w.newRow {}).1 t w.rows.length) e t w.rows.length true ∧
    raisedBy dw w (.addRowItems t items) e
      = addCbsCount (addRowCore (rowAddMany dw w.rows.length items (w.newRow {}).1) t w.rows.length)
          e t w.rows.length true :=
  ⟨raised_appendNewRow dw w t e, raised_addRowItems dw w t items e⟩

/-- `AddHeaders`: building the fresh header row raises nothing; then the table's add-time row
    callbacks on the header row and the add-time cell callbacks on its cells, as registered in the
    world `hdrW4` where the header row is built and set -/
theorem c11h_raised_addHeaders (dw : Measure) (w : World) (t : Nat) (items : List Nat) (e : Nat) :
    raisedBy dw w (.addHeaders t items) e
      = addCbsCount (hdrW4 dw w t items) e t w.rows.length false ∧
    hdrW4 dw w t items =
      (rowAddMany dw w.rows.length items
        ((w.modTable t (fun tb => resizeColumnsAtLeast tb items.length)).newRow { ec := .table t }).1).modTable t
        (fun tb => { tb with header := some w.rows.length }) :=
  ⟨raised_addHeaders dw w t items e, rfl⟩

/-- a render of a table that does not exist invokes nothing -/
theorem c11h_raised_render_oob (dw : Measure) (w : World) (t e : Nat) (h : w.tables.length ≤ t) :
    raisedBy dw w (.render t) e = 0 ∧ invokeRenderCallbacks dw w t = w := by
  have := renderK_oob dw e (w, 0) t h
  refine ⟨by simp only [raisedBy, applyOpK, this], ?_⟩
  rw [← renderK_fst dw e (w, 0) t, this]

/-! ## The invariant of valid histories -/

/-- After every valid history that never attaches a header row: the structural invariant;
    every existing table has all its rows and its header row sharing its container
    (`attachedAll`); and every row either is `unattached` (no container, or its own) or shares
    the container of an existing table in whose list it is or whose header row it was made as. -/
theorem c11h_invariant (dw : Measure) (ops : List BuildOp) (hv : Valid ops = true)
    (hs : HdrSafe ops = true) :
    HInv (hdrIdsFrom 0 [] ops) (run dw ops) ∧
    (∀ t, t < (run dw ops).tables.length → attachedAll (run dw ops) t) ∧
    (∀ r, unattached (run dw ops) r ∨
      ∃ t, ((run dw ops).row r).ec = .table t ∧ t < (run dw ops).tables.length ∧
        (r ∈ ((run dw ops).table t).rows ∨ r ∈ hdrIdsFrom 0 [] ops)) := by
  have r := run_all dw ops inv_init he_init hv hs
  refine ⟨⟨r.inv, r.he.att, r.he.ect⟩, r.he.att, ?_⟩
  intro r'
  cases hec : ((run dw ops).row r').ec with
  | none => exact Or.inl (Or.inl hec)
  | own es => exact Or.inl (Or.inr ⟨es, hec⟩)
  | table t =>
    obtain ⟨h1, h2⟩ := r.he.ect r' t hec
    exact Or.inr ⟨t, rfl, h1, h2⟩

/-- hence every taker the library itself uses is live in such a world: the table, a row itself
    (`Row.AddError`), and the container of an attached row -/
theorem c11h_takers_live {hs : List Nat} {w : World} (h : HInv hs w) (t r : Nat) :
    (t < w.tables.length → live w (.table t)) ∧
    (r < w.rows.length → live w (.rowLazy r)) ∧
    (r ∈ (w.table t).rows → t < w.tables.length → live w (rowECTaker w r)) := by
  refine ⟨fun ht => ht, fun hr => ?_, fun hm ht => ?_⟩
  · exact live_of_resolve (resolve_rowLazy ⟨h.att, h.ect⟩ r hr)
  · have := (h.att t ht).2.1 r hm
    simp only [rowECTaker, this]; exact ht

/-! ## One step -/

/-- A valid step from a world satisfying the invariant: the invariant is kept, and the mass of
    every id grows by exactly what the operation raises — nothing is lost, nothing duplicated,
    whatever callbacks fail and whether or not the rows involved are attached. -/
theorem c11h_step (dw : Measure) {hs : List Nat} {w : World} (h : HInv hs w) (op : BuildOp)
    (hok : w.shape.ok op = true) (hh : op.hdrOk hs = true) :
    HInv (op.hdrStep w.rows.length hs) (applyOp dw w op) ∧
    ∀ e, mass (applyOp dw w op) e = mass w e + raisedBy dw w op e := by
  have s := step_all dw h.inv ⟨h.att, h.ect⟩ op hok hh
  exact ⟨⟨inv_step dw h.inv op hok, s.he.att, s.he.ect⟩, s.mass⟩

/-! ## Histories -/

/-- **No error is lost or duplicated by any valid history**: the number of occurrences of `e`
    in all error lists of the final world is the number of times `e` was raised along the way. -/
theorem c11h_history (dw : Measure) (ops : List BuildOp) (e : Nat) (hv : Valid ops = true)
    (hs : HdrSafe ops = true) : mass (run dw ops) e = raisedFrom dw e {} ops := by
  have r := run_all dw ops inv_init he_init hv hs
  have := r.mass e
  rw [mass_init, Nat.zero_add] at this
  exact this

/-- **Where they are**: in the final world, a table's list holds exactly what was raised on the
    table and on the rows that share its container at the end (in particular all rows in its
    list and its header row) — each once; and a row that is still unattached holds exactly what
    was raised on it. -/
theorem c11h_in_table (dw : Measure) (ops : List BuildOp) (e : Nat) (hv : Valid ops = true)
    (hs : HdrSafe ops = true) :
    (∀ t, ((run dw ops).table t).errs.count e
        = charged (run dw ops) (.table t) (ledgerFrom dw e {} ops)) ∧
    (∀ r, unattached (run dw ops) r →
      (rowErrors (run dw ops) r).count e
        = charged (run dw ops) (.row r) (ledgerFrom dw e {} ops)) := by
  have r := run_all dw ops inv_init he_init hv hs
  have hl := r.led e [] (led_init e)
  rw [List.nil_append] at hl
  refine ⟨fun t => hl (.table t) trivial, fun r' hu => ?_⟩
  rw [← cnt_row_unattached _ r' e hu]
  exact hl (.row r') hu

/-- … and the ledger accounts for everything raised (so the two parts of `c11h_in_table`
    together are a partition of `c11h_history`'s total) -/
theorem c11h_ledger_total (dw : Measure) (e : Nat) (ops : List BuildOp) :
    ((ledgerFrom dw e {} ops).map (·.2)).sum = raisedFrom dw e {} ops :=
  ledgerFrom_snd_sum dw e {} ops

/-- **Order**: between any two points of a valid history, every table's list has only been
    appended to; a row sharing a table's container still shares it; and a row's own list has
    only been appended to or — when the row was attached in between — sits, as one contiguous
    block in its original order, inside the list of the table it now belongs to. -/
theorem c11h_order (dw : Measure) (a b : List BuildOp) (hv : Valid (a ++ b) = true)
    (hs : HdrSafe (a ++ b) = true) :
    (∀ t, ((run dw a).table t).errs <+: ((run dw (a ++ b)).table t).errs) ∧
    (∀ r t, ((run dw a).row r).ec = .table t → ((run dw (a ++ b)).row r).ec = .table t) ∧
    (∀ r es, ((run dw a).row r).ec = .own es →
      (∃ l, ((run dw (a ++ b)).row r).ec = .own (es ++ l)) ∨
      (∃ t, ((run dw (a ++ b)).row r).ec = .table t ∧ es <:+: ((run dw (a ++ b)).table t).errs)) := by
  unfold Valid at hv
  unfold HdrSafe at hs
  rw [Shape.validFrom_append, Bool.and_eq_true] at hv
  rw [hdrSafeFrom_append, Bool.and_eq_true] at hs
  have ra := run_all dw a inv_init he_init hv.1 hs.1
  have hvb : (run dw a).shape.validFrom b = true := by rw [shape_run]; exact hv.2
  have hsb : hdrSafeFrom (run dw a).rows.length (hdrIdsFrom 0 [] a) b = true := by
    have := rows_length_runFrom dw {} a
    unfold run; rw [this]; exact hs.2
  have rb := run_all dw b ra.inv ra.he hvb hsb
  have e1 : run dw (a ++ b) = runFrom dw (run dw a) b := runFrom_append dw {} a b
  rw [e1]
  exact ⟨rb.grow.terrs, rb.grow.ecT, rb.grow.ecO⟩

/-! ## Non-vacuity -/

namespace C11hEx
def dw : Measure := fun b => b.length

/-- table 0 with a failing add-time row callback (50) and a failing render-time callback (60);
    row 0 built before attaching, with a failing add-time cell callback (70) and a direct error
    (7); a separator misused; headers; a row of items; a render; an unattached zero row misused -/
def hist : List BuildOp :=
  [ .newTable,
    .regCb (.table 0) .add .row (.fail 1 50),
    .regCb (.table 0) .pre .itself (.fail 2 60),
    .newRow,                                   -- row 0
    .regCb (.row 0) .add .cell (.fail 3 70),
    .addErr (.rowLazy 0) 7,
    .rowAdd 0 0,                               -- 70 into the row's own container
    .addRow 0 0,                               -- [7, 70] absorbed, then 50
    .addSeparator 0,                           -- row 1
    .rowAdd 1 0,                               -- misuse: errNonCellRow into the table
    .addHeaders 0 [0],                         -- row 2; 50 again (row callback on the header)
    .addRowItems 0 [0],                        -- row 3; 50 again
    .render 0,                                 -- 60
    .zeroRow,                                  -- row 4, never attached
    .rowAdd 4 0 ]                              -- misuse: errNonCellRow into the row's own
end C11hEx
open C11hEx

example : Valid hist = true ∧ HdrSafe hist = true := by decide +kernel
example : ((run dw hist).table 0).errs = [7, 70, 50, errNonCellRow, 50, 50, 60] := by decide +kernel
example : rowErrors (run dw hist) 4 = [errNonCellRow] ∧ unattached (run dw hist) 4 := by decide +kernel
example : raisedFrom dw 50 {} hist = 3 ∧ raisedFrom dw 70 {} hist = 1 ∧
    raisedFrom dw errNonCellRow {} hist = 2 ∧ raisedFrom dw 60 {} hist = 1 ∧ raisedFrom dw 7 {} hist = 1 ∧
    raisedFrom dw 8 {} hist = 0 := by decide +kernel
example : mass (run dw hist) 50 = 3 ∧ mass (run dw hist) errNonCellRow = 2 := by decide +kernel
example : charged (run dw hist) (.table 0) (ledgerFrom dw errNonCellRow {} hist) = 1 ∧
    charged (run dw hist) (.row 4) (ledgerFrom dw errNonCellRow {} hist) = 1 ∧
    charged (run dw hist) (.table 0) (ledgerFrom dw 70 {} hist) = 1 := by decide +kernel
example : addCbsCount (addRowCore (run dw (hist.take 7)) 0 0) 50 0 0 true = 1 ∧
    renderCount (run dw (hist.take 12)) 60 0 = 1 ∧ renderCount (run dw (hist.take 12)) 50 0 = 0 := by decide +kernel
example := c11h_history dw hist 50 (by decide +kernel) (by decide +kernel)
example := c11h_in_table dw hist 70 (by decide +kernel) (by decide +kernel)
example := c11h_invariant dw hist (by decide +kernel) (by decide +kernel)
example := c11h_order dw (hist.take 7) (hist.drop 7) (by decide +kernel) (by decide +kernel)
example := (c11h_invariant dw (hist.take 7) (by decide +kernel) (by decide +kernel)).1
-- the hypotheses of `c11h_step` (on the world after seven operations, next operation `addRow 0 0`)
example : (run dw (hist.take 7)).shape.ok (.addRow 0 0) = true ∧
    (BuildOp.addRow 0 0).hdrOk (hdrIdsFrom 0 [] (hist.take 7)) = true := by decide +kernel

/-- `HdrSafe` is necessary: `Valid` admits attaching a *former* header row, which still shares
    its old table's container, and `AddRow` then copies that table's whole list — the error 5 is
    raised once and reported twice.  (A Go caller cannot do this: it has no handle on the row.) -/
def C11hEx.bad : List BuildOp :=
  [ .newTable, .addHeaders 0 [], .addErr (.table 0) 5, .addHeaders 0 [], .newTable, .addRow 1 0 ]
example : Valid C11hEx.bad = true ∧ HdrSafe C11hEx.bad = false ∧
    raisedFrom dw 5 {} C11hEx.bad = 1 ∧ mass (run dw C11hEx.bad) 5 = 2 := by decide +kernel

end Tab
