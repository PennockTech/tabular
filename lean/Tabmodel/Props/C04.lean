/-
  C04 — Text table shows every cell line in its own slot, aligned as the column asks.

  Spec-side definitions (`slotD`, `padSplit`, `cellLineWS`, `rowSlots`, `effAlign`, `CellOK`, …)
  are in `Tabmodel/Spec/Text.lean`.  A slot's width is the segment sum
  `lp + ws.w + rp` (`ws.w` = the width the line is laid out with), never `dw` of a concatenation.
-/
import Tabmodel.Proofs.TextExample
namespace Tab
open Emit World

/-! ### the slot -/

/-- For `0 ≤ ws.w ≤ cw` and alignment `al ∈ {0,1,2,3}` (0 = unset) the slot is
    `spaces lp ++ ws.s ++ spaces rp` — text unmodified, padded only with spaces — with
    `(lp, rp) = (0, p)` for unset/left, `(p, 0)` for right, `(p/2, p − p/2)` for centre, `p = cw − ws.w`;
    the slot's segment width `lp + ws.w + rp` is exactly `cw`; the odd space of centre goes right. -/
theorem c04_slot (ws : WidthString) (cw al : Nat) (hw : 0 ≤ ws.w) (hfit : ws.w ≤ cw) (hal : al ≤ 3) :
    ∃ lp rp, withinWidthAligned ws cw al = .ok (spaces lp ++ ws.s ++ spaces rp) ∧
      (al = 0 ∨ al = 1 → lp = 0 ∧ rp = cw - ws.w.toNat) ∧
      (al = 2 → lp = cw - ws.w.toNat ∧ rp = 0) ∧
      (al = 3 → lp = (cw - ws.w.toNat) / 2 ∧ rp = (cw - ws.w.toNat) - (cw - ws.w.toNat) / 2 ∧
                lp ≤ rp ∧ rp ≤ lp + 1) ∧
      lp + ws.w.toNat + rp = cw ∧
      lp = (slotD ws cw al).lp ∧ rp = (slotD ws cw al).rp := by
  refine ⟨(padSplit al (slotPad ws cw)).1, (padSplit al (slotPad ws cw)).2,
    withinWidthAligned_eq ws cw al hw hal, ?_, ?_, ?_, slotD_width ws cw al hw hfit, rfl, rfl⟩
  all_goals rw [slotPad_eq ws cw hw]; generalize cw - ws.w.toNat = p
  · rintro (rfl | rfl) <;> exact ⟨rfl, rfl⟩
  · rintro rfl; exact ⟨rfl, rfl⟩
  · rintro rfl
    exact ⟨rfl, rfl, padSplit_centre p⟩

/-- The other branches, covered explicitly: a line wider than the column is written unmodified with
    no padding (never truncated); a negative width yields blanks; an alignment value outside
    {unset, left, right, centre} is a panic. -/
theorem c04_slot_other (ws : WidthString) (cw al : Nat) :
    (0 ≤ ws.w → (cw : Int) ≤ ws.w → al ≤ 3 → withinWidthAligned ws cw al = .ok ws.s) ∧
    (ws.w < 0 → withinWidthAligned ws cw al = .ok (spaces cw)) ∧
    (0 ≤ ws.w → 4 ≤ al → withinWidthAligned ws cw al = .error (.panic "unhandled alignment")) := by
  refine ⟨fun h0 h1 h2 => ?_, fun h => ?_, fun h0 h4 => ?_⟩
  · -- no padding at all: whatever the alignment, both sides get `spaces 0`
    have hp : slotPad ws cw = 0 := by
      rw [slotPad_eq ws cw h0]; exact Nat.sub_eq_zero_of_le (Int.le_toNat h0 |>.mpr h1)
    have hs := padSplit_sum al 0
    rw [withinWidthAligned_eq ws cw al h0 h2, slotB, hp, Nat.eq_zero_of_add_eq_zero_right hs,
      Nat.eq_zero_of_add_eq_zero_left hs]
    exact congrArg Except.ok (List.append_nil _)
  · unfold withinWidthAligned; rw [if_pos h]
  · unfold withinWidthAligned
    rw [if_neg (Int.not_lt.mpr h0)]
    have h0' : ¬ al = 0 := by omega
    simp only [h0', if_false]
    rw [if_neg (by omega), if_neg (by omega), if_neg (by omega)]

/-- A missing cell (row shorter than the column index) or a missing line (cell shorter than the
    row) yields the blank entry, whose slot is `cw` spaces under every alignment. -/
theorem c04_blank (cells : List RCell) (i k cw al : Nat) (hal : al ≤ 3)
    (hmiss : cells[i]? = none ∨ ∃ c, cells[i]? = some c ∧ c.lws.length ≤ k) :
    cellLineWS cells i k = blankWS ∧
    withinWidthAligned (cellLineWS cells i k) cw al = .ok (spaces cw) ∧
    (slotD (cellLineWS cells i k) cw al).bytes = spaces cw := by
  have hb : cellLineWS cells i k = blankWS := by
    unfold cellLineWS
    rcases hmiss with h | ⟨c, h, hk⟩
    · rw [h]
    · rw [h]
      show c.lws.getD k blankWS = blankWS
      rw [List.getD_eq_getElem?_getD, List.getElem?_eq_none hk]
      rfl
  rw [hb]
  exact ⟨rfl, by rw [withinWidthAligned_eq blankWS cw al (by simp [blankWS]) hal, slotB_blank],
    by rw [slotD_bytes, slotB_blank]⟩

/-! ### effective alignment -/

/-- The alignment list the renderer computes is, for each column `i < ncols`, the column's own
    setting (API column `i+1`) if set, else the all-columns default of column 0, else unset. -/
theorem c04_eff_align (v : RTable) (ha : AlignOK v) :
    ttAligns v = .ok ((List.range v.ncols).map v.effAlign) ∧
    (∀ i a, v.colAlign.getD (i + 1) none = some (.align a) → v.effAlign i = a) ∧
    (∀ i a, v.colAlign.getD (i + 1) none = none → v.colAlign.getD 0 none = some (.align a) →
        v.effAlign i = a) ∧
    (∀ i, v.colAlign.getD (i + 1) none = none → v.colAlign.getD 0 none = none → v.effAlign i = 0) := by
  refine ⟨ttAligns_eq v ha, ?_, ?_, ?_⟩
  · intro i a h; unfold RTable.effAlign; rw [h]; rfl
  · intro i a h h0; unfold RTable.effAlign; rw [h, h0]; rfl
  · intro i h h0; unfold RTable.effAlign; rw [h, h0]; rfl

/-- The error branch, covered explicitly: if every setting consulted is unset, an alignment, or
    some other value, and at least one consulted value is not an alignment, the render panics
    (Go: failed interface conversion). -/
theorem c04_eff_align_bad (v : RTable)
    (hbad : ∃ i, i < v.ncols ∧
      ((∃ x, v.colAlign.getD (i + 1) none = some x ∧ ∀ a, x ≠ .align a) ∨
       (v.colAlign.getD (i + 1) none = none ∧ ∃ x, v.colAlign.getD 0 none = some x ∧ ∀ a, x ≠ .align a))) :
    ttAligns v = .error (.panic "interface conversion: not align.Alignment") := by
  unfold ttAligns
  have hof : ∀ raw, (∃ b, ttAligns.alignOf raw = .ok b) ∨
      ttAligns.alignOf raw = .error (.panic "interface conversion: not align.Alignment") := by
    intro raw
    unfold ttAligns.alignOf
    cases raw with
    | none => exact Or.inl ⟨_, rfl⟩
    | some x => cases x <;> first | exact Or.inl ⟨_, rfl⟩ | exact Or.inr rfl
  have hofbad : ∀ x, (∀ a, x ≠ Val.align a) →
      ttAligns.alignOf (some x) = .error (.panic "interface conversion: not align.Alignment") := by
    intro x hx
    unfold ttAligns.alignOf
    cases x <;> first | rfl | exact absurd rfl (hx _)
  apply mapM_err
  · intro i _
    cases h : v.colAlign.getD (i + 1) none with
    | none => exact hof _
    | some a => exact hof _
  · obtain ⟨i, hi, h⟩ := hbad
    refine ⟨i, by simp [hi], ?_⟩
    rcases h with ⟨x, hx, hxa⟩ | ⟨hn, x, hx, hxa⟩
    · simp only [hx]; exact hofbad x hxa
    · simp only [hn, hx]; exact hofbad x hxa

/-! ### declared width and height (from the measuring callback `dimProps`) -/

/-- A single-line item that declares display width `dd` (and is not itself a `tabular.Cell`): the cell
    stores `dd`; `dimProps` lays the one line out as `max dd 0` wide and reports the same as the cell
    width; hence the view cell is `CellOK` and fits, the column is at least that wide, and the slot
    is the text plus exactly `colWidth − max dd 0` spaces. -/
theorem c04_declared_width (dw : Measure) (it : Item) (c0 : Cell) (l : Bytes) (dd : Int)
    (hp : it.plain) (hd : it.mWidth = some dd) (h1 : (Cell.update dw it c0).lines = [l]) :
    let c := Cell.update dw it c0
    c.width = dd ∧
    dimProps dw it c = (.dims (max dd 0) c.hgt,
      .lws ({ s := l, w := max dd 0 } :: List.replicate (c.hgt.toNat - 1) blankWS)) ∧
    (∀ (v : RTable) (i : Nat) (rc : RCell), rc ∈ v.colCells i → rc.cellWidth = max dd 0 →
        max dd 0 ≤ (v.colWidth i : Int) ∧
        ∀ al, (slotD { s := l, w := max dd 0 } (v.colWidth i) al).width = v.colWidth i ∧
              (slotD { s := l, w := max dd 0 } (v.colWidth i) al).lp
                + (slotD { s := l, w := max dd 0 } (v.colWidth i) al).rp
                = v.colWidth i - (max dd 0).toNat) := by
  intro c
  have hw : c.width = dd := update_width_declared dw it c0 hp dd hd
  refine ⟨hw, dimProps_declared_width dw it c l dd (by rw [hd]; rfl) hw h1, ?_⟩
  intro v i rc hrc hcw
  have h0 : (0 : Int) ≤ max dd 0 := Int.le_max_right dd 0
  have hge := colWidth_ge v i rc hrc
  rw [hcw] at hge
  exact ⟨hge, fun al => ⟨slotD_width ⟨l, max dd 0⟩ _ al h0 hge,
    (padSplit_sum al _).trans (slotPad_eq ⟨l, max dd 0⟩ _ h0)⟩⟩

/-- An item that declares height `hh ≥ 1` (and is not itself a `tabular.Cell`): the measured line list
    has `max hh (number of text lines)` entries (the text first, then blanks), so any row showing
    the cell in one of its first `ncols` positions has at least `hh` content lines. -/
theorem c04_declared_height (dw : Measure) (it : Item) (c0 : Cell) (hh : Int)
    (hp : it.plain) (hd : it.mHeight = some hh) (h1 : 1 ≤ hh) :
    let c := Cell.update dw it c0
    ∀ ls, (dimProps dw it c).2 = .lws ls →
      ls.length = max hh.toNat c.lines.length ∧
      ∀ (cells : List RCell) (n i : Nat) (rc : RCell), cells[i]? = some rc → i < n → rc.lws = ls →
        hh.toNat ≤ rowLineCount cells n ∧
        ∀ L I R cw al, hh.toNat ≤ (rowChunks L I R cw al cells n).length := by
  intro c ls hls
  have hht : c.height = hh := update_height_declared dw it c0 hp hh hd
  have hlen := dimProps_lws_length dw it c ls hls
  rw [hgt_of_height c (hht ▸ h1), hht] at hlen
  refine ⟨hlen, ?_⟩
  intro cells n i rc hrc hi hl
  have hge : hh.toNat ≤ rowLineCount cells n := by
    have := rowLineCount_ge cells n i rc hrc hi
    rw [hl, hlen] at this
    exact Nat.le_trans (Nat.le_max_left _ _) this
  exact ⟨hge, fun L I R cw al => by rw [rowChunks_length]; exact hge⟩

/-- In general (`dimProps` on any cell): the line list is one entry per text line, text unmodified,
    then blanks up to `max height #lines`. -/
theorem c04_lws_shape (dw : Measure) (it : Item) (c : Cell) :
    ∃ ls, (dimProps dw it c).2 = .lws ls ∧
      ls.length = max c.hgt.toNat c.lines.length ∧
      (ls.take c.lines.length).map (·.s) = c.lines ∧
      ls.drop c.lines.length = List.replicate (ls.length - c.lines.length) blankWS := by
  have hlen := dimProps_lws_length dw it c _ (by rw [dimProps_eq])
  have hmap : (c.lines.map (fun l => ({ s := l, w := dimLineW dw it c l } : WidthString))).length
      = c.lines.length := List.length_map _
  refine ⟨_, by rw [dimProps_eq], hlen, ?_, ?_⟩
  · rw [List.take_left' hmap, List.map_map]
    exact List.map_id'' (fun _ => rfl) _
  · rw [List.drop_left' hmap, hlen]

/-! ### the text is preserved, slot by slot -/

/-- The `k`-th content line of a row (header or body) of a measured view is
    `contentLine … (rowSlots … cells k)`, and for every column `i < ncols` its slot `i` is
    `spaces lp ++ t ++ spaces rp` where `t` is EXACTLY `(lines cellᵢ.text)[k]` — or empty when the row
    has no cell `i` or the cell no line `k` — laid out in the column's width with the column's
    effective alignment. -/
theorem c04_text_preserved (dw : Measure) (v : RTable) (cells : List RCell) (k i : Nat)
    (hrow : v.header = some cells ∨ some cells ∈ v.rows)
    (hv : ∀ c ∈ v.allCells, CellOK dw c) (hi : i < v.ncols) :
    let t : Bytes := match cells[i]? with
      | some c => (lines c.text).getD k []
      | none => []
    ∃ s : SlotD, (rowSlots v.colWidths v.effAligns cells k)[i]? = some s ∧
      s = slotD (cellLineWS cells i k) (v.colWidth i) (v.effAlign i) ∧
      s.ws.s = t ∧ s.bytes = spaces s.lp ++ t ++ spaces s.rp ∧
      (v.effAlign i ≤ 3 → withinWidthAligned (cellLineWS cells i k) (v.colWidth i) (v.effAlign i)
          = .ok s.bytes) := by
  intro t
  have hs : (rowSlots v.colWidths v.effAligns cells k)[i]?
      = some (slotD (cellLineWS cells i k) (v.colWidth i) (v.effAlign i)) := by
    unfold rowSlots
    rw [lineSlots_getElem?, colWidths_getElem? v i hi, effAligns_getD v i hi]; rfl
  have ht : (cellLineWS cells i k).s = t := by
    show _ = (match cells[i]? with | some c => (lines c.text).getD k [] | none => [])
    unfold cellLineWS
    cases hc : cells[i]? with
    | none => rfl
    | some c => exact (hv c (mem_allCells v cells c hrow (List.mem_of_getElem? hc))).text k
  have hnn := cellLineWS_nonneg cells
    (fun c hc => (hv c (mem_allCells v cells c hrow hc)).nonneg) i k
  refine ⟨_, hs, rfl, ht, ?_, fun hal => ?_⟩
  · unfold SlotD.bytes; rw [slotD_ws, ht]
  · rw [withinWidthAligned_eq _ _ _ hnn hal]; rfl

/-- … and that content line is what the render writes: the header's line `k` is chunk `1 + k`. -/
theorem c04_header_line_written (dw : Measure) (d : Decoration) (v : RTable) (hs' : List RCell) (k : Nat)
    (hn : 1 ≤ v.ncols) (hs : WFShape v) (ha : AlignOK v) (hd : DecoOK dw d)
    (hv : ∀ c ∈ v.allCells, CellOK dw c) (hh : v.header = some hs') (hk : k < rowLineCount hs' v.ncols) :
    (renderTextBody d v).chunks[1 + k]? =
      some (contentLine d.vHeader d.vHeader d.vHeader (rowSlots v.colWidths v.effAligns hs' k)) := by
  rw [c03_line_structure_aux d v hn hs ha hd.divs_header hd.divs_body (fun c hc => (hv c hc).nonneg)]
  unfold specChunks
  simp only [hh]
  rw [Nat.add_comm, List.append_assoc, List.cons_append, List.getElem?_cons_succ, List.append_assoc,
    List.getElem?_append_left (by rw [rowChunks_length]; exact hk)]
  exact rowChunks_getElem? _ _ _ _ _ _ _ _ hk

/-- Every content line written for a body row is one of that row's `contentLine`s (and every one
    of them is written): the row's block of chunks is `rowChunks`. -/
theorem c04_body_lines_written (dw : Measure) (d : Decoration) (v : RTable)
    (hn : 1 ≤ v.ncols) (hs : WFShape v) (ha : AlignOK v) (hd : DecoOK dw d)
    (hv : ∀ c ∈ v.allCells, CellOK dw c) :
    ∃ pre post, (renderTextBody d v).chunks = pre ++
      v.rows.flatMap (fun r => match r with
        | none => [lineSeparator d v.colWidths]
        | some cells => (List.range (rowLineCount cells v.ncols)).map (fun k =>
            contentLine d.vBodyBorder d.vBodyInner d.vBodyBorder
              (rowSlots v.colWidths v.effAligns cells k))) ++ post := by
  rw [c03_line_structure_aux d v hn hs ha hd.divs_header hd.divs_body (fun c hc => (hv c hc).nonneg)]
  exact ⟨_, _, rfl⟩

/-! ### non-vacuity (`dw := List.length`, the view and decorations of `Proofs/TextExample.lean`) -/

namespace C04Example
open TextExample

example : withinWidthAligned ⟨[97], 1⟩ 4 3 = .ok [32, 97, 32, 32] := rfl
example : ∃ lp rp, withinWidthAligned ⟨[97], 1⟩ 4 3 = .ok (spaces lp ++ [97] ++ spaces rp) ∧ lp = 1 ∧ rp = 2 := by
  obtain ⟨lp, rp, h, _, _, h3, _⟩ := c04_slot ⟨[97], 1⟩ 4 3 (by decide) (by decide) (by decide)
  exact ⟨lp, rp, h, (h3 rfl).1, (h3 rfl).2.1⟩
example : withinWidthAligned ⟨[97, 98, 99], 3⟩ 2 2 = .ok [97, 98, 99] :=
  (c04_slot_other ⟨[97, 98, 99], 3⟩ 2 2).1 (by decide) (by decide) (by decide)
example : withinWidthAligned ⟨[97], -1⟩ 2 1 = .ok [32, 32] := (c04_slot_other ⟨[97], -1⟩ 2 1).2.1 (by decide)
example : withinWidthAligned ⟨[97], 1⟩ 2 7 = .error (.panic "unhandled alignment") :=
  (c04_slot_other ⟨[97], 1⟩ 2 7).2.2 (by decide) (by decide)
/-- ragged row `f`: column 1 has no cell -/
example : (slotD (cellLineWS [measuredCell List.length [102]] 1 0) 2 3).bytes = [32, 32] :=
  (c04_blank [measuredCell List.length [102]] 1 0 2 3 (by decide) (Or.inl rfl)).2.2
/-- row `"ccc\nd" | e`: cell 1 has no second line -/
example : cellLineWS [measuredCell List.length [99, 99, 99, 10, 100], measuredCell List.length [101]] 1 1
    = blankWS :=
  (c04_blank _ 1 1 2 3 (by decide) (Or.inr ⟨_, rfl, by decide⟩)).1
example : ttAligns exView = .ok [2, 3] := (c04_eff_align exView ha).1
example : ttAligns { exView with colAlign := [some (.align 2), none, some (.align 1)] } = .ok [2, 1] := by
  refine (c04_eff_align _ ?_).1
  intro i hi
  have : i = 0 ∨ i = 1 ∨ i = 2 := by simp [exView] at hi; omega
  rcases this with rfl | rfl | rfl
  · right; exact ⟨2, by simp, rfl⟩
  · left; rfl
  · right; exact ⟨1, by simp, rfl⟩
example : ttAligns { exView with colAlign := [some (.user 7), none, some (.align 1)] }
    = .error (.panic "interface conversion: not align.Alignment") :=
  c04_eff_align_bad _ ⟨0, by decide, Or.inr ⟨rfl, .user 7, rfl, by intro a h; cases h⟩⟩

example : dimProps List.length wideItem (Cell.update List.length wideItem { item := 0 })
    = (.dims 5 3, .lws [⟨[97, 98], 5⟩, blankWS, blankWS]) := by
  have := (c04_declared_width List.length wideItem { item := 0 } [97, 98] 5 wide_plain rfl (by decide)).2.1
  rw [this]; decide
example := c04_declared_height List.length wideItem { item := 0 } 3 wide_plain rfl (by decide)
example := c04_lws_shape List.length wideItem { item := 0 }
/-- second line of the first body row, column 0: exactly `d` -/
example : ∃ s : SlotD, (rowSlots exView.colWidths exView.effAligns
      [measuredCell List.length [99, 99, 99, 10, 100], measuredCell List.length [101]] 1)[0]? = some s ∧
    s.ws.s = [100] := by
  obtain ⟨s, h1, _, h3, _⟩ := c04_text_preserved List.length exView
    [measuredCell List.length [99, 99, 99, 10, 100], measuredCell List.length [101]] 1 0
    (Or.inr (by simp [exView])) (fun c hc => (hall c hc).1) (by decide)
  exact ⟨s, h1, h3⟩
example := c04_header_line_written List.length asciiSimple exView _ 0 hn hs ha (Or.inl hg)
  (fun c hc => (hall c hc).1) rfl (by decide)
example := c04_body_lines_written List.length asciiSimple exView hn hs ha (Or.inl hg)
  (fun c hc => (hall c hc).1)

end C04Example

end Tab
