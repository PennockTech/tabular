/-
  C08e — C08 clauses 3 (delimiter row) and 4 (cell read-back) at HISTORY level.

  `c08_cells` / `c08_delim` (Props/C08.lean) are about `renderMarkdown dw v` for a view `v`;
  `e2ecb_markdown` (Props/E2Ecb.lean) restates only line and pipe counts for
  `((run x.dw ops).renderTo x wr).2`.  Here the two clauses are stated for that output, for ANY
  valid build history with ANY callbacks registered anywhere:

   * `c08e_cells`: every cell piece of every output line, trimmed and entity-decoded, is the trimmed
     text of the corresponding cell of the BUILT table — the view `v` of `run ops` BEFORE the callbacks
     pass of the render (texts the history put there; the pass cannot change them:
     `e2ecb_content_stable`); `c08e_cells_built` says the same directly in terms of the world's row
     store (`Cell.str` of cell `j` of the header row / of the `k`-th non-separator row);
   * `c08e_delim`: cell `i` of the delimiter line is the control cell (at least three dashes, colon
     markers) for the effective alignment of column `i` in the view AFTER the pass: the column's own
     value, else column 0's;
   * `c08e_delim_last_writer`: when the column chains are `Nodup`, that alignment is the LAST value
     written by the column's own pre-time then post-time callbacks, else the value the history left
     (`e2ecb_props_last_writer`).  `Nodup` holds for every `CellsOk` history
     (`e2ecb_columns_nodup_history`); since `Props/C12h` cannot be imported next to `Props/E2Ecb`
     (see Props/E2EcbH.lean), that composition is `c08e_delim_history` in Props/C08eH.lean.

  Hypotheses: those of `e2ecb_markdown` (`Valid ops`, the table exists, `AlignOK` of the post-pass
  view) plus "the table has a header and at least one column", which by `e2ecb_markdown` is exactly
  "the render succeeds" (otherwise nothing is written).  Every theorem also returns `m.res = .ok ()`.
-/
import Tabmodel.Props.E2Ecb
import Tabmodel.Proofs.C08eCore
namespace Tab
open World hiding CellOK
open E2Ecb

/-- Cells, against the view of the built world.  With `v` the view of `run ops` (before the pass) and
    `hs` its header: source row `k` of `hs :: bodyRows v` is on output line `0` (header) or `k + 1`
    (body; line 1 is the delimiter); for every cell `c` of that source row, the `j`-th piece between
    unescaped pipes is the escaped `c.text` with at least one space on either side and nothing else,
    and, trimmed and entity-decoded, it is the trimmed `c.text`; a column the row has no cell for holds
    a single space. -/
theorem c08e_cells (x : Ext) (ops : List BuildOp) (hv : Valid ops = true) (wr : Wrapper)
    (hk : wr.kind = .markdown) (ht : wr.core < (run x.dw ops).tables.length)
    (ha : AlignOK ((invokeRenderCallbacks x.dw (run x.dw ops) wr.core).view wr.core))
    (hh : ((run x.dw ops).table wr.core).header.isSome = true)
    (hn : 1 ≤ ((run x.dw ops).table wr.core).nColumns) :
    let w := run x.dw ops
    let v := w.view wr.core
    let m := (w.renderTo x wr).2
    m.res = .ok () ∧
    ∀ hs, v.header = some hs → ∀ k cells, (hs :: bodyRows v)[k]? = some cells →
      ∃ line, (lines m.output)[if k = 0 then 0 else k + 1]? = some line ∧
        (∀ j c, cells[j]? = some c →
          ∃ e l r, (splitPipes line)[j + 1]? = some e ∧
            e = spaces (l + 1) ++ mdEscape c.text ++ spaces (r + 1) ∧
            mdDecode (trimSp e) = trimSp c.text) ∧
        (∀ j, cells.length ≤ j → j < (w.table wr.core).nColumns → (splitPipes line)[j + 1]? = some [32]) := by
  intro w v m
  have hmd := C08e.mdOK_inv x.dw (c02_inv_run x.dw ops hv) wr.core ht ha hh hn
  refine ⟨?_, C08e.cells_world x w wr hk hmd⟩
  show (w.renderTo x wr).2.res = .ok ()
  rw [renderTo_markdown x w wr hk]
  exact c08_ok x.dw _ hmd

/-- Cells, against the world's row store.  `hr` is the header row of the built table; source row `k`
    of `hr :: (non-separator rows of the table, in order)` is row id `r`; cell `j` of that row is `ce`:
    then piece `j + 1` of output line `0` / `k + 1`, trimmed and entity-decoded, is the trimmed text
    `ce.str` the history put into that cell. -/
theorem c08e_cells_built (x : Ext) (ops : List BuildOp) (hv : Valid ops = true) (wr : Wrapper)
    (hk : wr.kind = .markdown) (ht : wr.core < (run x.dw ops).tables.length)
    (ha : AlignOK ((invokeRenderCallbacks x.dw (run x.dw ops) wr.core).view wr.core))
    (hn : 1 ≤ ((run x.dw ops).table wr.core).nColumns)
    (hr : Nat) (hh : ((run x.dw ops).table wr.core).header = some hr)
    (k r : Nat)
    (hkr : (hr :: ((run x.dw ops).table wr.core).rows.filter (fun r => !((run x.dw ops).row r).isSep))[k]? = some r)
    (j : Nat) (ce : Cell) (hce : ((run x.dw ops).rowCells r)[j]? = some ce) :
    let m := ((run x.dw ops).renderTo x wr).2
    ∃ line e, (lines m.output)[if k = 0 then 0 else k + 1]? = some line ∧
      (splitPipes line)[j + 1]? = some e ∧ mdDecode (trimSp e) = trimSp ce.str := by
  intro m
  obtain ⟨hhv, hsrc⟩ := C08e.srcRows_view (run x.dw ops) wr.core hr hh
  obtain ⟨_, hcells⟩ := c08e_cells x ops hv wr hk ht ha (by rw [hh]; rfl) hn
  have hkk : (((run x.dw ops).rowCells hr).map (run x.dw ops).rcell :: bodyRows ((run x.dw ops).view wr.core))[k]? =
      some (((run x.dw ops).rowCells r).map (run x.dw ops).rcell) := by
    rw [hsrc, List.getElem?_map, hkr]; rfl
  obtain ⟨line, hline, hc, _⟩ := hcells _ hhv k _ hkk
  obtain ⟨e, _, _, he, _, hd⟩ := hc j ((run x.dw ops).rcell ce) (by rw [List.getElem?_map, hce]; rfl)
  exact ⟨line, e, hline, he, hd⟩

/-- The delimiter row.  With `v'` the view AFTER the callbacks pass of this very render: cell `i` of
    the second output line is `mdControlCell w a` — a marker byte, `nd ≥ 3` dashes (at least the
    measured column width `w = mdColWidth v' i`), a marker byte, the markers being (space, space) for
    unset / left, (space, colon) for right, (colon, colon) for centre — possibly with spaces around it
    (none when the measure gives the cell at least its column's width), where `a = effAlignNat v' i`
    is the EFFECTIVE alignment of column `i`: column record `i + 1`'s own `align` value if set, else
    the defaults column's (record 0). -/
theorem c08e_delim (x : Ext) (ops : List BuildOp) (hv : Valid ops = true) (wr : Wrapper)
    (hk : wr.kind = .markdown) (ht : wr.core < (run x.dw ops).tables.length)
    (ha : AlignOK ((invokeRenderCallbacks x.dw (run x.dw ops) wr.core).view wr.core))
    (hh : ((run x.dw ops).table wr.core).header.isSome = true)
    (hn : 1 ≤ ((run x.dw ops).table wr.core).nColumns)
    (i : Nat) (hi : i < ((run x.dw ops).table wr.core).nColumns) :
    let w := run x.dw ops
    let v' := (invokeRenderCallbacks x.dw w wr.core).view wr.core
    let m := (w.renderTo x wr).2
    m.res = .ok () ∧
    (∃ (line : Bytes) (l r nd : Nat),
      (lines m.output)[1]? = some line ∧
      (splitPipes line)[i + 1]? =
        some (spaces l ++ mdControlCell (mdColWidth v' i) (effAlignNat v' i) ++ spaces r) ∧
      (mdColWidth v' i ≤ (x.dw (mdControlCell (mdColWidth v' i) (effAlignNat v' i)) : Nat) → l = 0 ∧ r = 0) ∧
      3 ≤ nd ∧ mdColWidth v' i ≤ (nd : Int) ∧
      mdControlCell (mdColWidth v' i) (effAlignNat v' i) =
        (mdMarkers (effAlignNat v' i)).1 :: List.replicate nd 45 ++ [(mdMarkers (effAlignNat v' i)).2]) ∧
    effAlign v' i = (match v'.colAlign.getD (i + 1) none with
      | some a => some a
      | none => v'.colAlign.getD 0 none) ∧
    (effAlignNat v' i = 0 ∨ effAlignNat v' i = 1 ∨ effAlignNat v' i = 2 ∨ effAlignNat v' i = 3) := by
  intro w v' m
  have hmd : MdOK v' := C08e.mdOK_inv x.dw (c02_inv_run x.dw ops hv) wr.core ht ha hh hn
  have hi' : i < v'.ncols := by rw [(irc_view_content x.dw w wr.core wr.core).1]; exact hi
  have ha' : AlignOK v' := ha
  have hm : m = renderMarkdown x.dw v' := renderTo_markdown x w wr hk
  -- from here on `v'` is any such view and `m` its render: comparing the two ways of writing the
  -- `match` below would otherwise unfold the whole callbacks pass
  clear_value v' m
  subst hm
  exact ⟨c08_ok x.dw v' hmd, C08e.delim_view x.dw v' hmd i hi', by unfold effAlign; rfl,
    C08e.effAlignNat_domain v' ha' i hi'⟩

/-- Last writer.  When the column chains of the built table hold one link per key, the effective
    alignment that the delimiter cell of column `i` shows is: the last `align` value written by column
    record `i + 1`'s own pre-time then post-time callbacks (the value the history left on it if they
    write none), if that is set; otherwise the same for the defaults column, record 0. -/
theorem c08e_delim_last_writer (x : Ext) (ops : List BuildOp) (wr : Wrapper)
    (hnd : ∀ c ∈ ((run x.dw ops).table wr.core).columns, c.props.keys.Nodup) (i : Nat) :
    let w := run x.dw ops
    let v' := (invokeRenderCallbacks x.dw w wr.core).view wr.core
    let lw := fun n => ((w.table wr.core).columns[n]?).bind (fun c =>
      lastWrite .align (c.selfCbs.pre ++ c.selfCbs.post) (c.props.get .align))
    effAlign v' i = (match lw (i + 1) with
      | some a => some a
      | none => lw 0) := by
  intro w v' lw
  unfold effAlign
  rw [C08e.colAlign_getD_last_writer x.dw w wr.core hnd (i + 1),
    C08e.colAlign_getD_last_writer x.dw w wr.core hnd 0]
  rfl

/-! ### non-vacuity: the history `cbOps` of Proofs/E2EcbExample.lean (`dw := List.length`)

  Table 0: headers `a b`; row `c d`; a separator; a ragged row `e`.  The history right-aligns column 1;
  column 1's own pre-time callback then sets centre; column 2's callbacks set right, then unset. -/

namespace E2EcbExample

private theorem hh08 : ((run e2eX.dw cbOps).table e2eMd.core).header.isSome = true := by decide +kernel

example := c08e_cells e2eX cbOps hv e2eMd rfl ht ha hh08 hn
-- source row 2 (the ragged row `e`, row id 3) is on line 3; its cell 0 reads back `e`; column 1 is padding
example : ((run e2eX.dw cbOps).table e2eMd.core).header = some 0 := by decide +kernel
example : (0 :: ((run e2eX.dw cbOps).table e2eMd.core).rows.filter
    (fun r => !((run e2eX.dw cbOps).row r).isSep)) = [0, 1, 3] := by decide +kernel
example : ((run e2eX.dw cbOps).rowCells 3).map (·.str) = [[101]] := by decide +kernel
example : ∃ line e, (lines ((run e2eX.dw cbOps).renderTo e2eX e2eMd).2.output)[3]? = some line ∧
    (splitPipes line)[1]? = some e ∧ mdDecode (trimSp e) = [101] := by
  obtain ⟨ce, hce⟩ : ∃ ce, ((run e2eX.dw cbOps).rowCells 3)[0]? = some ce ∧ ce.str = [101] := by
    decide +kernel
  obtain ⟨line, e, h1, h2, h3⟩ := c08e_cells_built e2eX cbOps hv e2eMd rfl ht ha hn 0 (by decide +kernel)
    2 3 (by decide +kernel) 0 ce hce.1
  exact ⟨line, e, h1, h2, by rw [h3, hce.2]; decide⟩
-- the delimiter row: column 0 is centred by its own callback although the history said right
example := c08e_delim e2eX cbOps hv e2eMd rfl ht ha hh08 hn 0 (by decide +kernel)
example : effAlign ((invokeRenderCallbacks e2eX.dw (run e2eX.dw cbOps) 0).view 0) 0 = some (.align 3) := by
  rw [show effAlign ((invokeRenderCallbacks e2eX.dw (run e2eX.dw cbOps) 0).view 0) 0 = _ from
    c08e_delim_last_writer e2eX cbOps e2eMd hnd 0]
  decide +kernel
example : effAlign ((run e2eX.dw cbOps).view 0) 0 = some (.align 2) := by decide +kernel
-- column 1: set right at pre time, unset at post time; the defaults column has no value: unset
example : effAlign ((invokeRenderCallbacks e2eX.dw (run e2eX.dw cbOps) 0).view 0) 1 = none := by
  rw [show effAlign ((invokeRenderCallbacks e2eX.dw (run e2eX.dw cbOps) 0).view 0) 1 = _ from
    c08e_delim_last_writer e2eX cbOps e2eMd hnd 1]
  decide +kernel

end E2EcbExample

end Tab
