/-
  E2Ecb — capstone theorems: the format properties, stated about what the public API builds, for
  ARBITRARY user callbacks (`Props/E2E.lean` specialises them to callbacks that only log).

  The model's callback language `Cb` is `log`, `setProp id k v`, `fail id e` and the two measuring
  callbacks.  As in `render_callbacks.go` / `properties.go`, a callback is handed a property owner
  and can only set properties on it, record, or fail.  Sections 0–4 hold for
  EVERY world `w`, table `t` and measure `dw` (no `Valid`, no `LogOnly`, no side condition on keys).

  About private keys.  `Cb.setProp id k v` allows `k` to be one of the three private measurement
  keys, which a Go user cannot name (unexported types).  Nothing below needs to exclude that:
  `RCell.content` does not contain the measurement fields, and CSV / JSON / HTML do not read them.
  Only statements about the MEASURED fields (text tables, markdown column widths) need the side
  condition `UserKeysOnly w t` (Proofs/StableTraverse.lean, decidable: no callback the pass invokes is a
  `.setProp` on a private key): `e2ecb_measured_view`, `e2ecb_text`, `e2ecb_text_rectangle*`; the
  example at the end shows it is needed there.
-/
import Tabmodel.Props.C03
import Tabmodel.Props.C06
import Tabmodel.Props.C09
import Tabmodel.Props.C13x
import Tabmodel.Proofs.E2EText
import Tabmodel.Proofs.C08eCore
import Tabmodel.Proofs.E2EcbExample
namespace Tab
open World hiding CellOK
open E2Ecb

/-- what `RenderTo` of wrapper `wr` emits, as a function of the view it reads -/
def renderView (x : Ext) (wr : Wrapper) (v : RTable) : Emit Unit :=
  match wr.kind with
  | .text => if wr.decor = emptyDecoration then Emit.fail .noDecoration else renderTextBody wr.decor v
  | .csv => renderCsv v
  | .json => renderJson x.js v
  | .markdown => renderMarkdown x.dw v
  | .html => renderHtml wr.html v

/-! ### 0. the static schedule -/

/-- Whatever the callbacks are, the pass over `t` is the left fold of single callback invocations over
    `passSteps w t` — table (pre), every column record (pre), header row, rows (row pre, per cell the
    eight calls, row post), every column record (post), table (post), all read from the world BEFORE
    the pass; the user events of that list are the documented list of `c13x_render_order`; every
    target is `t`, a column of `t`, a visited row or one of its cells, every error taker is `t` or a
    visited row's container; and the pass keeps the world's `core` (everything but property chains,
    error lists and the log). -/
theorem e2ecb_schedule (dw : Measure) (w : World) (t : Nat) :
    invokeRenderCallbacks dw w t = runSteps dw w (passSteps w t) ∧
    stepEvents (passSteps w t) = expectedRenderAny w t ∧
    (invokeRenderCallbacks dw w t).core = w.core ∧
    ∀ s ∈ passSteps w t,
      (s.tgt = .table t ∨ (∃ j, s.tgt = .column t j) ∨
        ∃ r ∈ passRows w t, s.tgt = .row r ∨ ∃ i, s.tgt = .cell r i) ∧
      (s.tk = .table t ∨ ∃ r ∈ passRows w t, s.tk = rowECTaker w r) :=
  ⟨irc_sched dw w t, stepEvents_passSteps w t, irc_core dw w t, fun _ hs => mem_passSteps hs⟩

/-! ### 1. the callbacks pass changes no text, whatever the callbacks -/

/-- For ANY registered callbacks: the view the renderer reads (`v'`, after the pass) has the same
    column count, the same header / row shape (separators in the same places, the same number of
    cells everywhere, the same number of column-property entries) and, cell by cell, the same
    `content` (text, empty, json) as the view before the pass (`v`); so up to the three measurement
    fields `v'` is `v` with the column properties of `v'`. -/
theorem e2ecb_content_stable (dw : Measure) (w : World) (t : Nat) :
    let v := w.view t
    let v' := (invokeRenderCallbacks dw w t).view t
    v'.ncols = v.ncols ∧
    v'.header.map (·.map RCell.content) = v.header.map (·.map RCell.content) ∧
    v'.rows.map (·.map (·.map RCell.content)) = v.rows.map (·.map (·.map RCell.content)) ∧
    v'.colAlign.length = v.colAlign.length ∧ v'.colSkip.length = v.colSkip.length ∧
    v'.mapCells (RCell.mask false false) =
      (v.withCols v'.colAlign v'.colSkip).mapCells (RCell.mask false false) := by
  intro v v'
  obtain ⟨hn, hh, hr⟩ := irc_view_content dw w t t
  have hl : ((invokeRenderCallbacks dw w t).table t).columns.length = (w.table t).columns.length :=
    of_core_eq (fun w => (w.table t).columns.length) (rd_ncolrecs t) (irc_core dw w t)
  refine ⟨hn, hh, hr, ?_, ?_, irc_view_mask dw w t t⟩
  · rw [view_colAlign, view_colAlign, List.length_map, List.length_map, hl]
  · rw [view_colSkip, view_colSkip, List.length_map, List.length_map, hl]

/-- The same, read cell by cell: row `i` is a separator in `v'` iff it is in `v`, and cell `j` of
    row `i` (and of the header) exists in `v'` iff it exists in `v`, with the same content. -/
theorem e2ecb_content_stable_cell (dw : Measure) (w : World) (t : Nat) (i j : Nat) :
    let v := w.view t
    let v' := (invokeRenderCallbacks dw w t).view t
    (v'.rows[i]? = some none ↔ v.rows[i]? = some none) ∧
    ((v'.rows[i]?.bind (fun r => r.bind (·[j]?))).map RCell.content =
      (v.rows[i]?.bind (fun r => r.bind (·[j]?))).map RCell.content) ∧
    ((v'.header.bind (·[j]?)).map RCell.content = (v.header.bind (·[j]?)).map RCell.content) := by
  intro v v'
  obtain ⟨_, hh, hr, _⟩ := e2ecb_content_stable dw w t
  exact ⟨rows_sep_of_content hr i, rows_cell_of_content hr i j, header_cell_of_content hh j⟩

/-- A pass over `t` changes no text of ANY table's view (rows may be shared between tables). -/
theorem e2ecb_content_stable_any_table (dw : Measure) (w : World) (t t2 : Nat) :
    let v := w.view t2
    let v' := (invokeRenderCallbacks dw w t).view t2
    v'.ncols = v.ncols ∧
    v'.header.map (·.map RCell.content) = v.header.map (·.map RCell.content) ∧
    v'.rows.map (·.map (·.map RCell.content)) = v.rows.map (·.map (·.map RCell.content)) :=
  irc_view_content dw w t t2

/-! ### 2. column properties: the last writer -/

/-- The callbacks a pass invokes with column record `n` of `t` as owner are exactly that column's own
    pre-time callbacks followed by its own post-time callbacks, in registration order (none if the
    record does not exist).  Index 0 is the defaults column. -/
theorem e2ecb_column_firing (w : World) (t n : Nat) :
    ((passSteps w t).filter (fun s => decide (s.tgt = .column t n))).map (·.cb) =
      ((w.column? t n).map (fun c => c.selfCbs.pre ++ c.selfCbs.post)).getD [] :=
  filter_col_passSteps w t n

/-- Exact, for every world: after the pass each column record of `t` carries its chain from before
    with those callbacks applied in that order (`Cb.applyChain`: a `.setProp _ k v` does
    `SetProperty(k, v)`, every other callback leaves a column's chain alone).  No other callback of
    the pass — on the table, on rows, on cells, on other columns — touches it. -/
theorem e2ecb_props_chain (dw : Measure) (w : World) (t : Nat) :
    ((invokeRenderCallbacks dw w t).table t).columns.map (·.props) =
      (w.table t).columns.map (fun c => (c.selfCbs.pre ++ c.selfCbs.post).foldl Cb.applyChain c.props) :=
  irc_colProps dw w t

/-- Last writer.  When the column chains hold one link per key (true of every world a history builds
    from well-formed cell values: `c12h_nodup`, composed in `e2ecb_columns_nodup_history`,
    Props/E2EcbH.lean), the alignment / skipable value the renderer reads for
    column `i` after the pass is `lastWrite`: the value given by the LAST `.setProp _ align v`
    (resp. `skipable`) among the column's own pre-time then post-time callbacks, and the value before
    the pass if there is none. -/
theorem e2ecb_props_last_writer (dw : Measure) (w : World) (t : Nat)
    (hnd : ∀ c ∈ (w.table t).columns, c.props.keys.Nodup) :
    let v' := (invokeRenderCallbacks dw w t).view t
    v'.colAlign = (w.table t).columns.map (fun c =>
      lastWrite .align (c.selfCbs.pre ++ c.selfCbs.post) (c.props.get .align)) ∧
    v'.colSkip = (w.table t).columns.map (fun c =>
      lastWrite .skipable (c.selfCbs.pre ++ c.selfCbs.post) (c.props.get .skipable)) := by
  intro v'
  exact ⟨(view_colAlign _ t).trans (irc_colGet_lastWrite dw w t hnd .align),
    (view_colSkip _ t).trans (irc_colGet_lastWrite dw w t hnd .skipable)⟩

/-- Frame (no hypothesis on the chains): if none of the column records' own pre-time and post-time callbacks
    may write `align` (resp. `skipable`) — whatever every other callback of the table, its rows and
    cells does — the renderer reads the alignments (resp. skipable flags) from before the pass. -/
theorem e2ecb_props_frame (dw : Measure) (w : World) (t : Nat) :
    let v := w.view t
    let v' := (invokeRenderCallbacks dw w t).view t
    ((∀ c ∈ (w.table t).columns, ∀ cb ∈ c.selfCbs.pre ++ c.selfCbs.post, cb.writes .align = false) →
      v'.colAlign = v.colAlign) ∧
    ((∀ c ∈ (w.table t).columns, ∀ cb ∈ c.selfCbs.pre ++ c.selfCbs.post, cb.writes .skipable = false) →
      v'.colSkip = v.colSkip) := by
  intro v v'
  exact ⟨fun h => (view_colAlign _ t).trans (irc_colGet_frame dw w t .align h),
    fun h => (view_colSkip _ t).trans (irc_colGet_frame dw w t .skipable h)⟩

/-! ### 3. the renderer reads the view after its own pass -/

/-- `RenderTo`, every kind: what is emitted is `renderView` of the view taken AFTER the callbacks
    pass of that very call (so the layout uses the alignment / skipable values the callbacks set
    during it), and the world afterwards is the world after that pass — except for a text wrapper
    with the empty decoration, which is refused before any callback runs. -/
theorem e2ecb_render_reads_post_pass_view (x : Ext) (w : World) (wr : Wrapper) :
    let w' := invokeRenderCallbacks x.dw w wr.core
    (w.renderTo x wr).2 = renderView x wr (w'.view wr.core) ∧
    (w.renderTo x wr).1 = if wr.kind = .text ∧ wr.decor = emptyDecoration then w else w' := by
  intro w'
  unfold renderTo renderView
  cases hk : wr.kind with
  | text =>
    by_cases hd : wr.decor = emptyDecoration
    · simp [hd]
    · simp [hd]; exact ⟨rfl, rfl⟩
  | csv => simp; exact ⟨rfl, rfl⟩
  | json => simp; exact ⟨rfl, rfl⟩
  | html => simp; exact ⟨rfl, rfl⟩
  | markdown => simp; exact ⟨rfl, rfl⟩

/-- The three kinds that read no measurement: the output is a function of the texts BEFORE the pass
    and the column properties AFTER it (CSV and HTML read no column property at all). -/
theorem e2ecb_render_unmeasured (x : Ext) (w : World) (wr : Wrapper) :
    let v := w.view wr.core
    let v' := (invokeRenderCallbacks x.dw w wr.core).view wr.core
    (wr.kind = .csv → (w.renderTo x wr).2 = renderCsv v) ∧
    (wr.kind = .html → (w.renderTo x wr).2 = renderHtml wr.html v) ∧
    (wr.kind = .json → (w.renderTo x wr).2 = renderJson x.js (v.withCols v'.colAlign v'.colSkip)) := by
  intro v v'
  have hm := (e2ecb_content_stable x.dw w wr.core).2.2.2.2.2
  refine ⟨fun hk => ?_, fun hk => ?_, fun hk => ?_⟩
  · rw [renderTo_csv x w wr hk]
    exact (of_mapCells_eq (R := renderCsv) (renderCsv_mapCells (RCell.mask false false) (fun _ => rfl)) hm).trans
      (renderCsv_withCols v _ _)
  · rw [renderTo_html x w wr hk]
    exact (of_mapCells_eq (R := renderHtml wr.html)
      (renderHtml_mapCells wr.html (RCell.mask false false) (fun _ => rfl)) hm).trans (renderHtml_withCols _ v _ _)
  · rw [renderTo_json x w wr hk]
    exact of_mapCells_eq
      (renderJson_mapCells x.js (RCell.mask false false) (fun _ => rfl) (fun _ => rfl) (fun _ => rfl)) hm

/-! ### 4. errors and frame -/

/-- After the pass the error list of every existing table `t2` (in particular of `t`) is the old list
    followed by the errors the invoked callbacks returned with that table as taker, in firing order
    (`Step.errTo t2 s = raises s.tgt s.cb` when `s.tk = .table t2`: a `.fail _ e` returns `e`, a
    measuring callback handed a non-cell returns its "not a cell" error); the event log grows by the
    documented list. -/
theorem e2ecb_errors (dw : Measure) (w : World) (t : Nat) :
    let w' := invokeRenderCallbacks dw w t
    (w'.table t).errs = (w.table t).errs ++ (passSteps w t).filterMap (Step.errTo t) ∧
    (∀ t2, t2 < w.tables.length →
      (w'.table t2).errs = (w.table t2).errs ++ (passSteps w t).filterMap (Step.errTo t2)) ∧
    w'.events = w.events ++ stepEvents (passSteps w t) := by
  intro w'
  refine ⟨?_, fun t2 ht2 => irc_errs dw w t t2 ht2, ?_⟩
  · by_cases ht : t < w.tables.length
    · exact irc_errs dw w t t ht
    · have hp := passSteps_oob (Nat.le_of_not_lt ht)
      show ((invokeRenderCallbacks dw w t).table t).errs = _
      rw [irc_sched, hp, runSteps_nil]; simp
  · show (invokeRenderCallbacks dw w t).events = _
    rw [irc_sched, events_runSteps]

/-- When every visited row shares the table's container (`attachedAll`, true after every valid
    history that never re-attaches a header row: `c11h_invariant`; the composition is
    `e2ecb_errors_history` in Props/E2EcbH.lean — `Props/C11h.lean` cannot be imported
    here: `Proofs/C11.lean` and `Proofs/StableWrap.lean` both define `World.Stable`), every error raised during the pass
    lands in the table's list: it grows by exactly the errors returned, in firing order. -/
theorem e2ecb_errors_attached (dw : Measure) (w : World) (t : Nat)
    (ha : ∀ r ∈ passRows w t, (w.row r).ec = .table t) :
    ((invokeRenderCallbacks dw w t).table t).errs =
      (w.table t).errs ++ (passSteps w t).filterMap (fun s => raises s.tgt s.cb) := by
  rw [(e2ecb_errors dw w t).1, errTo_attached w t ha]

/-- Nothing else changes: the item store, the caller-held cell copies, the number of tables and
    rows, the whole `core` (structure, texts, callback sets, kinds of containers) are as before; every
    OTHER table keeps everything but possibly its error list (which `e2ecb_errors` describes); every row
    the pass does not visit is untouched. -/
theorem e2ecb_frame (dw : Measure) (w : World) (t : Nat) :
    let w' := invokeRenderCallbacks dw w t
    w'.items = w.items ∧ w'.copies = w.copies ∧
    w'.tables.length = w.tables.length ∧ w'.rows.length = w.rows.length ∧
    w'.core = w.core ∧
    (∀ t2, t2 ≠ t → (w'.table t2).noErrs = (w.table t2).noErrs) ∧
    (∀ r, r ∉ passRows w t → w'.row r = w.row r) :=
  ⟨irc_items dw w t, irc_copies dw w t, irc_tables_length dw w t, irc_rows_length dw w t, irc_core dw w t,
   fun t2 h => irc_table_other dw w t t2 h, fun r h => irc_row_other dw w t r h⟩

/-- Other tables.  Rows live in a world-level store, so a row attached to (or a header row of) two
    tables is shared.  A table `t2 ≠ t` none of whose rows — header row included — is visited by the
    pass over `t` keeps its whole view, measurements included; a table that does share rows still keeps
    its column count, column properties, shape and every cell's content (only the measurement fields of
    the shared rows' cells can differ). -/
theorem e2ecb_other_tables (dw : Measure) (w : World) (t t2 : Nat) (hne : t2 ≠ t) :
    let v := w.view t2
    let v' := (invokeRenderCallbacks dw w t).view t2
    ((∀ r ∈ passRows w t2, r ∉ passRows w t) → v' = v) ∧
    v'.ncols = v.ncols ∧ v'.colAlign = v.colAlign ∧ v'.colSkip = v.colSkip ∧
    v'.header.map (·.map RCell.content) = v.header.map (·.map RCell.content) ∧
    v'.rows.map (·.map (·.map RCell.content)) = v.rows.map (·.map (·.map RCell.content)) := by
  intro v v'
  obtain ⟨hn, hh, hr⟩ := irc_view_content dw w t t2
  have hc := (Table.eq_of_noErrs_eq (irc_table_other dw w t t2 hne)).2.2.2
  refine ⟨fun hd => irc_view_other dw w t t2 hne hd, hn, ?_, ?_, hh, hr⟩
  · rw [view_colAlign, view_colAlign, hc]
  · rw [view_colSkip, view_colSkip, hc]

/-! ### each renderer on a well-formed view: what C03, C05–C08 say of it, gathered

  The capstones below (and those of `Props/E2E.lean`) are these, read on the view the renderer is given. -/

theorem csv_on_view (v : RTable) (hwf : WFShape v) :
    (v.ncols = 0 → (renderCsv v).res = .error (.err .noColumns) ∧ (renderCsv v).chunks = []) ∧
    (1 ≤ v.ncols →
      (renderCsv v).res = .ok () ∧ parse4180 (renderCsv v).output = some (records v) ∧
      ∀ r ∈ records v, r.length = v.ncols) :=
  ⟨c05_refuse v, fun h1 => ⟨c05_total v h1 hwf, c05_roundtrip v h1 hwf, c05_field_count v h1 hwf⟩⟩

theorem json_on_view (js : JsonStr) (v : RTable) (hwf : WFShape v) :
    ((renderJson js v).res = .ok () ↔ JsonOK v) ∧
    ((renderJson js v).res = .ok () ↔ HeaderOK v ∧ MarshalOK v) ∧
    ((renderJson js v).res = .ok () →
      (renderJson js v).output = (jsonToks js v).flatMap tokBytes ∧
      parseArr (jsonToks js v) = some (objects js v)) ∧
    (∀ s, (renderJson js v).res = .error s →
      (renderString (renderJson js v)).1 = [] ∧ ∀ site, s ≠ .panic site) := by
  have hiff : (renderJson js v).res = .ok () ↔ JsonOK v :=
    ⟨c07_ok_jsonOK js v hwf, fun h => (c07_valid_mirror js v h).1⟩
  refine ⟨hiff, ?_, c07_ok_valid_mirror js v, ?_⟩
  · rw [hiff]
    exact ⟨fun h => ⟨h.1, h.2.2⟩, fun h => ⟨h.1, hwf, h.2⟩⟩
  · intro s hs
    exact ⟨(c09_render_empty _ s hs).1, fun site he => c07_no_panic js v site (he ▸ hs)⟩

theorem html_on_view (cfg : HtmlCfg) (v : RTable) :
    (renderHtml cfg v).res = .ok () ∧ (renderHtml cfg v).output = htmlBytes cfg v ∧
    tokenize (renderHtml cfg v).output = skeleton cfg v ∧
    ((tokenize (renderHtml cfg v).output).filter isTrOpen).length =
      1 + (v.rows.filter Option.isSome).length := by
  have ho : (renderHtml cfg v).output = htmlBytes cfg v := by
    simp [renderHtml, Emit.write, Emit.output]
  rw [ho]
  exact ⟨rfl, rfl, c06_skeleton _ _, (c06_count_tr cfg v).1⟩

theorem markdown_on_view (dw : Measure) (v : RTable) (hwf : WFShape v) (hal : AlignsOK v) :
    ((renderMarkdown dw v).res = .ok () ↔ v.header.isSome = true ∧ 1 ≤ v.ncols) ∧
    ((renderMarkdown dw v).res = .ok () ↔ MdOK v) ∧
    (v.ncols = 0 → (renderMarkdown dw v).res = .error (.err .noColumns) ∧ (renderMarkdown dw v).chunks = []) ∧
    (1 ≤ v.ncols → v.header.isSome = false →
      (renderMarkdown dw v).res = .error (.err .noHeaders) ∧ (renderMarkdown dw v).chunks = []) ∧
    ((renderMarkdown dw v).res = .ok () →
      (renderMarkdown dw v).output = ((lines (renderMarkdown dw v).output).map (· ++ [LF])).flatten ∧
      (lines (renderMarkdown dw v).output).length = 2 + (bodyRows v).length ∧
      ∀ l ∈ lines (renderMarkdown dw v).output,
        LF ∉ l ∧ unescapedPipes l = v.ncols + 1 ∧ l.count 124 = v.ncols + 1 ∧
        (splitPipes l).length = v.ncols + 2) := by
  have hmd := c08_ok_iff dw v hal
  refine ⟨hmd.trans ⟨fun h => ⟨h.2.1, h.1⟩, fun h => ⟨h.2, h.1, hwf, hal⟩⟩, hmd, c08_refuse_no_columns dw v,
    fun h1 hh => c08_refuse_no_headers dw v h1 ?_, fun hok => c08_structure dw v (hmd.mp hok)⟩
  cases hv : v.header with
  | none => rfl
  | some _ => rw [hv] at hh; cases hh

theorem text_on_view (dw : Measure) (d : Decoration) (v : RTable) (hn : 1 ≤ v.ncols) (hwf : WFShape v)
    (ha : AlignOK v) (hd : DecoOK dw d) (hcells : ∀ c ∈ v.allCells, CellOK dw c) :
    (renderTextBody d v).res = .ok () ∧ (renderTextBody d v).chunks = specChunks d v :=
  ⟨c03_ok dw d v hn hwf ha hd hcells,
   c03_line_structure_aux d v hn hwf ha hd.divs_header hd.divs_body (fun c hc => (hcells c hc).nonneg)⟩

/-! ### 5. the capstones, for any callbacks -/

/-- CSV of a table built by any valid history, with ANY callbacks registered anywhere (CSV reads no
    column property and no measurement).  The renderer emits what
    it would emit on the view of the built world; no columns: refused, nothing written; otherwise it
    succeeds and the strict RFC 4180 reader gets back exactly `csvRecords`, the texts the history put
    into the cells. -/
theorem e2ecb_csv (x : Ext) (ops : List BuildOp) (hv : Valid ops = true) (wr : Wrapper) (hk : wr.kind = .csv)
    (ht : wr.core < (run x.dw ops).tables.length) :
    let w := run x.dw ops
    let m := (w.renderTo x wr).2
    m = renderCsv (w.view wr.core) ∧
    ((w.table wr.core).nColumns = 0 → m.res = .error (.err .noColumns) ∧ m.chunks = []) ∧
    (1 ≤ (w.table wr.core).nColumns →
      m.res = .ok () ∧ parse4180 m.output = some (w.csvRecords wr.core) ∧
      ∀ r ∈ w.csvRecords wr.core, r.length = (w.table wr.core).nColumns) := by
  intro w m
  have hm : m = renderCsv (w.view wr.core) := (e2ecb_render_unmeasured x w wr).1 hk
  refine ⟨hm, ?_⟩
  rw [hm, ← records_view]
  exact csv_on_view _ (c02_view_wf (c02_inv_run x.dw ops hv) wr.core ht).1

/-- HTML, any world, any callbacks: always succeeds, writes exactly `htmlBytes` of the view of the world
    before the pass, which tokenizes to the template's skeleton (`c06_skeleton`) with one `<tr…>` for the
    header plus one per non-separator row. -/
theorem e2ecb_html (x : Ext) (w : World) (wr : Wrapper) (hk : wr.kind = .html) :
    let v := w.view wr.core
    let m := (w.renderTo x wr).2
    m = renderHtml wr.html v ∧ m.res = .ok () ∧ m.output = htmlBytes wr.html v ∧
    tokenize m.output = skeleton wr.html v ∧
    ((tokenize m.output).filter isTrOpen).length = 1 + w.bodyRowCount wr.core := by
  intro v m
  have hm : m = renderHtml wr.html v := (e2ecb_render_unmeasured x w wr).2.1 hk
  refine ⟨hm, ?_⟩
  rw [hm, ← filter_isSome_view_length]
  exact html_on_view wr.html v

/-- JSON of a table built by any valid history, any callbacks: the renderer emits exactly what it
    emits on `vj`, the view of the BUILT world (its texts, emptiness, item encodings) carrying the
    column properties as they are after the pass (`e2ecb_props_last_writer`; JSON reads `skipable`);
    it succeeds iff `JsonOK vj`, and then the bytes are those of the token stream `jsonToks`, which
    parses to `objects js vj`; on any error `Render` returns no text, and the error is never a panic. -/
theorem e2ecb_json (x : Ext) (ops : List BuildOp) (hv : Valid ops = true) (wr : Wrapper) (hk : wr.kind = .json)
    (ht : wr.core < (run x.dw ops).tables.length) :
    let w := run x.dw ops
    let v' := (invokeRenderCallbacks x.dw w wr.core).view wr.core
    let vj := (w.view wr.core).withCols v'.colAlign v'.colSkip
    let m := (w.renderTo x wr).2
    m = renderJson x.js vj ∧
    WFShape vj ∧
    (m.res = .ok () ↔ JsonOK vj) ∧
    (m.res = .ok () ↔ HeaderOK vj ∧ MarshalOK vj) ∧
    (m.res = .ok () →
      m.output = (jsonToks x.js vj).flatMap tokBytes ∧ parseArr (jsonToks x.js vj) = some (objects x.js vj)) ∧
    (∀ s, m.res = .error s → (renderString m).1 = [] ∧ ∀ site, s ≠ .panic site) := by
  intro w v' vj m
  have hm : m = renderJson x.js vj := (e2ecb_render_unmeasured x w wr).2.2 hk
  have hwf : WFShape vj := (wfShape_withCols _ _ _).mpr (c02_view_wf (c02_inv_run x.dw ops hv) wr.core ht).1
  refine ⟨hm, hwf, ?_⟩
  rw [hm]
  exact json_on_view x.js vj hwf

/-- Markdown of a table built by any valid history, any callbacks, with the alignment properties AS
    THEY ARE AFTER THE PASS in their domain (`ha`; `e2ecb_props_last_writer` computes them).
    Success iff the table has a header and a column; the only failures
    are the two refusals, which write nothing; on success the output is `2 + (non-separator rows)`
    LF-terminated lines with exactly `nColumns + 1` unescaped pipes each. -/
theorem e2ecb_markdown (x : Ext) (ops : List BuildOp) (hv : Valid ops = true) (wr : Wrapper)
    (hk : wr.kind = .markdown) (ht : wr.core < (run x.dw ops).tables.length)
    (ha : AlignOK ((invokeRenderCallbacks x.dw (run x.dw ops) wr.core).view wr.core)) :
    let w := run x.dw ops
    let n := (w.table wr.core).nColumns
    let v' := (invokeRenderCallbacks x.dw w wr.core).view wr.core
    let m := (w.renderTo x wr).2
    m = renderMarkdown x.dw v' ∧
    (m.res = .ok () ↔ (w.table wr.core).header.isSome = true ∧ 1 ≤ n) ∧
    (m.res = .ok () ↔ MdOK v') ∧
    (n = 0 → m.res = .error (.err .noColumns) ∧ m.chunks = []) ∧
    (1 ≤ n → (w.table wr.core).header = none → m.res = .error (.err .noHeaders) ∧ m.chunks = []) ∧
    (m.res = .ok () →
      m.output = ((lines m.output).map (· ++ [LF])).flatten ∧
      (lines m.output).length = 2 + w.bodyRowCount wr.core ∧
      ∀ l ∈ lines m.output,
        LF ∉ l ∧ unescapedPipes l = n + 1 ∧ l.count 124 = n + 1 ∧ (splitPipes l).length = n + 2) := by
  intro w n v' m
  have hm : m = renderMarkdown x.dw v' := renderTo_markdown x w wr hk
  obtain ⟨hn, hh, hwf, hal⟩ :
      v'.ncols = n ∧ v'.header.isSome = (w.table wr.core).header.isSome ∧ WFShape v' ∧ AlignsOK v' :=
    C08e.postView_inv x.dw (c02_inv_run x.dw ops hv) wr.core ht ha
  have hb : (bodyRows v').length = w.bodyRowCount wr.core := by
    rw [bodyRows_view_length]
    exact of_core_eq (fun w => w.bodyRowCount wr.core)
      (fun w => by unfold bodyRowCount; simp only [rd_rows, rd_isSep]) (irc_core x.dw w wr.core)
  have h := markdown_on_view x.dw v' hwf hal
  rw [hn, hh, hb, ← hm] at h
  exact ⟨hm, h.1, h.2.1, h.2.2.1, fun h1 hnone => h.2.2.2.1 h1 (by rw [hnone]; rfl), h.2.2.2.2⟩

/-! ### the measured view and text tables: callbacks that name no private key -/

/-- With the measuring callback registered (`Needs`) and `UserKeysOnly` — user callbacks may set any
    user key, `align`, `skipable` on anything, and fail — the text and markdown renderers emit exactly
    what they emit on `canonView` of the world BEFORE the pass (each cell: its text / emptiness,
    `cellWidth` and `mdw` = its `TerminalCellWidth`, `lws` = its lines as `dimProps` measures them)
    carrying the column properties AFTER the pass. -/
theorem e2ecb_measured_view (x : Ext) (w : World) (wr : Wrapper) (hU : w.UserKeysOnly wr.core) (hN : Needs w wr) :
    let v' := (invokeRenderCallbacks x.dw w wr.core).view wr.core
    (wr.kind = .text → wr.decor ≠ emptyDecoration →
      (w.renderTo x wr).2 =
        renderTextBody wr.decor ((canonView x.dw true false w wr.core).withCols v'.colAlign v'.colSkip)) ∧
    (wr.kind = .markdown →
      (w.renderTo x wr).2 =
        renderMarkdown x.dw ((canonView x.dw false true w wr.core).withCols v'.colAlign v'.colSkip)) := by
  intro v'
  constructor
  · intro hk hd
    rw [renderTo_text x w wr hk hd]
    rw [← view_measured_cb x.dw true false w wr.core hU (fun _ => hN.1 hk) (fun h => Bool.noConfusion h),
      renderTextBody_mapCells wr.decor (RCell.mask true false) (fun _ => rfl) (fun _ => rfl)]
  · intro hk
    rw [renderTo_markdown x w wr hk]
    rw [← view_measured_cb x.dw false true w wr.core hU (fun h => Bool.noConfusion h) (fun _ => hN.2 hk),
      renderMarkdown_mapCells x.dw (RCell.mask false true) (fun _ => rfl) (fun _ => rfl)]

/-- Text table of a table built by any valid history that was wrapped as text at least once, with ANY
    user callbacks that name no private key (`UserKeysOnly`), a complete or boxless decoration, the
    alignments as they are AFTER the pass in their domain, at least one column:
    every cell of the view the renderer reads is measured (`CellOK`) and comes from a cell
    of the built table, the render succeeds and writes exactly `specChunks`. -/
theorem e2ecb_text (x : Ext) (ops : List BuildOp) (hv : Valid ops = true) (wr : Wrapper) (hk : wr.kind = .text)
    (ht : wr.core < (run x.dw ops).tables.length) (hU : (run x.dw ops).UserKeysOnly wr.core)
    (hN : Needs (run x.dw ops) wr) (hd : DecoOK x.dw wr.decor)
    (ha : AlignOK ((invokeRenderCallbacks x.dw (run x.dw ops) wr.core).view wr.core))
    (hn : 1 ≤ ((run x.dw ops).table wr.core).nColumns) :
    let w := run x.dw ops
    let v' := (invokeRenderCallbacks x.dw w wr.core).view wr.core
    let m := (w.renderTo x wr).2
    m = renderTextBody wr.decor v' ∧
    v'.ncols = (w.table wr.core).nColumns ∧ WFShape v' ∧
    (∀ c ∈ v'.allCells, CellOK x.dw c) ∧
    (∀ c ∈ v'.allCells, ∃ r ∈ (w.table wr.core).header.toList ++ (w.table wr.core).rows,
      ∃ ce ∈ w.rowCells r, c.text = ce.str ∧ c.empty = ce.empty ∧ c.cellWidth = ce.termWidth) ∧
    m.res = .ok () ∧
    m.chunks = specChunks wr.decor v' := by
  intro w v' m
  have hm : m = renderTextBody wr.decor v' := by
    show (w.renderTo x wr).2 = _
    rw [renderTo_text x w wr hk (decoOK_ne_empty hd)]
  obtain ⟨_, hwf, _, _⟩ := c02_view_wf_after_callbacks x.dw (c02_inv_run x.dw ops hv) wr.core ht
  have hnc : v'.ncols = (w.table wr.core).nColumns := (irc_view_content x.dw w wr.core wr.core).1
  have hn' : 1 ≤ v'.ncols := by rw [hnc]; exact hn
  have hcells : ∀ c ∈ v'.allCells, CellOK x.dw c := cellOK_cb x.dw w wr.core hU (hN.1 hk)
  refine ⟨hm, hnc, hwf, hcells, cell_src_cb x.dw w wr.core hU (hN.1 hk), ?_⟩
  rw [hm]
  exact text_on_view x.dw wr.decor v' hn' hwf ha hd hcells

/-- The rectangle, for any callbacks that name no private key: if every cell of
    the built table satisfies `Cell.FitsSrc`, the view is `ViewOK` and with a complete boxed
    decoration every line written has the same segment-sum width, dividers at the same offsets. -/
theorem e2ecb_text_rectangle (x : Ext) (ops : List BuildOp) (hv : Valid ops = true) (wr : Wrapper)
    (hk : wr.kind = .text) (ht : wr.core < (run x.dw ops).tables.length)
    (hU : (run x.dw ops).UserKeysOnly wr.core) (hN : Needs (run x.dw ops) wr) (hg : GlyphOK x.dw wr.decor)
    (ha : AlignOK ((invokeRenderCallbacks x.dw (run x.dw ops) wr.core).view wr.core))
    (hn : 1 ≤ ((run x.dw ops).table wr.core).nColumns) (hF : TableFits x.dw (run x.dw ops) wr.core) :
    let w := run x.dw ops
    let v' := (invokeRenderCallbacks x.dw w wr.core).view wr.core
    let m := (w.renderTo x wr).2
    ViewOK x.dw v' ∧ m.res = .ok () ∧
    ∀ ch ∈ m.chunks, ∃ segs, ch = segBytes segs ++ [LF] ∧
      segWidth x.dw segs = 1 + (v'.colWidths.map (· + 3)).sum ∧
      divOffsets x.dw 0 segs = colOffsets 0 v'.colWidths := by
  intro w v' m
  obtain ⟨hm, hnc, hwf, _, _, hok, _⟩ := e2ecb_text x ops hv wr hk ht hU hN (Or.inl hg) ha hn
  have hV : ViewOK x.dw v' := viewOK_cb x.dw w wr.core hU (hN.1 hk) hF
  refine ⟨hV, hok, ?_⟩
  show ∀ ch ∈ (w.renderTo x wr).2.chunks, _
  rw [show (w.renderTo x wr).2 = renderTextBody wr.decor v' from hm]
  exact c03_rectangle x.dw wr.decor v' (by rw [hnc]; exact hn) hwf ha hg hV

/-- The same for the boxless decoration: every chunk is empty (a rule) or a line of slots joined by
    single spaces, every slot its column wide, of segment-sum width `Σ cwᵢ + (n − 1)`. -/
theorem e2ecb_text_rectangle_boxless (x : Ext) (ops : List BuildOp) (hv : Valid ops = true) (wr : Wrapper)
    (hk : wr.kind = .text) (ht : wr.core < (run x.dw ops).tables.length)
    (hU : (run x.dw ops).UserKeysOnly wr.core) (hN : Needs (run x.dw ops) wr) (hb : BoxlessOK wr.decor)
    (ha : AlignOK ((invokeRenderCallbacks x.dw (run x.dw ops) wr.core).view wr.core))
    (hn : 1 ≤ ((run x.dw ops).table wr.core).nColumns) (hF : TableFits x.dw (run x.dw ops) wr.core) :
    let w := run x.dw ops
    let v' := (invokeRenderCallbacks x.dw w wr.core).view wr.core
    let m := (w.renderTo x wr).2
    ViewOK x.dw v' ∧ m.res = .ok () ∧
    ∀ ch ∈ m.chunks, ch = [] ∨ ∃ slots, ch = segBytes (boxlessSegs slots) ++ [LF] ∧
      slots.map SlotD.width = v'.colWidths ∧
      segWidth x.dw (boxlessSegs slots) = v'.colWidths.sum + (v'.colWidths.length - 1) := by
  intro w v' m
  obtain ⟨hm, hnc, hwf, _, _, hok, _⟩ := e2ecb_text x ops hv wr hk ht hU hN (Or.inr hb) ha hn
  have hV : ViewOK x.dw v' := viewOK_cb x.dw w wr.core hU (hN.1 hk) hF
  refine ⟨hV, hok, ?_⟩
  show ∀ ch ∈ (w.renderTo x wr).2.chunks, _
  rw [show (w.renderTo x wr).2 = renderTextBody wr.decor v' from hm]
  exact c03_rectangle_boxless x.dw wr.decor v' (by rw [hnc]; exact hn) hwf ha hb hV

/-! ### non-vacuity: a history whose callbacks set properties and fail (`dw := List.length`)

  `cbHist`: items "a" … "f"; table 0 with, on its cells, a logging pre-time callback (1), a render-time
  callback setting user key 7 (2) and a post-time callback setting `align` ON THE CELLS (10), and on
  itself a failing pre-time callback (3, error 55); headers `a b`; a row `c d`; a separator; a ragged
  row `e`; column 1 right-aligned by the history; column 1 itself: pre-time callback (4) setting `align`
  to centre; column 2 itself: pre-time (5) sets `align` right, post-time (6) removes `align`, post-time
  (7) sets `skipable`; row 1 itself: failing post-time callback (8, error 56); column 1, on its cells:
  failing pre-time callback (9, error 57).  Then wrapped as text and as markdown.
  (`cbHist`, `cbOps`, `cbW` and the other example worlds: Proofs/E2EcbExample.lean.) -/

namespace E2EcbExample

-- the callbacks are not log-only
example : ¬ LogOnly cbW 0 := by decide +kernel

-- 0. the schedule: 33 single invocations
example : (passSteps cbW 0).length = 33 := by decide +kernel
example := e2ecb_schedule e2eX.dw cbW 0

-- 1. texts are stable although properties, errors and measurements all change
example := e2ecb_content_stable e2eX.dw cbW 0
example := e2ecb_content_stable_cell e2eX.dw cbW 0 0 1
example : (invokeRenderCallbacks e2eX.dw cbW 0).view 0 ≠ cbW.view 0 := by decide +kernel
example : ((invokeRenderCallbacks e2eX.dw cbW 0).view 0).rows.map (·.map (·.map RCell.content)) =
    [some [([99], false, some [34, 99, 34]), ([100], false, some [34, 100, 34])], none,
     some [([101], false, some [34, 101, 34])]] := by
  rw [(e2ecb_content_stable e2eX.dw cbW 0).2.2.1]; decide +kernel

-- 2. last writer: column 1 was right-aligned (2), its own callback makes it centred (3); column 2 is
--    set right at pre time and cleared again at post time; `skipable` appears on column 2; the
--    `align` the table's cell callback (10) sets on CELLS does not reach any column
example : (cbW.view 0).colAlign = [none, some (.align 2), none] ∧ (cbW.view 0).colSkip = [none, none, none] := by
  decide +kernel
example : ((invokeRenderCallbacks e2eX.dw cbW 0).view 0).colAlign = [none, some (.align 3), none] := by
  rw [(e2ecb_props_last_writer e2eX.dw cbW 0 hnd).1]; decide +kernel
example : ((invokeRenderCallbacks e2eX.dw cbW 0).view 0).colSkip = [none, none, some (.bool true)] := by
  rw [(e2ecb_props_last_writer e2eX.dw cbW 0 hnd).2]; decide +kernel
example : ((passSteps cbW 0).filter (fun s => decide (s.tgt = .column 0 2))).map (·.cb) =
    [.setProp 5 .align (some (.align 2)), .setProp 6 .align none, .setProp 7 .skipable (some (.bool true))] := by
  rw [e2ecb_column_firing]; decide +kernel
-- the frame form: in the history WITHOUT the column callbacks, callback 10 still sets `align` on every
-- cell, and the column alignments are untouched
example : (∀ c ∈ (cbFrameW.table 0).columns, ∀ cb ∈ c.selfCbs.pre ++ c.selfCbs.post, cb.writes .align = false) ∧
    (∀ c ∈ (cbFrameW.table 0).columns, ∀ cb ∈ c.selfCbs.pre ++ c.selfCbs.post, cb.writes .skipable = false) ∧
    ¬ LogOnly cbFrameW 0 := by decide +kernel
example : ((invokeRenderCallbacks e2eX.dw cbFrameW 0).view 0).colAlign = (cbFrameW.view 0).colAlign :=
  (e2ecb_props_frame e2eX.dw cbFrameW 0).1 (by decide +kernel)
example : (invokeRenderCallbacks e2eX.dw cbFrameW 0).getProp (.cell 1 0) .align = some (.align 1) := by
  decide +kernel

-- 3. the renderer reads the view after its own pass: the delimiter row says centred (`:---:`), where
--    rendering the view before the pass would say right (`---:`)
example := e2ecb_render_reads_post_pass_view e2eX cbW e2eMd
example : (cbW.renderTo e2eX e2eMd).2.output =
    [124,32,97,32,124,32,98,32,124,10, 124,58,45,45,45,58,124,32,45,45,45,32,124,10,
     124,32,99,32,124,32,100,32,124,10, 124,32,101,32,124,32,124,10] := by decide +kernel
example : (renderMarkdown e2eX.dw (cbW.view 0)).output =
    [124,32,97,32,124,32,98,32,124,10, 124,32,45,45,45,58,124,32,45,45,45,32,124,10,
     124,32,99,32,124,32,100,32,124,10, 124,32,101,32,124,32,124,10] := by decide +kernel
example := e2ecb_render_unmeasured e2eX cbW e2eJson

-- 4. errors: table pre (55), column 1's cell callback on cells (1,0) and (3,0) (57), row 1 post (56),
--    in firing order; every visited row shares the table's container
example : ∀ r ∈ passRows cbW 0, (cbW.row r).ec = .table 0 := by decide +kernel
example : (cbW.table 0).errs = [] := by decide +kernel
example : ((invokeRenderCallbacks e2eX.dw cbW 0).table 0).errs = [55, 57, 56, 57] := by
  rw [e2ecb_errors_attached e2eX.dw cbW 0 (by decide +kernel)]; decide +kernel
example := e2ecb_errors e2eX.dw cbW 0
example := e2ecb_frame e2eX.dw cbW 0
-- other tables: a second table with rows of its own keeps its whole view …
example : ∀ r ∈ passRows cbTwo 1, r ∉ passRows cbTwo 0 := by decide +kernel
example : (invokeRenderCallbacks e2eX.dw cbTwo 0).view 1 = cbTwo.view 1 :=
  (e2ecb_other_tables e2eX.dw cbTwo 0 1 (by decide)).1 (by decide +kernel)
-- … but a table sharing row 1 with table 0 does not (the measurements of the shared cells change);
-- its texts and column properties are still the same
example : ¬ (∀ r ∈ passRows cbShare 1, r ∉ passRows cbShare 0) := by decide +kernel
example : (invokeRenderCallbacks e2eX.dw cbShare 0).view 1 ≠ cbShare.view 1 := by decide +kernel
example := (e2ecb_other_tables e2eX.dw cbShare 0 1 (by decide)).2

-- 5. CSV: what the reader gets back from the real output
example : parse4180 ((run e2eX.dw cbOps).renderTo e2eX e2eCsv).2.output =
    some [[[97], [98]], [[99], [100]], [[101], []]] := by
  have h := ((e2ecb_csv e2eX cbOps hv e2eCsv rfl ht).2.2 hn).2.1
  rw [h]; decide +kernel
-- HTML
example : ((tokenize (cbW.renderTo e2eX { kind := .html, core := 0 }).2.output).filter isTrOpen).length = 3 := by
  rw [(e2ecb_html e2eX cbW { kind := .html, core := 0 } rfl).2.2.2.2]
  decide +kernel
-- JSON: succeeds; `skipable` set during the pass makes the empty "b" of the last row disappear
example : ((run e2eX.dw cbOps).renderTo e2eX e2eJson).2.res = .ok () :=
  (e2ecb_json e2eX cbOps hv e2eJson rfl ht).2.2.1.mpr (by decide +kernel)
-- rendered: `[{"a": "a"}]`; on the view before the pass it would be `[{"a": "a", "b": ""}]`
example : (cbSkipW.renderTo e2eX e2eJson).2.output = [91,10, 123,34,97,34,58,32,34,97,34,125, 10,93,10] := by
  decide +kernel
example : (renderJson e2eX.js (cbSkipW.view 0)).output =
    [91,10, 123,34,97,34,58,32,34,97,34,44,32,34,98,34,58,32,34,34,125, 10,93,10] := by decide +kernel
-- Markdown
example : ((run e2eX.dw cbOps).renderTo e2eX e2eMd).2.res = .ok () :=
  (e2ecb_markdown e2eX cbOps hv e2eMd rfl ht ha).2.1.mpr (by decide +kernel)
example : (lines ((run e2eX.dw cbOps).renderTo e2eX e2eMd).2.output).length = 4 := by
  have hok := (e2ecb_markdown e2eX cbOps hv e2eMd rfl ht ha).2.1.mpr (by decide +kernel)
  rw [((e2ecb_markdown e2eX cbOps hv e2eMd rfl ht ha).2.2.2.2.2 hok).2.1]
  decide +kernel

-- the measured view and text tables
example := (e2ecb_measured_view e2eX (run e2eX.dw cbOps) e2eText hU hNt).1 rfl (by decide)
example := (e2ecb_measured_view e2eX (run e2eX.dw cbOps) e2eMd hU hNm).2 rfl
example : ((run e2eX.dw cbOps).renderTo e2eX e2eText).2.res = .ok () :=
  (e2ecb_text e2eX cbOps hv e2eText rfl ht hU hNt (Or.inl TextExample.hg) ha hn).2.2.2.2.2.1
example := e2ecb_text_rectangle e2eX cbOps hv e2eText rfl ht hU hNt TextExample.hg ha hn hF
example := e2ecb_text_rectangle_boxless e2eX cbOps hv e2eBoxless rfl ht hU hNb TextExample.hb ha hn hF
/-- the table as written (column 1 centred by its own callback; one-character cells look the same) -/
example : ((run e2eX.dw cbOps).renderTo e2eX e2eText).2.output =
    [43,45,45,45,43,45,45,45,43,10, 124,32,97,32,124,32,98,32,124,10, 43,45,45,45,43,45,45,45,43,10,
     124,32,99,32,124,32,100,32,124,10, 43,45,45,45,43,45,45,45,43,10,
     124,32,101,32,124,32,32,32,124,10, 43,45,45,45,43,45,45,45,43,10] := by decide +kernel

-- `UserKeysOnly` is needed for the measured fields only: a `.setProp` callback on texttable's private
-- dimension key (not expressible in Go) run after the measuring callback leaves a wrong `cellWidth`
-- in the view, while texts, shape and CSV output are unaffected
example : ¬ cbPriv.UserKeysOnly 0 := by decide +kernel
example : ((invokeRenderCallbacks e2eX.dw cbPriv 0).view 0).header.map (·.map (·.cellWidth)) = some [100, 100] := by
  decide +kernel
example := e2ecb_content_stable e2eX.dw cbPriv 0
example : (cbPriv.renderTo e2eX e2eCsv).2 = renderCsv (cbPriv.view 0) := (e2ecb_render_unmeasured e2eX cbPriv e2eCsv).1 rfl

end E2EcbExample

end Tab
