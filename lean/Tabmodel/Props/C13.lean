/-
  C13 — Callbacks fire once per target, on the live object, in the documented order.

  Spec vocabulary (`CbSlot`, `World.cbsAt`, `logEvents`, `expectedRender`, `renderTargets`,
  `expectedAddRow`, `expectedAddHeaders`, `LogOnlyAll`, `UniqueIn`, `slotFor`, ...) is in
  `Tabmodel/Proofs/C13Spec.lean` (definitions only); it is written with list comprehensions over the
  world's contents and does not mention the traversal code.

  The event log: every user callback (`Cb.log id`, `Cb.setProp id k v`, `Cb.fail id e`) appends
  `⟨id, target⟩` to `w.events` when invoked; the two built-in measuring callbacks append nothing.
  `logEvents cbs tgt` is the list of events the `.log` callbacks of `cbs` leave when invoked on `tgt`.
-/
import Tabmodel.Proofs.C13Register
import Tabmodel.Proofs.C13Live
import Tabmodel.Proofs.C13xAdd
import Tabmodel.Proofs.C13Once
import Tabmodel.Proofs.C13Unique
namespace Tab
open World C13

/-! ## Registration matrix (`RegisterPropertyCallback`)

An invalid *time* value never reaches the model: the driver's `parseTime` maps it to a refusal
(`properties.go`: "unhandled callbackTime when registering properties"), so `Time` has exactly the four
legal values and the theorems below quantify over all of them. -/

/-- Exactly the unsupported owner/target combinations are refused: a row-targeted callback on a
    column, on a cell, or on a cell value; every other combination is accepted. -/
theorem c13_refuse (w : World) (owner : Target) (tm : Time) (tg : CbTarget) (cb : Cb) :
    w.registerCb owner tm tg cb = none ↔
      ((∃ t n, owner = .column t n) ∧ tg = .row) ∨
      (((∃ r i, owner = .cell r i) ∨ (∃ n, owner = .copy n)) ∧ tg = .row) := by
  constructor
  · intro h
    cases owner with
    | table t => cases tg <;> cases h
    | column t n => cases tg with
      | row => exact .inl ⟨⟨t, n, rfl⟩, rfl⟩
      | _ => cases h
    | row r => cases tg <;> cases h
    | cell r i => cases tg with
      | row => exact .inr ⟨.inl ⟨r, i, rfl⟩, rfl⟩
      | _ => cases h
    | copy n => cases tg with
      | row => exact .inr ⟨.inr ⟨n, rfl⟩, rfl⟩
      | _ => cases h
  · rintro (⟨⟨t, n, rfl⟩, rfl⟩ | ⟨⟨r, i, rfl⟩ | ⟨n, rfl⟩, rfl⟩) <;> rfl

/-- The same, against the documented matrix `slotFor`. -/
theorem c13_refuse_matrix (w : World) (owner : Target) (tm : Time) (tg : CbTarget) (cb : Cb) :
    w.registerCb owner tm tg cb = none ↔ slotFor owner tg = none := by
  rw [registerCb_eq]
  exact Option.map_eq_none_iff

/-- An accepted registration on an existing owner appends the callback to exactly the documented set
    (`slotFor`: table → itself/cell/row sets; column → itself/cell; row → `itself` and `row` both the
    row-itself set, `cell` the row's cell set; cell → `itself` and `cell` both the cell's own set) at
    the given time; every other (set, time) is unchanged, and so is everything that is not a callback
    set (`noCbs`), the event log included. -/
theorem c13_register_effect {w w' : World} {owner : Target} {tm : Time} {tg : CbTarget} {cb : Cb}
    (ho : w.hasObj owner) (h : w.registerCb owner tm tg cb = some w') :
    ∃ s, slotFor owner tg = some s ∧
      (∀ s' tm', w'.cbsAt s' tm' =
        if s' = s ∧ tm' = tm then w.cbsAt s' tm' ++ [cb] else w.cbsAt s' tm') ∧
      w'.noCbs = w.noCbs := by
  obtain ⟨s, hs, hset⟩ := registerCb_cbSet ho h
  refine ⟨s, hs, fun s' tm' => ?_, ?_⟩
  · simp only [World.cbsAt, hset s']
    by_cases h1 : s' = s
    · subst h1
      simp only [true_and, if_true, CbSet.push_at]
    · simp [h1]
  · rw [registerCb_eq] at h
    obtain ⟨s, _, rfl⟩ := Option.map_eq_some_iff.mp h
    exact noCbs_modCbSet w s _

/-! ### a concrete world for the non-vacuity examples, built through the model's API -/

/-- the measure used in the examples: one cell per byte -/
def c13ExDw : Measure := fun b => b.length
/-- the item `"a"` -/
def c13ExItem : Item :=
  { kind := .str [97], mString := none, mGoString := none, mError := none, fmtV := [97],
    mHeight := none, mWidth := none, json := none }

/-- table 0 with header row 0 = `[a]` and body row 1 = `[a]`; no callbacks yet -/
def c13ExBase : World :=
  let w : World := { items := [c13ExItem] }
  let w := w.newTable.1
  let w := addHeaders c13ExDw w 0 [0]
  (addRowItems c13ExDw w 0 [0]).1

/-- two registrations: `7` = table 0, pre-cell time, on cells; `9` = row 1, post-cell time, on the row -/
def c13ExW : World :=
  ((c13ExBase.registerCb (.table 0) .pre .cell (.log 7)).bind
    (fun w => w.registerCb (.row 1) .post .row (.log 9))).getD c13ExBase

example : c13ExBase.hasObj (.table 0) ∧ c13ExBase.hasObj (.row 1) ∧ c13ExBase.hasObj (.cell 1 0) ∧
    c13ExBase.hasObj (.column 0 1) := by decide
example : (c13ExBase.registerCb (.table 0) .pre .cell (.log 7)).isSome = true := by decide
example : c13ExBase.registerCb (.column 0 1) .pre .row (.log 7) = none := by decide
example : c13ExW.cbsAt (.tableCell 0) .pre = [.log 7] ∧ c13ExW.cbsAt (.rowSelf 1) .post = [.log 9] := by decide

/-! ## Render order -/

/-- One render pass in a world whose callbacks are all `.log` appends exactly the documented list
    `expectedRender w t` to the event log. -/
theorem c13_render_order (dw : Measure) (w : World) (t : Nat) (h : LogOnlyAll w) :
    (invokeRenderCallbacks dw w t).events = w.events ++ expectedRender w t := by
  rw [C13x.invokeRenderCallbacks_log dw (logOnlyAll_at h) t]; rfl

/-- ... and changes nothing else in the world. -/
theorem c13_render_frame (dw : Measure) (w : World) (t : Nat) (h : LogOnlyAll w) :
    { invokeRenderCallbacks dw w t with events := w.events } = w := by
  rw [C13x.invokeRenderCallbacks_log dw (logOnlyAll_at h) t]; rfl

/-- Several passes: each pass appends the same documented list again. -/
theorem c13_render_order_twice (dw : Measure) (w : World) (t : Nat) (h : LogOnlyAll w) :
    (invokeRenderCallbacks dw (invokeRenderCallbacks dw w t) t).events =
      w.events ++ expectedRender w t ++ expectedRender w t := by
  have hat := (logOnlyAll_at h)
  rw [C13x.invokeRenderCallbacks_log dw hat t]
  have hat' : LogOnlyAt (w.addEv (expectedRender w t)) := hat
  rw [C13x.invokeRenderCallbacks_log dw hat' t]
  rfl

/-- The inner piece, for reference: a row. -/
theorem c13_render_order_row (dw : Measure) (w : World) (t r : Nat) (h : LogOnlyAll w) :
    (renderRow dw t w r).events = w.events ++ rowExpected w t r := by
  rw [← C13x.rowExpectedAny_log (logOnlyAll_at h) t]
  exact (C13x.renderRow_traversal dw w t r).events

example : LogOnlyAll c13ExW := by decide
/-- the expected list of the example, computed: header cell, body cell, then row 1 itself (post) -/
example : expectedRender c13ExW 0 = [⟨7, .cell 0 0⟩, ⟨7, .cell 1 0⟩, ⟨9, .row 1⟩] := by decide
example : (invokeRenderCallbacks c13ExDw c13ExW 0).events = [⟨7, .cell 0 0⟩, ⟨7, .cell 1 0⟩, ⟨9, .row 1⟩] := by
  decide

/-! ## Once per target -/

/-- `UniqueIn` can be checked by evaluation. -/
theorem c13_unique_check {w : World} {id : Nat} {s : CbSlot} {tm : Time} (h : uniqueInB w id s tm = true) :
    UniqueIn w id s tm :=
  uniqueInB_sound h

/-- The whole matrix.  A registration that is the only one with its id, in slot `s` at time `tm`, is
    invoked during one render pass over table `t` exactly on the targets `renderTargets w t s tm`, in
    that order (first line); so the count of `⟨id, tgt⟩` grows by the number of occurrences of `tgt`
    in that list (second), which is 1 or 0 when no row is visited twice (third). -/
theorem c13_once (dw : Measure) (w : World) (t id : Nat) (s : CbSlot) (tm : Time) (tgt : Target)
    (h : LogOnlyAll w) (hu : UniqueIn w id s tm) :
    (expectedRender w t).filter (fun e => e.cb == id) = (renderTargets w t s tm).map (fun x => ⟨id, x⟩) ∧
    (invokeRenderCallbacks dw w t).events.count ⟨id, tgt⟩ =
      w.events.count ⟨id, tgt⟩ + (renderTargets w t s tm).count tgt ∧
    ((renderRows w t).Nodup →
      (invokeRenderCallbacks dw w t).events.count ⟨id, tgt⟩ =
        w.events.count ⟨id, tgt⟩ + if tgt ∈ renderTargets w t s tm then 1 else 0) := by
  have hproj := evOf_expectedRender_gen hu t
  have hcount : (invokeRenderCallbacks dw w t).events.count ⟨id, tgt⟩ =
      w.events.count ⟨id, tgt⟩ + (renderTargets w t s tm).count tgt := by
    rw [c13_render_order dw w t h, List.count_append, count_of_evOf hproj]
  refine ⟨hproj, hcount, fun hnd => ?_⟩
  rw [hcount, (renderTargets_nodup s tm hnd).count]

/-- what `renderTargets` contains, spelled out -/
theorem c13_once_targets (w : World) (t : Nat) (s : CbSlot) (tm : Time) (tgt : Target) :
    tgt ∈ renderTargets w t s tm ↔
      (tableFires t s tm = true ∧ tgt = .table t) ∨
      (∃ n, n < (w.table t).columns.length ∧ colFires t s tm n = true ∧ tgt = .column t n) ∨
      (∃ r, r ∈ renderRows w t ∧
        ((rowFires s tm r = true ∧ tgt = .row r) ∨
         ∃ i, i < (w.rowCells r).length ∧ cellFires w t s tm r i = true ∧ tgt = .cell r i)) :=
  mem_renderTargets

example : UniqueIn c13ExW 7 (.tableCell 0) .pre := c13_unique_check (by decide)
example : UniqueIn c13ExW 9 (.rowSelf 1) .post := c13_unique_check (by decide)
example : (renderRows c13ExW 0).Nodup := by decide
example : renderTargets c13ExW 0 (.tableCell 0) .pre = [.cell 0 0, .cell 1 0] := by decide
example : renderTargets c13ExW 0 (.rowSelf 1) .post = [.row 1] := by decide
example : renderTargets c13ExW 0 (.rowSelf 1) .render = [] := by decide
example : cellTargets c13ExW 0 = [.cell 0 0, .cell 1 0] := by decide


/-- A table-level cell callback registered (uniquely, under id `id`) at a render-time `tm` fires in one
    pass exactly once on every cell of the header row and of every row in `rows`, and on nothing else:
    the count of `⟨id, tgt⟩` grows by 1 if `tgt` is such a cell and by 0 otherwise. -/
theorem c13_once_table_cell (dw : Measure) (w : World) (t id : Nat) (tm : Time) (tgt : Target)
    (h : LogOnlyAll w) (hu : UniqueIn w id (.tableCell t) tm) (htm : tm ≠ .add)
    (hnd : (renderRows w t).Nodup) :
    (invokeRenderCallbacks dw w t).events.count ⟨id, tgt⟩ =
      w.events.count ⟨id, tgt⟩ + if tgt ∈ cellTargets w t then 1 else 0 := by
  rw [(c13_once dw w t id (.tableCell t) tm tgt h hu).2.2 hnd, renderTargets_tableCell w t htm]

/-- which targets those are -/
theorem c13_once_table_cell_targets (w : World) (t : Nat) (tgt : Target) :
    tgt ∈ cellTargets w t ↔
      ∃ r i, tgt = .cell r i ∧ r ∈ renderRows w t ∧ i < (w.rowCells r).length :=
  mem_cellTargets

/-- The events of such a registration, in order: one per visited cell, in traversal order. -/
theorem c13_once_table_cell_trace (w : World) (t id : Nat) (tm : Time)
    (hu : UniqueIn w id (.tableCell t) tm) (htm : tm ≠ .add) :
    (expectedRender w t).filter (fun e => e.cb == id) = (cellTargets w t).map (fun tgt => ⟨id, tgt⟩) :=
  renderTargets_tableCell w t htm ▸ evOf_expectedRender_gen hu t

/-- A row-itself callback registered (uniquely) at pre- or post-cell time on row `r` fires in one pass
    over table `t` exactly once, on row `r`, if `r` is the header row or one of the rows of `t`, and
    not at all otherwise. -/
theorem c13_once_row_self (dw : Measure) (w : World) (t r id : Nat) (tm : Time) (tgt : Target)
    (h : LogOnlyAll w) (hu : UniqueIn w id (.rowSelf r) tm) (htm : tm = .pre ∨ tm = .post)
    (hnd : (renderRows w t).Nodup) :
    (invokeRenderCallbacks dw w t).events.count ⟨id, tgt⟩ =
      w.events.count ⟨id, tgt⟩ + if tgt = .row r ∧ r ∈ renderRows w t then 1 else 0 := by
  rw [(c13_once dw w t id (.rowSelf r) tm tgt h hu).2.2 hnd]
  simp only [mem_renderTargets_rowSelf htm]

/-! ## Add-time order -/

/-- `Row.Add`: only the row's own cell callbacks at time add fire, on the new (stored) cell, in
    registration order; the resulting world is the linked state plus those events. -/
theorem c13_add_order_rowAddCell (dw : Measure) (w : World) (r : Nat) (ce : Cell) (cs : List Cell)
    (h : LogOnlyAll w) (hcs : (w.row r).cells = some cs) :
    rowAddCell dw w r ce =
      (rowAddLinked w r ce cs).addEv (logEvents (w.cbsAt (.rowCell r) .add) (.cell r cs.length)) ∧
    (rowAddCell dw w r ce).events = w.events ++ logEvents (w.cbsAt (.rowCell r) .add) (.cell r cs.length) := by
  have := C13x.rowAddCell_log dw (logOnlyAll_at h) r ce cs hcs
  refine ⟨this, ?_⟩
  rw [this, addEv_events, rowAddLinked_events]

/-- the new cell is the live, stored one: last cell of the row, with its back-pointers set -/
theorem c13_add_order_rowAddCell_target (w : World) (r : Nat) (ce : Cell) (cs : List Cell)
    (hr : r < w.rows.length) :
    (rowAddLinked w r ce cs).cell? r cs.length = some (placedCell r cs.length ce) := by
  simp [World.cell?, rowAddLinked_rowCells hr]

/-- `Row.Add` on a non-cell row (separator): an error, no callback, no cell. -/
theorem c13_add_order_rowAddCell_refused (dw : Measure) (w : World) (r : Nat) (ce : Cell)
    (hcs : (w.row r).cells = none) :
    (rowAddCell dw w r ce).events = w.events ∧ (rowAddCell dw w r ce).rowCells r = w.rowCells r := by
  rw [rowAddCell_nil dw w r ce hcs]
  exact ⟨C13x.events_addErrTo _ _ _, rowCells_addErrTo _ _ _ _⟩

/-- `AddRow`: the row's own add callbacks, then the table's row callbacks, both on the row; then per
    cell, in order, the column's cell callbacks (if the cell has a column) and the table's cell
    callbacks, on that cell.  All evaluated in the linked state `addRowLinked w t r`, which has the
    same callback sets as `w`. -/
theorem c13_add_order_addRow (dw : Measure) (w : World) (t r : Nat) (h : LogOnlyAll w) :
    addRow dw w t r = (addRowLinked w t r).addEv (expectedAddRow (addRowLinked w t r) t r) ∧
    (addRow dw w t r).events = w.events ++ expectedAddRow (addRowLinked w t r) t r ∧
    (∀ s tm, (addRowLinked w t r).cbsAt s tm = w.cbsAt s tm) := by
  have := C13x.addRow_log dw (logOnlyAll_at h) t r
  refine ⟨this, ?_, fun s tm => by simp only [World.cbsAt, cbSet_addRowLinked]⟩
  rw [this]; rfl

/-- `AddHeaders`: the table's row callbacks on the new header row, then per header cell the table's
    cell callbacks.  Column-level cell callbacks do NOT fire for header cells: the header row is not
    `inTable`, so `columnOfTable` is nil (the property text is silent on this; this is what the code
    does). -/
theorem c13_add_order_addHeaders (dw : Measure) (w : World) (t : Nat) (items : List Nat) (h : LogOnlyAll w) :
    addHeaders dw w t items = (addHeadersLinked dw w t items).addEv (expectedAddHeaders w t items) ∧
    (addHeaders dw w t items).events = w.events ++ expectedAddHeaders w t items := by
  have := C13x.addHeaders_log dw (logOnlyAll_at h) t items
  refine ⟨this, ?_⟩
  rw [this]; rfl

/-- `AddRow` of a well-formed row (as `Row.Add` builds them) to an existing table, stated in terms of
    the world before the call: cell `j` gets the cell callbacks of column `j + 1` as registered before
    the call (none if the table was narrower), then the table's cell callbacks. -/
theorem c13_add_order_addRow_wf (dw : Measure) (w : World) (t r : Nat) (h : LogOnlyAll w)
    (ht : t < w.tables.length) (hr : r < w.rows.length) (hwf : RowAddWF w r) :
    (addRow dw w t r).events = w.events ++ expectedAddRowWF w t r := by
  rw [(c13_add_order_addRow dw w t r h).2.1, expectedAddRow_wf ht hr hwf]

/-- The three add-time event-list equations together (log-only world). -/
theorem c13_add_order (dw : Measure) (w : World) (h : LogOnlyAll w) :
    (∀ r ce cs, (w.row r).cells = some cs →
      (rowAddCell dw w r ce).events = w.events ++ logEvents (w.cbsAt (.rowCell r) .add) (.cell r cs.length)) ∧
    (∀ t r, (addRow dw w t r).events = w.events ++ expectedAddRow (addRowLinked w t r) t r) ∧
    (∀ t items, (addHeaders dw w t items).events = w.events ++ expectedAddHeaders w t items) :=
  ⟨fun r ce cs hcs => (c13_add_order_rowAddCell dw w r ce cs h hcs).2,
   fun t r => (c13_add_order_addRow dw w t r h).2.1,
   fun t items => (c13_add_order_addHeaders dw w t items h).2⟩

/-- add-time example: table 0 (one column so far) with a table row-callback `1`, a table cell-callback
    `2` and a column-1 cell-callback `3`; a free row 1 with its own add callback `4` and a row
    cell-callback `5`. -/
def c13ExAdd : World :=
  let w := c13ExBase
  let w := (w.registerCb (.table 0) .add .row (.log 1)).getD w
  let w := (w.registerCb (.table 0) .add .cell (.log 2)).getD w
  let w := (w.registerCb (.column 0 1) .add .cell (.log 3)).getD w
  let w := (w.newRow {}).1
  let w := (w.registerCb (.row 2) .add .itself (.log 4)).getD w
  (w.registerCb (.row 2) .add .cell (.log 5)).getD w

example : LogOnlyAll c13ExAdd := by decide
example : (c13ExAdd.row 2).cells = some [] := by decide
example : (rowAddCell c13ExDw c13ExAdd 2 (newCell c13ExDw 0 c13ExItem)).events = [⟨5, .cell 2 0⟩] := by decide
/-- a separator row refuses cells -/
example : ((addSeparator c13ExAdd 0).row 3).cells = none := by decide
example : 0 < c13ExAdd.tables.length ∧ 2 < (rowAdd c13ExDw c13ExAdd 2 0).rows.length ∧
    RowAddWF (rowAdd c13ExDw c13ExAdd 2 0) 2 ∧ LogOnlyAll (rowAdd c13ExDw c13ExAdd 2 0) := by decide
/-- row itself, table row-callback, then for the cell: column callback, table callback -/
example : expectedAddRowWF (rowAdd c13ExDw c13ExAdd 2 0) 0 2 =
    [⟨4, .row 2⟩, ⟨1, .row 2⟩, ⟨3, .cell 2 0⟩, ⟨2, .cell 2 0⟩] := by decide
example : (addRow c13ExDw (rowAdd c13ExDw c13ExAdd 2 0) 0 2).events =
    [⟨5, .cell 2 0⟩, ⟨4, .row 2⟩, ⟨1, .row 2⟩, ⟨3, .cell 2 0⟩, ⟨2, .cell 2 0⟩] := by decide
/-- headers: the column callback `3` does not fire -/
example : expectedAddHeaders c13ExAdd 0 [0] = [⟨1, .row 3⟩, ⟨2, .cell 3 0⟩] := by decide
example : (addHeaders c13ExDw c13ExAdd 0 [0]).events = [⟨1, .row 3⟩, ⟨2, .cell 3 0⟩] := by decide

/-! ## Live object -/

/-- `get` after `set` on a property chain. -/
theorem c13_chain_get_set (c : Chain) (k : Key) (v : Option Val) (h : v.isSome = true ∨ c.keys.Nodup) :
    (c.set k v).get k = v :=
  Chain.get_set c k v h

/-- other keys are not disturbed, and the `Nodup` invariant of keys is kept -/
theorem c13_chain_set_frame (c : Chain) (k k' : Key) (v : Option Val) (hk : k ≠ k') :
    (c.set k v).get k' = c.get k' ∧ (c.keys.Nodup → (c.set k v).keys.Nodup) :=
  ⟨Chain.get_set_ne c v hk, Chain.nodup_set c k v⟩

/-- The object handed to a callback is the live one: after a `.setProp id k v` callback has been
    invoked on an existing table / column / row / cell (or caller-held cell value), reading `k` from
    that object through the world gives `v` — always for a proper value, and for `nil` (= remove)
    when the owner's chain has no duplicate keys (an invariant of `SetProperty`). -/
theorem c13_live (dw : Measure) (w : World) (id : Nat) (k : Key) (v : Option Val) (tgt : Target) (tk : Taker)
    (h : w.hasObj tgt) (hv : v.isSome = true ∨ (w.chainOf tgt).keys.Nodup) :
    (invokeOne dw w (.setProp id k v) tgt tk).getProp tgt k = v ∧
    (invokeOne dw w (.setProp id k v) tgt tk).events = w.events ++ [⟨id, tgt⟩] := by
  have e : invokeOne dw w (.setProp id k v) tgt tk = (w.addEv [⟨id, tgt⟩]).setProp tgt k v := rfl
  have h' : (w.addEv [⟨id, tgt⟩]).hasObj tgt := by cases tgt <;> exact h
  have hc : (w.addEv [⟨id, tgt⟩]).chainOf tgt = w.chainOf tgt := by cases tgt <;> rfl
  rw [e, getProp_setProp_self _ _ _ _ h', hc]
  refine ⟨Chain.get_set _ k v hv, ?_⟩
  cases tgt <;> rfl

/-- it does not disturb the object's other properties -/
theorem c13_live_frame (dw : Measure) (w : World) (id : Nat) (k k' : Key) (v : Option Val) (tgt : Target)
    (tk : Taker) (h : w.hasObj tgt) (hk : k ≠ k') :
    (invokeOne dw w (.setProp id k v) tgt tk).getProp tgt k' = w.getProp tgt k' := by
  have e : invokeOne dw w (.setProp id k v) tgt tk = (w.addEv [⟨id, tgt⟩]).setProp tgt k v := rfl
  rw [e, getProp_setProp_frame _ tgt k v tgt k' (.inr hk)]
  cases tgt <;> rfl

example : c13ExW.hasObj (.cell 1 0) ∧ (c13ExW.chainOf (.cell 1 0)).keys.Nodup := by decide
example : (invokeOne c13ExDw c13ExW (.setProp 11 (.user 1) (some (.user 5))) (.cell 1 0) .drop).getProp
    (.cell 1 0) (.user 1) = some (.user 5) := by decide
example : (invokeOne c13ExDw c13ExW (.setProp 11 (.user 1) (some (.user 5))) (.column 0 1) .drop).getProp
    (.column 0 1) (.user 1) = some (.user 5) := by decide

end Tab
