/-
  C08eH — `c08e_delim` + `c08e_delim_last_writer` (Props/C08e.lean) with the `Nodup` hypothesis
  discharged for every history of well-formed cell values (`CellsOk ops`, via `c12h_nodup` and
  `E2Ecb.columns_nodup`).  In its own module because `Props/C12h` and `Props/E2Ecb.lean`
  (which Props/C08e.lean imports) declare clashing helper names (`PState`): the statement is therefore derived
  here from the same view-level lemmas of Proofs/C08eCore.lean as `c08e_delim`, not from `c08e_delim` itself.
-/
import Tabmodel.Proofs.C08eCore
import Tabmodel.Props.C12h
import Tabmodel.Proofs.C08eHExample
namespace Tab
open World E2Ecb

/-- Markdown of a table built by a `Valid`, `CellsOk` history with ANY callbacks, a header and at
    least one column, post-pass alignments in their domain: the render succeeds, and cell `i` of the
    delimiter line is the control cell (`nd ≥ 3` dashes between the two marker bytes) for the
    alignment `a` that is: the LAST `align` value written by column record `i + 1`'s own pre-time then
    post-time callbacks (what the history left if they write none) if that is set, otherwise the same
    for the defaults column, record 0. -/
theorem c08e_delim_history (x : Ext) (ops : List BuildOp) (hv : Valid ops = true) (hc : CellsOk ops)
    (wr : Wrapper) (hk : wr.kind = .markdown) (ht : wr.core < (run x.dw ops).tables.length)
    (ha : AlignOK ((invokeRenderCallbacks x.dw (run x.dw ops) wr.core).view wr.core))
    (hh : ((run x.dw ops).table wr.core).header.isSome = true)
    (hn : 1 ≤ ((run x.dw ops).table wr.core).nColumns)
    (i : Nat) (hi : i < ((run x.dw ops).table wr.core).nColumns) :
    let w := run x.dw ops
    let v' := (invokeRenderCallbacks x.dw w wr.core).view wr.core
    let m := (w.renderTo x wr).2
    let lw := fun n => ((w.table wr.core).columns[n]?).bind (fun c =>
      lastWrite .align (c.selfCbs.pre ++ c.selfCbs.post) (c.props.get .align))
    let a := match (match lw (i + 1) with | some a => some a | none => lw 0) with
      | some (.align a) => a
      | _ => 0
    m.res = .ok () ∧
    ∃ (line : Bytes) (l r nd : Nat),
      (lines m.output)[1]? = some line ∧
      (splitPipes line)[i + 1]? = some (spaces l ++ mdControlCell (mdColWidth v' i) a ++ spaces r) ∧
      (mdColWidth v' i ≤ (x.dw (mdControlCell (mdColWidth v' i) a) : Nat) → l = 0 ∧ r = 0) ∧
      3 ≤ nd ∧ mdColWidth v' i ≤ (nd : Int) ∧
      mdControlCell (mdColWidth v' i) a = (mdMarkers a).1 :: List.replicate nd 45 ++ [(mdMarkers a).2] := by
  intro w v' m lw a
  have hmd : MdOK v' := C08e.mdOK_inv x.dw (c02_inv_run x.dw ops hv) wr.core ht ha hh hn
  have hi' : i < v'.ncols := by rw [(irc_view_content x.dw w wr.core wr.core).1]; exact hi
  have hm : m = renderMarkdown x.dw v' := renderTo_markdown x w wr hk
  have hlw : ∀ n, v'.colAlign.getD n none = lw n := C08e.colAlign_getD_last_writer x.dw w wr.core
    (E2Ecb.columns_nodup fun n => c12h_nodup x.dw ops hc (.column wr.core n))
  -- from here on `v'`, `m`, `lw` are any view, its render and its alignment entries: comparing the
  -- two ways of writing the `match` below would otherwise unfold the whole callbacks pass
  clear_value v' m lw
  subst hm
  have ha' : effAlignNat v' i = a := by unfold effAlignNat effAlign; rw [hlw, hlw]; rfl
  rw [← ha']
  exact ⟨c08_ok x.dw v' hmd, C08e.delim_view x.dw v' hmd i hi'⟩

/-! ### non-vacuity: a small history (`dw := List.length`)

  Table 0, headers `a b`, one row `c c`.  The history right-aligns column 1 (record 1); record 1's own
  pre-time callback then sets centre; the defaults column (record 0) gets right from its own post-time
  callback; column 2 (record 2) has no value of its own and inherits it.
  (`ops`, `wr`, `x` and the evaluated hypotheses: Proofs/C08eHExample.lean.) -/

namespace C08eHExample

example := c08e_delim_history x ops hv hc wr rfl ht ha hh hn 0 (by decide +kernel)
example := c08e_delim_history x ops hv hc wr rfl ht ha hh hn 1 (by decide +kernel)
/-- the output: `| a | b |`, `|:---:| ---:|`, `| c | c |` -/
example : ((run x.dw ops).renderTo x wr).2.output =
    [124,32,97,32,124,32,98,32,124,10, 124,58,45,45,45,58,124,32,45,45,45,58,124,10,
     124,32,99,32,124,32,99,32,124,10] := by decide +kernel

end C08eHExample

end Tab
