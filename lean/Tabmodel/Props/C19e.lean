/-
  C19e — "Every name returned by the style listing is accepted by the auto constructor and yields a
  table that renders without error", END TO END: from the style string to the result of
  `auto.RenderTo(t, style)` on a table built through the public API.

  Composition of
    * C19 (`c19_listed_ok`, `c19_listed_ok_all`, `c19_unknown`): what a style string resolves to;
    * C10 (`World.autoRender`, `c10_paths_auto`): `auto.RenderTo(t, style)` = resolve, `X.Wrap(t)`
      (`wrapEffect`), `RenderTo` of the wrapper `Format.wrapper`;
    * C02 (`Inv` for every valid history), the E2E view lemmas (`LogOnly`: the callbacks pass changes
      no text) and the per-renderer totality theorems C05 / C06 / C07 / C08 / C09
      (`renderTextBody_total`);
    * C17 (`c17_fail_closed`) for the names that are not registered.

  Vocabulary: `GoodTable w t` (Proofs/C19eDefs.lean, decidable): the table exists, has ≥ 1 column and
  a header of exactly `nColumns` cells with non-empty, pairwise distinct texts; every row cell's item
  marshals; `Skipable` settings are unset or bool; alignments are unset or left/right/centre; the
  render-time user callbacks only log (`LogOnly`).  (Rows no wider than `nColumns` is the invariant
  `Inv`, true after every valid history.)

  A remark on the decoration: with at least one column the text renderer returns `.ok ()` for EVERY
  decoration other than the empty one (no `DecoOK` / `DecorTotal` / `DivsOK` side condition is
  needed; those matter for the shape of the output, C03, and for zero-column tables, C09).  So
  `Plain` — which contains `reg.named s ≠ emptyDecoration` — is all that is asked of a listed text
  style.

  The three classes of listed names outside `Plain` (recorded findings D21, see Props/C19.lean) are
  restated at this level as `example`s at the end.
-/
import Tabmodel.Proofs.C19e
namespace Tab
open World hiding CellOK
open Registry
attribute [local instance] lawfulBEq_uint8

/-- `auto.RenderTo(t, style)` on a table built by a valid history IS a `RenderTo` on a valid history:
    the history extended by the `Wrap` step of the resolved format, rendered through
    `(resolveStyle reg heavy style).wrapper t`.  The extended history keeps `LogOnly` and
    establishes `Needs`, so every capstone of Props/E2E.lean (`e2e_csv`, `e2e_json`, `e2e_html`,
    `e2e_markdown`, `e2e_text`, `e2e_text_rectangle`, …) applies verbatim to what `auto` emits. -/
theorem c19e_auto_as_history (x : Ext) (reg : Registry) (heavy : Decoration) (ops : List BuildOp)
    (hv : Valid ops = true) (t : Nat) (ht : t < (run x.dw ops).tables.length) (style : Bytes) :
    let wr := (resolveStyle reg heavy style).wrapper t
    let ops' := ops ++ wrapOps wr.kind t
    World.autoRender x reg heavy (run x.dw ops) t style = renderTo x (run x.dw ops') wr ∧
    wr.core = t ∧ Valid ops' = true ∧ t < (run x.dw ops').tables.length ∧
    (LogOnly (run x.dw ops) t → LogOnly (run x.dw ops') t) ∧
    (GoodTable (run x.dw ops) t → GoodTable (run x.dw ops') t) ∧
    Needs (run x.dw ops') wr := by
  intro wr ops'
  obtain ⟨h1, h2, h3, h4, h5⟩ := e2e_wrap x.dw ops hv wr.kind t ht
  have hc : wr.core = t := wrapper_core _ t
  refine ⟨?_, hc, h2, by rw [h3]; exact ht, h4 t, ?_, h5 wr rfl hc⟩
  · rw [autoRender_eq]
    show renderTo x ((run x.dw ops).wrapEffect wr.kind t) wr = renderTo x (run x.dw ops') wr
    rw [← h1]
  · intro hg
    show GoodTable (run x.dw (ops ++ wrapOps wr.kind t)) t
    rw [h1]
    exact goodTable_wrapEffect _ _ _ _ hg

/-- The core statement, for ANY world satisfying the structural invariant (every valid history, and
    everything reachable from one by further renders and wraps) and ANY style string, listed or not:
    if the style does not resolve to a text table carrying the empty decoration, then
    `auto.RenderTo(t, style)` on a good table returns no error, and `auto.Render(t, style)` returns
    the complete output. -/
theorem c19e_renders_inv (x : Ext) (reg : Registry) (heavy : Decoration) {w : World} (hinv : Inv w)
    (t : Nat) (hg : GoodTable w t) (style : Bytes)
    (hne : resolveStyle reg heavy style ≠ .text emptyDecoration) :
    (World.autoRender x reg heavy w t style).2.res = .ok () ∧
    World.renderString (World.autoRender x reg heavy w t style).2 =
      ((World.autoRender x reg heavy w t style).2.output, none) := by
  have hok : (World.autoRender x reg heavy w t style).2.res = .ok () := by
    rw [autoRender_eq]
    apply renderTo_ok_of_good x (inv_wrapEffect hinv _ _)
    · rw [wrapper_core]
      exact goodTable_wrapEffect _ _ _ _ hg
    · intro hk he
      apply hne
      rw [wrapper_text _ t hk, he]
  exact ⟨hok, c09_render_complete _ hok⟩

/-- C19, end to end.  For every registry `reg`, default decoration `heavy`, measure / JSON string
    encoder `x`, every valid build history `ops` and every good table `t` of the world it builds:
    every style `s` returned by `ListStyles` that is one of the four renderer names or `Plain`
    (dot-free, not case-folding to a sub-package name, bound to a non-empty decoration) is accepted
    by `auto` and `auto.RenderTo(t, s)` returns no error; `auto.Render(t, s)` returns the complete
    output and no error; and the renderer used is the one of that name, resp. the text renderer with
    the decoration registered under `s`.  (`_hs` is implied by `hok`; it is kept to mirror the
    property text.) -/
theorem c19e_listed_renders (x : Ext) (reg : Registry) (heavy : Decoration) (ops : List BuildOp)
    (hv : Valid ops = true) (t : Nat) (hg : GoodTable (run x.dw ops) t) (s : Bytes)
    (_hs : s ∈ listStyles reg) (hok : Plain reg s ∨ s ∈ formatNames) :
    let r := World.autoRender x reg heavy (run x.dw ops) t s
    r.2.res = .ok () ∧
    World.renderString r.2 = (r.2.output, none) ∧
    (Plain reg s → r = renderTo x ((run x.dw ops).wrapEffect .text t)
      { kind := .text, core := t, decor := reg.named s }) ∧
    (s = bytesOfString "csv" → r = World.pkgRender x heavy (run x.dw ops) .csv t) ∧
    (s = bytesOfString "html" → r = World.pkgRender x heavy (run x.dw ops) .html t) ∧
    (s = bytesOfString "markdown" → r = World.pkgRender x heavy (run x.dw ops) .markdown t) ∧
    (s = bytesOfString "json" → r = World.pkgRender x heavy (run x.dw ops) .json t) := by
  intro r
  obtain ⟨hne, hp, h1, h2, h3, h4⟩ := c19_listed_ok reg heavy s _hs hok
  obtain ⟨r1, r2⟩ := c19e_renders_inv x reg heavy (c02_inv_run x.dw ops hv) t hg s hne
  have hpa : r = _ := c10_paths_auto x reg heavy (run x.dw ops) t s
  refine ⟨r1, r2, ?_, ?_, ?_, ?_, ?_⟩
  · intro h; rw [hpa, (hp h).1]
  · intro h; rw [hpa, h1 h]
  · intro h; rw [hpa, h2 h]
  · intro h; rw [hpa, h3 h]
  · intro h; rw [hpa, h4 h]

/-- The same when every registered entry is plain: then EVERY listed style renders, no side
    condition on the individual style. -/
theorem c19e_all_listed_render (x : Ext) (reg : Registry) (heavy : Decoration)
    (hreg : ∀ p ∈ reg, NoDot p.1 ∧ goLower p.1 ∉ reservedNames ∧ p.2 ≠ emptyDecoration)
    (ops : List BuildOp) (hv : Valid ops = true) (t : Nat) (hg : GoodTable (run x.dw ops) t)
    (s : Bytes) (hs : s ∈ listStyles reg) :
    (World.autoRender x reg heavy (run x.dw ops) t s).2.res = .ok () ∧
    World.renderString (World.autoRender x reg heavy (run x.dw ops) t s).2 =
      ((World.autoRender x reg heavy (run x.dw ops) t s).2.output, none) :=
  c19e_renders_inv x reg heavy (c02_inv_run x.dw ops hv) t hg s (c19_listed_ok_all reg heavy hreg s hs).2

/-- The registry as it is at init (`Generated.builtins`, regenerated from a run of the real code on
    every check): EVERY style `ListStyles` returns — the six built-in decoration names and the four
    renderer names — renders every good table of every valid history without error.  No side
    condition is left (the built-in names are plain and bound to non-empty decorations:
    `builtins_plain`, from `c19_builtin_names_plain` / `c19_builtins_nonempty`). -/
theorem c19e_builtins (x : Ext) (heavy : Decoration) (ops : List BuildOp) (hv : Valid ops = true)
    (t : Nat) (hg : GoodTable (run x.dw ops) t) (s : Bytes) (hs : s ∈ listStyles Generated.builtins) :
    (World.autoRender x Generated.builtins heavy (run x.dw ops) t s).2.res = .ok () ∧
    World.renderString (World.autoRender x Generated.builtins heavy (run x.dw ops) t s).2 =
      ((World.autoRender x Generated.builtins heavy (run x.dw ops) t s).2.output, none) :=
  c19e_all_listed_render x Generated.builtins heavy builtins_plain ops hv t hg s hs

/-- … and the listing at init is exactly these ten names, in this order. -/
theorem c19e_builtins_listing :
    listStyles Generated.builtins =
      [[97, 115, 99, 105, 105, 45, 115, 105, 109, 112, 108, 101],                          -- ascii-simple
       bCsv, bHtml, bJson, bMarkdown,
       [110, 111, 110, 101],                                                               -- none
       [117, 116, 102, 56, 45, 100, 111, 117, 98, 108, 101],                               -- utf8-double
       [117, 116, 102, 56, 45, 104, 101, 97, 118, 121],                                    -- utf8-heavy
       [117, 116, 102, 56, 45, 108, 105, 103, 104, 116],                                   -- utf8-light
       [117, 116, 102, 56, 45, 108, 105, 103, 104, 116, 45, 99, 117, 114, 118, 101, 100]]  -- utf8-light-curved
    := by
  rw [listStyles_lit]; decide +kernel

/-- Unknown names fail closed, end to end, on EVERY world and table (good or not): a name that is
    not registered, has no dot and does not case-fold to a sub-package name — bare, or prefixed with
    `texttable.` in any casing — makes `auto.RenderTo` return the `noDecoration` error having written
    nothing and run no callback (the only effect is `Wrap`'s), and `auto.Render` return no text. -/
theorem c19e_unknown_fails (x : Ext) (reg : Registry) (heavy : Decoration) (w : World) (t : Nat) (n : Bytes)
    (hn : n ∉ reg.names) (hdot : NoDot n) :
    (goLower n ∉ reservedNames →
      (World.autoRender x reg heavy w t n).2.res = .error (.err .noDecoration) ∧
      (World.autoRender x reg heavy w t n).2.chunks = [] ∧
      (World.autoRender x reg heavy w t n).1 = w.wrapEffect .text t ∧
      World.renderString (World.autoRender x reg heavy w t n).2 = ([], some (.err .noDecoration))) ∧
    (∀ tt, goLower tt = bytesOfString "texttable" →
      (World.autoRender x reg heavy w t (tt ++ [46] ++ n)).2.res = .error (.err .noDecoration) ∧
      (World.autoRender x reg heavy w t (tt ++ [46] ++ n)).2.chunks = [] ∧
      (World.autoRender x reg heavy w t (tt ++ [46] ++ n)).1 = w.wrapEffect .text t ∧
      World.renderString (World.autoRender x reg heavy w t (tt ++ [46] ++ n)).2 =
        ([], some (.err .noDecoration))) := by
  obtain ⟨h1, h2⟩ := c19_unknown reg heavy n hn hdot
  exact ⟨fun hres => autoRender_empty x reg heavy w t n (h2 hres).1,
    fun tt htt => autoRender_empty x reg heavy w t _ (h1 tt htt)⟩

/-- How the format capstones of Props/E2E.lean attach: e.g. for the listed style `"csv"`, on every
    good table of every valid history, what `auto.RenderTo(t, "csv")` writes is read back by the
    strict RFC 4180 reader as exactly the table's records (`e2e_csv`). -/
example (x : Ext) (reg : Registry) (heavy : Decoration) (ops : List BuildOp) (hv : Valid ops = true)
    (t : Nat) (hg : GoodTable (run x.dw ops) t) :
    parse4180 (World.autoRender x reg heavy (run x.dw ops) t (bytesOfString "csv")).2.output =
      some ((run x.dw ops).csvRecords t) := by
  rw [(c19e_listed_renders x reg heavy ops hv t hg _ (c19_listing reg).2.1
    (.inr (by simp [formatNames]))).2.2.2.1 rfl]
  exact ((e2e_csv x ops hv (defaultWrapper heavy .csv t) rfl hg.1 hg.2.2.2.2.2.2.2.2.2).2.2 hg.2.1).2.1

/-! ### non-vacuity: the example history of Props/E2E.lean, hypotheses by evaluation -/

namespace C19eExample
open E2EExample

/-- `GoodTable` is a real hypothesis: C02's example table (empty header texts) is not good, and
    indeed its JSON render fails (Props/E2E.lean) -/
example : ¬ GoodTable (run e2eX.dw exHist) 0 := by decide +kernel

-- c19e_auto_as_history
example := c19e_auto_as_history e2eX c19Reg c19Heavy e2eOps hv 0 ht sLight
-- c19e_renders_inv / c19e_listed_renders: "light" (plain, registered in `c19Reg`) and "json"
example : (World.autoRender e2eX c19Reg c19Heavy (run e2eX.dw e2eOps) 0 sLight).2.res = .ok () :=
  (c19e_listed_renders e2eX c19Reg c19Heavy e2eOps hv 0 hG sLight (by rw [listStyles_lit]; decide +kernel)
    (.inl ⟨by decide +kernel, by rw [reservedNames_lit]; decide +kernel, by decide +kernel⟩)).1
example : (World.autoRender e2eX c19Reg c19Heavy (run e2eX.dw e2eOps) 0 (bytesOfString "json")).2.res = .ok () :=
  (c19e_listed_renders e2eX c19Reg c19Heavy e2eOps hv 0 hG _ (c19_listing c19Reg).2.2.2.1
    (.inr (by simp [formatNames]))).1
-- … from a world reached by a further render (not of the form `run … ops` syntactically)
example := c19e_renders_inv e2eX c19Reg c19Heavy
  (c02_inv_render e2eX.dw (c02_inv_run e2eX.dw e2eOps hv) 0) 0
-- c19e_all_listed_render
example := c19e_all_listed_render e2eX c19Reg c19Heavy (by rw [reservedNames_lit]; decide +kernel)
  e2eOps hv 0 hG
-- c19e_builtins: all ten listed names, e.g. "none" (the boxless one) and "utf8-light-curved"
example : ([110, 111, 110, 101] : Bytes) ∈ listStyles Generated.builtins := by
  rw [c19e_builtins_listing]; decide +kernel
example : (World.autoRender e2eX Generated.builtins Generated.heavy (run e2eX.dw e2eOps) 0
    [110, 111, 110, 101]).2.res = .ok () :=
  (c19e_builtins e2eX Generated.heavy e2eOps hv 0 hG _ (by rw [c19e_builtins_listing]; decide +kernel)).1
example : ∀ s ∈ listStyles Generated.builtins,
    (World.autoRender e2eX Generated.builtins Generated.heavy (run e2eX.dw e2eOps) 0 s).2.res = .ok () :=
  fun s hs => (c19e_builtins e2eX Generated.heavy e2eOps hv 0 hG s hs).1
/-- what `auto.Render(t, "ascii-simple")` returns on the example table (computed by the model):
```
+---+---+
| a | b |
+---+---+
| c | d |
+---+---+
| e |   |
+---+---+
``` -/
example : World.renderString (World.autoRender e2eX Generated.builtins Generated.heavy (run e2eX.dw e2eOps) 0
      [97, 115, 99, 105, 105, 45, 115, 105, 109, 112, 108, 101]).2 =
    ([43,45,45,45,43,45,45,45,43,10, 124,32,97,32,124,32,98,32,124,10, 43,45,45,45,43,45,45,45,43,10,
      124,32,99,32,124,32,100,32,124,10, 43,45,45,45,43,45,45,45,43,10,
      124,32,101,32,124,32,32,32,124,10, 43,45,45,45,43,45,45,45,43,10], none) := by decide +kernel
-- c19e_unknown_fails: "nope"
example := (c19e_unknown_fails e2eX c19Reg c19Heavy (run e2eX.dw e2eOps) 0 [110, 111, 112, 101]
  (by decide +kernel) (by decide +kernel)).1 (by rw [reservedNames_lit]; decide +kernel)
example : goLower [84, 101, 120, 116, 84, 97, 98, 108, 101] = bytesOfString "texttable" := by
  rw [bytes_texttable]; decide +kernel

/-! #### Recorded findings (D21) at this level: listed names that `auto` cannot reach.
    The failures hold on EVERY world and table, in particular on the good table above. -/

/-- KF 1, a dotted registered name: `"my.style"` is listed and bound to a non-empty decoration, yet
    `auto.RenderTo(t, "my.style")` fails with `noDecoration` and `auto.Render` returns no text. -/
example (x : Ext) (w : World) (t : Nat) :
    ([109, 121, 46, 115, 116, 121, 108, 101] : Bytes) ∈ listStyles c19KfDotted ∧
    c19KfDotted.named [109, 121, 46, 115, 116, 121, 108, 101] = c19D ∧ c19D ≠ emptyDecoration ∧
    (World.autoRender x c19KfDotted c19D w t [109, 121, 46, 115, 116, 121, 108, 101]).2.res =
      .error (.err .noDecoration) ∧
    World.renderString (World.autoRender x c19KfDotted c19D w t [109, 121, 46, 115, 116, 121, 108, 101]).2 =
      ([], some (.err .noDecoration)) := by
  have h := autoRender_empty x c19KfDotted c19D w t [109, 121, 46, 115, 116, 121, 108, 101]
    (by rw [resolveStyle_lit]; decide +kernel)
  exact ⟨by rw [listStyles_lit]; decide +kernel, by decide +kernel, by decide +kernel, h.1, h.2.2.2⟩

/-- KF 2, a name registered with the empty decoration: `"empty"` is listed and does not render. -/
example (x : Ext) (w : World) (t : Nat) :
    ([101, 109, 112, 116, 121] : Bytes) ∈ listStyles c19KfEmpty ∧
    (World.autoRender x c19KfEmpty c19D w t [101, 109, 112, 116, 121]).2.res = .error (.err .noDecoration) ∧
    World.renderString (World.autoRender x c19KfEmpty c19D w t [101, 109, 112, 116, 121]).2 =
      ([], some (.err .noDecoration)) := by
  have h := autoRender_empty x c19KfEmpty c19D w t [101, 109, 112, 116, 121]
    (by rw [resolveStyle_lit]; decide +kernel)
  exact ⟨by rw [listStyles_lit]; decide +kernel, h.1, h.2.2.2⟩

/-- KF 3, a registered name that case-folds to a sub-package name: `"CSV"` is listed as a decoration
    and `auto.RenderTo(t, "CSV")` does render the good table — but as CSV (it is the package-level
    `csv.RenderTo`), not as a text table with the registered decoration; `"texttable.CSV"` is the
    text table. -/
example (x : Ext) (w : World) (t : Nat) :
    ([67, 83, 86] : Bytes) ∈ listStyles c19KfFold ∧
    World.autoRender x c19KfFold c19D w t [67, 83, 86] = World.pkgRender x c19D w .csv t ∧
    World.autoRender x c19KfFold c19D w t ([116, 101, 120, 116, 116, 97, 98, 108, 101] ++ [46] ++ [67, 83, 86]) =
      renderTo x (w.wrapEffect .text t) { kind := .text, core := t, decor := c19D } := by
  refine ⟨by rw [listStyles_lit]; decide +kernel, ?_, ?_⟩
  · rw [c10_paths_auto, show resolveStyle c19KfFold c19D [67, 83, 86] = .csv from by
      rw [resolveStyle_lit]; decide +kernel]
  · rw [c10_paths_auto, show resolveStyle c19KfFold c19D
      ([116, 101, 120, 116, 116, 97, 98, 108, 101] ++ [46] ++ [67, 83, 86]) = .text c19D from by
      rw [resolveStyle_lit]; decide +kernel]
/-- … on the example table: no error, and the text returned is the CSV `"a","b" / "c","d" / "e",""` -/
example : (World.autoRender e2eX c19KfFold c19D (run e2eX.dw e2eOps) 0 [67, 83, 86]).2.res = .ok () ∧
    World.renderString (World.autoRender e2eX c19KfFold c19D (run e2eX.dw e2eOps) 0 [67, 83, 86]).2 =
      ([34, 97, 34, 44, 34, 98, 34, 10, 34, 99, 34, 44, 34, 100, 34, 10, 34, 101, 34, 44, 34, 34, 10], none) := by
  refine ⟨(c19e_renders_inv e2eX c19KfFold c19D (c02_inv_run e2eX.dw e2eOps hv) 0 hG _
    (by rw [resolveStyle_lit]; decide +kernel)).1, ?_⟩
  rw [c10_paths_auto, show resolveStyle c19KfFold c19D [67, 83, 86] = .csv from by
    rw [resolveStyle_lit]; decide +kernel]
  decide +kernel

end C19eExample

end Tab
