/-
  C09h — C09 ("every renderer is total") with hypotheses on the BUILD HISTORY and the decoration only.

  `c09_total` / `e2e_no_panic_any_history` carry `AlignOK` of the view AFTER the callbacks pass of the
  very render in question — a hypothesis about a world the caller never sees.  It is necessary
  (`c08_panic_bad_align`, `c04_eff_align_bad`: an alignment value outside {unset, left, right, centre}
  makes markdown / texttable panic), but nothing connected it to what the user did.  Here:

  * `AlignValuesOK ops` (Proofs/C09hAlign.lean, decidable): every value the history sets under `align`
    DIRECTLY on a column record (`setProp (.column t n) .align v`, `n = 0`: the defaults column), and
    every value carried by a `.setProp _ .align v` CALLBACK the history registers anywhere (on tables,
    columns, rows, cells, at any time; or riding on a ready-made cell value), is unset or one of the
    three alignments.  `align` values set on tables, rows, cells, copies are unrestricted.
  * `CellsOk ops` (Proofs/C12hDefs.lean): ready-made cell values hold one link per key (always true of
    values the Go API produces).

  `c09h_alignok`: then `AlignOK` holds of the post-pass view of every table — because (last writer,
  `irc_colGet` / `get_foldl_applyChain`) the value read is either the one the column had before the
  pass or the one the last of the column's own `align`-writing callbacks wrote, and (`C09h.colsOK_run`)
  along the history a column record's `align` only ever receives a value from a direct set on it or
  from a callback invocation.  No writer table, no unique ids, arbitrary other callbacks.
  `c09h_no_panic`: the capstone.  No `Valid` is needed for `c09h_alignok`; `c09h_no_panic` needs it for
  the shape of the view (`c02_inv_run`).  The table id is arbitrary (a missing table renders as the
  empty table: refused or empty, never a panic).

  The decoration hypothesis of `c09h_no_panic` / `c09h_render_empty_on_error` (`DecorTotalH`, the `DecorTotal` of
  Props/C09.lean) is not used by their proofs: the text renderer is total for every decoration value
  (`C09h.total_inv_any`, Proofs/C09hTotal.lean); Props/C09t.lean states the same theorems without it.

  Import note: this module is on the `Props/C12h.lean` side of the `PState` clash (`Proofs/C12hDefs.lean`
  vs `Spec/Json.lean`), so it cannot import `Props/C09.lean` (which imports `Props/C07.lean`).  The
  renderer-totality half is assembled in `Proofs/C09hTotal.lean` from `c05_no_panic`, `c08_no_panic`,
  `renderTextBody_total` and a direct proof that `renderJson` never panics (`Proofs/C09hJson.lean`);
  `DecorTotalH` below is, literally, `DecorTotal` of `Props/C09.lean`.
-/
import Tabmodel.Proofs.C09hAlign
import Tabmodel.Proofs.TextTotal
namespace Tab
open World C09h

/-- `DecorTotal` of Props/C09.lean (same definition; that file cannot be imported here): the body
    dividers of the decoration are all present or all absent. -/
def DecorTotalH (d : Decoration) : Prop := DivsOK d.vBodyBorder d.vBodyInner d.vBodyBorder

/-- The alignment hypothesis of C09, from the history alone: after any history of well-formed cell
    values whose alignment values are within the domain, the view ANY renderer reads after its callbacks
    pass over ANY table has every column alignment unset or left / right / centre — whatever callbacks
    run during that pass. -/
theorem c09h_alignok (dw : Measure) (ops : List BuildOp) (hc : CellsOk ops) (ha : AlignValuesOK ops) (t : Nat) :
    AlignOK ((invokeRenderCallbacks dw (run dw ops) t).view t) := by
  obtain ⟨hw, hn, hco⟩ := colsOK_run dw ops hc ha
  exact alignOK_post dw hw hn hco t

/-- The invariant behind it, for use after further operations: every `align`-writing callback of the
    built world carries a value within the domain, and every column record reads one. -/
theorem c09h_align_invariant (dw : Measure) (ops : List BuildOp) (hc : CellsOk ops) (ha : AlignValuesOK ops) :
    (∀ s tm, ∀ cb ∈ (run dw ops).cbsAt s tm, cb.alignOK = true) ∧
    (∀ t n, alignInDomain ((run dw ops).getProp (.column t n) .align) = true) :=
  ⟨(colsOK_run dw ops hc ha).1, (colsOK_run dw ops hc ha).2.2⟩

set_option linter.unusedVariables false in -- `hd`: see the head of the file
/-- C09 with hypotheses on the history and the decoration only: for every valid build history of
    well-formed cell values whose alignment values are within the domain, every wrapper kind, every
    table id and — for a text wrapper — every decoration whose body dividers are all present or all
    absent, the outcome of `RenderTo` is never a panic, whatever callbacks are registered. -/
theorem c09h_no_panic (x : Ext) (ops : List BuildOp) (hv : Valid ops = true) (hc : CellsOk ops)
    (ha : AlignValuesOK ops) (wr : Wrapper) (hd : wr.kind = .text → DecorTotalH wr.decor) :
    ∀ site, ((run x.dw ops).renderTo x wr).2.res ≠ .error (.panic site) :=
  C09h.total_inv_any x (run x.dw ops) (c02_inv_run x.dw ops hv) wr (c09h_alignok x.dw ops hc ha wr.core)

set_option linter.unusedVariables false in -- `hd`
/-- ... with the decoration hypothesis discharged for every built-in decoration, every
    `Populate`-completed decoration and the empty one (which is refused). -/
theorem c09h_no_panic_decor (x : Ext) (ops : List BuildOp) (hv : Valid ops = true) (hc : CellsOk ops)
    (ha : AlignValuesOK ops) (wr : Wrapper)
    (hd : wr.kind = .text → (∃ p ∈ Generated.builtins, wr.decor = p.2) ∨ (∃ d : Decoration, wr.decor = d.populate)
      ∨ wr.decor = emptyDecoration) :
    ∀ site, ((run x.dw ops).renderTo x wr).2.res ≠ .error (.panic site) :=
  C09h.total_inv_any x (run x.dw ops) (c02_inv_run x.dw ops hv) wr (c09h_alignok x.dw ops hc ha wr.core)

/-- `Render()` on an outcome that is not a panic: the complete text and no error, or the empty string and the
    error. -/
theorem C09h.render_empty_on_error (m : Emit Unit) (hnp : ∀ site, m.res ≠ .error (.panic site)) :
    (m.res = .ok () ∧ renderString m = (m.output, none)) ∨
    (∃ e, m.res = .error (.err e) ∧ renderString m = ([], some (.err e))) := by
  unfold renderString
  cases hm : m.res with
  | ok u => exact Or.inl ⟨rfl, rfl⟩
  | error s =>
    cases s with
    | err e => exact Or.inr ⟨e, rfl, rfl⟩
    | panic site => exact absurd hm (hnp site)

/-- `Render()` on such a table: either the complete text and no error, or the empty string and an error
    that is not a panic. -/
theorem c09h_render_empty_on_error (x : Ext) (ops : List BuildOp) (hv : Valid ops = true) (hc : CellsOk ops)
    (ha : AlignValuesOK ops) (wr : Wrapper) (hd : wr.kind = .text → DecorTotalH wr.decor) :
    let m := ((run x.dw ops).renderTo x wr).2
    (m.res = .ok () ∧ renderString m = (m.output, none)) ∨
    (∃ e, m.res = .error (.err e) ∧ renderString m = ([], some (.err e))) :=
  C09h.render_empty_on_error _ (c09h_no_panic x ops hv hc ha wr hd)

/-! ### non-vacuity -/

namespace C09hExample

def item (b : UInt8) : Item :=
  { kind := .str [b], mString := none, mGoString := none, mError := none, fmtV := [b],
    mHeight := none, mWidth := none, json := some [34, b, 34] }

/-- items `a` … `e`; table 0 with, on its cells, a callback setting user key 7 (2) and one setting
    `align` on the CELLS (10); a failing callback on the table (3); header `a b`, row `c d`, separator,
    ragged row `e`; column 1 right-aligned by the history; an out-of-domain `align` value set on ROW 1
    (unrestricted: no renderer reads it); column 1's own pre-time callback (4) centres it; column 2's
    own callbacks set `align` right (5) and remove it again (6); then wrapped as text and as markdown. -/
def ops : List BuildOp :=
  [ .setItems [item 97, item 98, item 99, item 100, item 101],
    .newTable,
    .regCb (.table 0) .render .cell (.setProp 2 (.user 7) (some (.user 70))),
    .regCb (.table 0) .post .cell (.setProp 10 .align (some (.align 1))),
    .regCb (.table 0) .pre .itself (.fail 3 55),
    .addHeaders 0 [0, 1], .addRowItems 0 [2, 3], .addSeparator 0,
    .newRow, .rowAdd 3 4, .addRow 0 3,
    .setProp (.column 0 1) .align (some (.align 2)),
    .setProp (.row 1) .align (some (.user 4)),
    .regCb (.column 0 1) .pre .itself (.setProp 4 .align (some (.align 3))),
    .regCb (.column 0 2) .pre .itself (.setProp 5 .align (some (.align 2))),
    .regCb (.column 0 2) .post .itself (.setProp 6 .align none) ] ++
  wrapOps .text 0 ++ wrapOps .markdown 0

def x : Ext := ⟨List.length, fun s => [34] ++ s ++ [34]⟩

theorem c09h_ex_valid : Valid ops = true := by decide +kernel
theorem c09h_ex_cells : CellsOk ops := by decide +kernel
theorem c09h_ex_align : AlignValuesOK ops := by decide +kernel

example := c09h_alignok x.dw ops c09h_ex_cells c09h_ex_align 0
example := c09h_align_invariant x.dw ops c09h_ex_cells c09h_ex_align
-- the alignments the markdown renderer reads: defaults unset, column 1 centred DURING the pass
example : ((invokeRenderCallbacks x.dw (run x.dw ops) 0).view 0).colAlign = [none, some (.align 3), none] := by
  decide +kernel
example := c09h_no_panic x ops c09h_ex_valid c09h_ex_cells c09h_ex_align { kind := .markdown, core := 0 } (fun h => by cases h)
example := c09h_no_panic_decor x ops c09h_ex_valid c09h_ex_cells c09h_ex_align { kind := .text, core := 0, decor := Generated.heavy }
  (fun _ => Or.inl ⟨([117, 116, 102, 56, 45, 104, 101, 97, 118, 121], Generated.heavy), by decide, rfl⟩)
example := c09h_no_panic_decor x ops c09h_ex_valid c09h_ex_cells c09h_ex_align { kind := .text, core := 0, decor := ({} : Decoration).populate }
  (fun _ => Or.inr (Or.inl ⟨_, rfl⟩))
example := c09h_render_empty_on_error x ops c09h_ex_valid c09h_ex_cells c09h_ex_align { kind := .json, core := 0 } (fun h => by cases h)
example : (match ((run x.dw ops).renderTo x { kind := .markdown, core := 0 }).2.res with
    | .ok _ => true | .error _ => false) = true := by decide +kernel

/-- `AlignValuesOK` is needed, in both of its parts: one value that is not an alignment set directly on
    a column, or written by a column's own callback during the pass, and the markdown renderer panics
    (the Go type assertion).  An alignment outside left / right / centre (`alignSimple{7}`) is tolerated
    by markdown but makes texttable panic ("unhandled alignment"): `bad3`.  So the domain
    `{unset, 1, 2, 3}` — that of `AlignOK` — is the right one for "every renderer". -/
def bad1 : List BuildOp :=
  [ .setItems [item 97], .newTable, .addHeaders 0 [0], .addRowItems 0 [0],
    .setProp (.column 0 1) .align (some (.bool true)) ] ++ wrapOps .markdown 0
def bad2 : List BuildOp :=
  [ .setItems [item 97], .newTable, .addHeaders 0 [0], .addRowItems 0 [0],
    .regCb (.column 0 1) .post .itself (.setProp 4 .align (some (.user 1))) ] ++ wrapOps .markdown 0
example : Valid bad1 = true ∧ CellsOk bad1 ∧ ¬ AlignValuesOK bad1 ∧
    (match ((run x.dw bad1).renderTo x { kind := .markdown, core := 0 }).2.res with
     | .error (.panic _) => true | _ => false) = true := by decide +kernel
def bad3 : List BuildOp :=
  [ .setItems [item 97], .newTable, .addHeaders 0 [0], .addRowItems 0 [0],
    .setProp (.column 0 0) .align (some (.align 7)) ] ++ wrapOps .text 0
example : Valid bad3 = true ∧ CellsOk bad3 ∧ ¬ AlignValuesOK bad3 ∧
    (match ((run x.dw bad3).renderTo x { kind := .text, core := 0, decor := Generated.heavy }).2.res with
     | .error (.panic _) => true | _ => false) = true := by decide +kernel
example : Valid bad2 = true ∧ CellsOk bad2 ∧ ¬ AlignValuesOK bad2 ∧
    (match ((run x.dw bad2).renderTo x { kind := .markdown, core := 0 }).2.res with
     | .error (.panic _) => true | _ => false) = true := by decide +kernel

end C09hExample

end Tab
