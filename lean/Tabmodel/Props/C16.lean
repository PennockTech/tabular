/-
  C16 — independent tables can be built and rendered concurrently (the LOGIC part).

  SCOPE.  Memory-level data-race freedom cannot be expressed in this model: its steps are whole API calls,
  so two goroutines inside the same call, a torn slice header, the Go memory model or `sync.Mutex` do not
  exist here.  That part of C16 is ASSUMED here and is sampled separately with the Go race detector.
  What is proved is state-locality / non-interference of API steps on distinct tables, for EVERY
  interleaving at API-step granularity, in the L1 model (`Model/World.lean`, `View.lean`, `Render.lean`).

  Vocabulary (definitions in `Proofs/C16*.lean`):
  * `Step`, `applyW`, `applyO`: the API calls (`NewRow`, `row.Add`, `AddRow`, `AddSeparator`, `AddHeaders`,
    `AddRowItems`, `AppendNewRow`, `SetProperty`/`RegisterPropertyCallback` on any owner, `X.Wrap`,
    `InvokeRenderCallbacks`, `RenderTo`, `CellAt`, `Column(n)!=nil`, `Errors()`), the world after a call and
    what the call returns.  Each step has an explicit footprint: `Step.tableOK t` (its table argument is `t`)
    and `Step.rowArgs` (its row argument); `s.on t R` = table argument `t` and row arguments in `R`.
  * `RowLocal t r rw`: row `r` refers to no table but `t` (`inTable ∈ {none, some t}`, `ec ∈ {none, own _,
    table t}`) and its cells' back pointers are `none` or `r` itself.  `OwnedBy w t R`: `R` contains the
    header and rows of `t`, and every row in `R` exists in the store and is `RowLocal` to `t`.
    `Local w t := OwnedBy w t (footprint w t)`.  All decidable.
  * `Sched`, `runI`, `ValidRun`, `ownedAfter`, `runAlone`, `skeleton`: see `c16_interleave`.

  Not covered (besides memory-level races):
  * tables are allocated up front: `newTable` (`tabular.New()`) is not a step of the schedule language; it is
    framed by `c16_frame_newTable` (it appends to the table list and touches nothing else), but the renaming
    of TABLE ids that interleaved `New()` calls would imply is not carried through `c16_interleave`;
  * the event log (`World.events`) and the store of caller-held cell copies (`World.copies`) are model-level
    observation devices shared by construction (they have no counterpart shared between goroutines in Go);
    they are not part of the compared component, and `getProp` on a copy is not a step;
  * ownership is a hypothesis (`ValidRun`): a goroutine that calls a step on the other's table or row, or
    adds one row to both tables, is outside the theorem — as it is outside the property.
-/
import Tabmodel.Proofs.C16Interleave
namespace Tab
open World C16

/-! ### frame properties -/

/-- C16 frame, tables: a step called on table `t` and rows in `R` (an owner set for `t`: it contains the header
    and rows of `t` plus the row argument of the step, all of them `RowLocal` to `t`) leaves every other
    table as it was, and does not change the number of tables. -/
theorem c16_frame_table (x : Ext) (w : World) (t : Nat) (R : List Nat) (s : Step)
    (ho : OwnedBy w t R) (hs : s.on t R) :
    (applyW x w s).tables.length = w.tables.length ∧
    ∀ t', t' ≠ t → (applyW x w s).tables[t']? = w.tables[t']? ∧ (applyW x w s).table t' = w.table t' := by
  have res := apply_both x s (ownedBy_iff_inv.1 ho) hs
  exact ⟨res.frame.tlen, fun t' ht => ⟨res.frame.tabs t' ht, res.frame.table ht⟩⟩

/-- C16 frame, rows: the same steps leave every existing row outside `R` as it was; existing ids keep
    their meaning (the store only grows, by exactly `nalloc s ∈ {0,1}` rows), and the item store is untouched. -/
theorem c16_frame_rows (x : Ext) (w : World) (t : Nat) (R : List Nat) (s : Step)
    (ho : OwnedBy w t R) (hs : s.on t R) :
    (applyW x w s).rows.length = w.rows.length + s.nalloc ∧
    (applyW x w s).items = w.items ∧
    ∀ r', r' < w.rows.length → r' ∉ R →
      (applyW x w s).rows[r']? = w.rows[r']? ∧ (applyW x w s).row r' = w.row r' := by
  have res := apply_both x s (ownedBy_iff_inv.1 ho) hs
  exact ⟨res.len, res.frame.items, fun r' hl hr => ⟨res.frame.rows r' hr hl, res.frame.row hr hl⟩⟩

/-- allocating a table (`tabular.New()`) touches no existing table and no row -/
theorem c16_frame_newTable (w : World) :
    (w.newTable).1.rows = w.rows ∧ (w.newTable).1.items = w.items ∧ (w.newTable).2 = w.tables.length ∧
    ∀ t', t' < w.tables.length → (w.newTable).1.tables[t']? = w.tables[t']? := by
  refine ⟨rfl, rfl, rfl, fun t' ht => ?_⟩
  simp [newTable, List.getElem?_append_left ht]

/-- ownership (hence `Local`) is preserved by every step; the freshly allocated row joins the owner set -/
theorem c16_local_preserved (x : Ext) (w : World) (t : Nat) (R : List Nat) (s : Step)
    (ho : OwnedBy w t R) (hs : s.on t R) :
    OwnedBy (applyW x w s) t (grow R w.rows.length s) ∧ Local (applyW x w s) t := by
  have res := apply_both x s (ownedBy_iff_inv.1 ho) hs
  have := ownedBy_iff_inv.2 (res.inv.congr (fun _ => mem_grow))
  exact ⟨this, this.local⟩

/-- the two frame properties with the footprint written out: if `t` is `Local` and the row argument of the
    step (if any) exists and is `RowLocal` to `t`, then a step with table argument `t` changes no other table
    and no existing row other than its row argument, the header of `t` and the rows of `t`. -/
theorem c16_frame_footprint (x : Ext) (w : World) (t : Nat) (s : Step)
    (hl : Local w t) (hargs : ∀ r ∈ s.rowArgs, r < w.rows.length ∧ RowLocal t r (w.row r))
    (ht : s.tableOK t) :
    (∀ t', t' ≠ t → (applyW x w s).tables[t']? = w.tables[t']?) ∧
    (∀ r', r' < w.rows.length → r' ∉ s.rowArgs → (w.table t).header ≠ some r' → r' ∉ (w.table t).rows →
      (applyW x w s).rows[r']? = w.rows[r']?) ∧
    Local (applyW x w s) t := by
  have ho : OwnedBy w t (footprint w t ++ s.rowArgs) :=
    ⟨fun r hr => List.mem_append.2 (.inl hr), fun r hr => by
      rcases List.mem_append.1 hr with h | h
      · exact hl.2 r h
      · exact hargs r h⟩
  have hs : s.on t (footprint w t ++ s.rowArgs) :=
    (Step.on_iff s t _).2 ⟨ht, fun r hr => List.mem_append.2 (.inr hr)⟩
  refine ⟨fun t' ht' => ((c16_frame_table x w t _ s ho hs).2 t' ht').1, fun r' hl' h1 h2 h3 => ?_,
    (c16_local_preserved x w t _ s ho hs).2⟩
  refine ((c16_frame_rows x w t _ s ho hs).2.2 r' hl' (fun hm => ?_)).1
  rcases List.mem_append.1 hm with h | h
  · rcases mem_footprint.1 h with h | h
    · exact h2 h
    · exact h3 h
  · exact h1 h

/-! ### dependence properties -/

/-- C16 dependence, rendering: the chunks and the result of `RenderTo` on a wrapper of table `t`, and table
    `t` and its rows afterwards, are determined by table `t`, the rows in its footprint and the items their
    cells reference. -/
theorem c16_depends (x : Ext) (wr : Wrapper) (w₁ w₂ : World)
    (hl : Local w₁ wr.core)
    (htab : w₁.tables[wr.core]? = w₂.tables[wr.core]?)
    (hrows : ∀ r ∈ footprint w₁ wr.core, w₁.rows[r]? = w₂.rows[r]?)
    (hitems : ∀ r ∈ footprint w₁ wr.core, ∀ ce ∈ w₁.rowCells r, w₁.item ce.item = w₂.item ce.item) :
    (renderTo x w₁ wr).2 = (renderTo x w₂ wr).2 ∧
    (renderTo x w₁ wr).1.tables[wr.core]? = (renderTo x w₂ wr).1.tables[wr.core]? ∧
    ∀ r ∈ footprint w₁ wr.core, (renderTo x w₁ wr).1.rows[r]? = (renderTo x w₂ wr).1.rows[r]? := by
  let I : Nat → Prop := fun i => ∃ r ∈ footprint w₁ wr.core, ∃ ce ∈ w₁.rowCells r, ce.item = i
  have inv : Inv wr.core (· ∈ footprint w₁ wr.core) I w₁ :=
    inv_of_ownedBy hl (fun r hr ce hce => ⟨r, hr, ce, hce, rfl⟩)
  have ag : Agree wr.core (· ∈ footprint w₁ wr.core) I w₁ w₂ :=
    ⟨htab, hrows, fun i ⟨r, hr, ce, hce, e⟩ => e ▸ hitems r hr ce hce⟩
  obtain ⟨h1, h2⟩ := apply_sim x (.render wr) inv rfl (sim_id_iff.2 ag)
  exact ⟨(Obs.rendered.inj h2).symm, (sim_id_iff.1 h1).tab, (sim_id_iff.1 h1).rows⟩

/-- C16 dependence, any step: two worlds that agree on table `t`, on the owned rows `R`, on the items and on
    the size of the row store give the same return value and agree again afterwards (on the grown owner set). -/
theorem c16_depends_step (x : Ext) (w₁ w₂ : World) (t : Nat) (R : List Nat) (s : Step)
    (ho : OwnedBy w₁ t R) (hs : s.on t R)
    (htab : w₁.tables[t]? = w₂.tables[t]?) (hrows : ∀ r ∈ R, w₁.rows[r]? = w₂.rows[r]?)
    (hitems : ∀ i, w₁.item i = w₂.item i) (hlen : w₂.rows.length = w₁.rows.length) :
    applyO x w₁ s = applyO x w₂ s ∧
    (applyW x w₁ s).tables[t]? = (applyW x w₂ s).tables[t]? ∧
    (∀ r ∈ grow R w₁.rows.length s, (applyW x w₁ s).rows[r]? = (applyW x w₂ s).rows[r]?) ∧
    (∀ i, (applyW x w₁ s).item i = (applyW x w₂ s).item i) := by
  obtain ⟨ag, ob, -⟩ := apply_dep x s (ownedBy_iff_inv.1 ho) hs ⟨htab, hrows, fun i _ => hitems i⟩ hlen
  exact ⟨ob, ag.tab, fun r hr => ag.rows r (mem_grow.1 hr), fun i => ag.items i trivial⟩

/-- C16 dependence, observers: `CellAt`, `Column(n) != nil`, `Errors()` of a row of the table. -/
theorem c16_depends_observers (w₁ w₂ : World) (t : Nat)
    (hl : Local w₁ t)
    (htab : w₁.tables[t]? = w₂.tables[t]?)
    (hrows : ∀ r ∈ footprint w₁ t, w₁.rows[r]? = w₂.rows[r]?) :
    (∀ r c, cellAt w₁ t r c = cellAt w₂ t r c) ∧
    (∀ n, hasColumn w₁ t n = hasColumn w₂ t n) ∧
    (∀ r ∈ footprint w₁ t, rowErrors w₁ r = rowErrors w₂ r) := by
  have inv := ownedBy_iff_inv.1 hl
  have hs : Sim (fun r => r) t (· ∈ footprint w₁ t) anyItem w₁ { w₂ with items := w₁.items } :=
    sim_id_iff.2 ⟨htab, hrows, fun _ _ => rfl⟩
  refine ⟨fun r c => ?_, fun n => (sim_hasColumn n hs).symm, fun r hr => ((reads_rowErrors hr).rel _ _ inv hs).symm⟩
  have := sim_cellAt r c inv hs
  cases h : cellAt w₁ t r c <;> rw [h] at this <;> exact this.symm

/-! ### interleavings -/

/-- C16 interleaving, general form.  A works on table `a` with rows `Ra`, B on table `b ≠ a` with rows `Rb`,
    ownership is disjoint, and `I` is ANY interleaving of their steps (`true` = A's step) in which each
    goroutine only calls steps on its own table and on rows it owns at that moment (`ValidRun`; rows a
    goroutine allocates become its own; both may allocate freely).  Compare with `runAlone`: A's calls
    alone, from the same initial world, B's calls not executed at all, each call of A made on the row
    handles that A's own earlier calls returned in that run.  Then
    * everything A's calls return — the chunks and result of every `RenderTo`, error lists, `CellAt`
      column, refusals — is equal, the identity of returned row handles aside (`Obs.erase`);
    * the render view of table `a` at the end is equal;
    * table `a` and all of A's rows at the end are equal up to a renaming `ρ` of row ids that is injective
      on A's rows (row `r` of the interleaved run is row `ρ r` of the run alone; the ids stored in the table's
      `rows`/`header` and in the cells' back pointers are renamed by `ρ`);
    * A's final owner set is again an owner set (it contains the whole footprint of `a`). -/
theorem c16_interleave (x : Ext) (a b : Nat) (hab : a ≠ b) (w : World) (Ra Rb : List Nat)
    (ha : OwnedBy w a Ra) (hb : OwnedBy w b Rb) (hd : ∀ r ∈ Ra, r ∉ Rb)
    (I : Sched) (hv : ValidRun x a b w Ra Rb I) :
    (runAlone x w w (fun r => r) I).2.map Obs.erase = (runI x w I).2.map Obs.erase ∧
    (runAlone x w w (fun r => r) I).1.view a = (runI x w I).1.view a ∧
    (∃ ρ : Nat → Nat,
      (∀ r ∈ ownedAfter x w Ra I, ∀ r' ∈ ownedAfter x w Ra I, ρ r = ρ r' → r = r') ∧
      (runAlone x w w (fun r => r) I).1.tables[a]? = ((runI x w I).1.tables[a]?).map (renTable ρ) ∧
      ∀ r ∈ ownedAfter x w Ra I,
        (runAlone x w w (fun r => r) I).1.rows[ρ r]? = ((runI x w I).1.rows[r]?).map (renRow ρ)) ∧
    OwnedBy (runI x w I).1 a (ownedAfter x w Ra I) := by
  obtain ⟨⟨ρ, hs⟩, c2, c3⟩ := alone_main x hab I w w (fun r => r) Ra Rb (ownedBy_iff_inv.1 ha)
    (ownedBy_iff_inv.1 hb) hd (sim_id_iff.2 (Agree.refl _ _ _ _)) hv
  exact ⟨c2, sim_view c3 hs, ⟨ρ, fun r hr r' hr' => hs.inj r r' hr hr', hs.tab, hs.rows⟩, ownedBy_iff_inv.2 c3⟩

/-- C16 interleaving for programs that never name a row (A only uses `AddHeaders`, `AddRowItems`,
    `AddSeparator`, `AppendNewRow`, `NewRow`, table/column properties and callbacks, `Wrap`, `RenderTo`,
    `CellAt`, …): `runAlone` is then literally the run of A's step list. -/
theorem c16_interleave_norows (x : Ext) (a b : Nat) (hab : a ≠ b) (w : World) (Ra Rb : List Nat)
    (ha : OwnedBy w a Ra) (hb : OwnedBy w b Rb) (hd : ∀ r ∈ Ra, r ∉ Rb)
    (I : Sched) (hv : ValidRun x a b w Ra Rb I)
    (hA : ∀ p ∈ I, p.1 = true → p.2.rowArgs = []) :
    (run x w (projA I)).2.map Obs.erase = (runI x w I).2.map Obs.erase ∧
    (run x w (projA I)).1.view a = (runI x w I).1.view a := by
  have h := c16_interleave x a b hab w Ra Rb ha hb hd I hv
  rw [runAlone_noRows x I hA] at h
  exact ⟨h.1, h.2.1⟩

/-- C16 interleaving, literal form (no renaming).  A works on table `a` with rows `Ra`, B on table `b ≠ a` with rows `Rb`, ownership is
    disjoint, `I` is any interleaving of their steps (`true` = A's step) in which each goroutine only calls
    steps on its own table and on rows it owns at that moment (`ValidRun`; rows a goroutine allocates become
    its own).  Then table `a`, every row A owns at the end, and everything A's steps returned are the same
    as in the run of `skeleton I`, in which B's steps are reduced to the bare row allocations they perform.
    A's final owner set is again an owner set (so it contains the whole footprint of `a`). -/
theorem c16_interleave_skeleton (x : Ext) (a b : Nat) (hab : a ≠ b) (w : World) (Ra Rb : List Nat)
    (ha : OwnedBy w a Ra) (hb : OwnedBy w b Rb) (hd : ∀ r ∈ Ra, r ∉ Rb)
    (I : Sched) (hv : ValidRun x a b w Ra Rb I) :
    (runI x w I).1.tables[a]? = (runI x w (skeleton I)).1.tables[a]? ∧
    (∀ r ∈ ownedAfter x w Ra I, (runI x w I).1.rows[r]? = (runI x w (skeleton I)).1.rows[r]?) ∧
    (runI x w I).2 = (runI x w (skeleton I)).2 ∧
    OwnedBy (runI x w I).1 a (ownedAfter x w Ra I) := by
  obtain ⟨c1, c2, c3⟩ := interleave_main x hab I w w Ra Rb (ownedBy_iff_inv.1 ha) (ownedBy_iff_inv.1 hb) hd
    (Agree.refl _ _ _ _) rfl hv
  exact ⟨c1.tab, c1.rows, c2, ownedBy_iff_inv.2 c3⟩

/-- C16 interleaving when B's steps allocate no row (all of B's rows were allocated up front): the
    A-component and A's outputs after ANY interleaving are those of running A alone. -/
theorem c16_interleave_alone (x : Ext) (a b : Nat) (hab : a ≠ b) (w : World) (Ra Rb : List Nat)
    (ha : OwnedBy w a Ra) (hb : OwnedBy w b Rb) (hd : ∀ r ∈ Ra, r ∉ Rb)
    (I : Sched) (hv : ValidRun x a b w Ra Rb I)
    (hB : ∀ p ∈ I, p.1 = false → p.2.allocs = false) :
    (runI x w I).1.tables[a]? = (run x w (projA I)).1.tables[a]? ∧
    (∀ r ∈ ownedAfter x w Ra I, (runI x w I).1.rows[r]? = (run x w (projA I)).1.rows[r]?) ∧
    (runI x w I).2 = (run x w (projA I)).2 := by
  have h := c16_interleave_skeleton x a b hab w Ra Rb ha hb hd I hv
  rw [runI_skeleton_noalloc x w I hB] at h
  exact ⟨h.1, h.2.1, h.2.2.1⟩

/-- the roles of A and B in a schedule can be exchanged, so `c16_interleave` also speaks about B -/
theorem c16_interleave_other (x : Ext) (a b : Nat) (w : World) (Ra Rb : List Nat) (I : Sched)
    (hv : ValidRun x a b w Ra Rb I) :
    ValidRun x b a w Rb Ra (I.map (fun p => (!p.1, p.2))) := by
  induction I generalizing w Ra Rb with
  | nil => trivial
  | cons p rest ih =>
    obtain ⟨g, s⟩ := p
    cases g with
    | true => exact ⟨hv.1, ih _ _ _ hv.2⟩
    | false => exact ⟨hv.1, ih _ _ _ hv.2⟩

/-! ### the decoration registry -/

/-- C16, registry.  Type-level facts: `applyW : Ext → World → Step → World` and `renderTo : Ext → World →
    Wrapper → World × Emit Unit` neither take nor return a `Registry`; a text wrapper carries the
    `Decoration` value that was looked up when it was configured (`Wrapper.decor`).  The lookups themselves
    (`Registry.named`, `resolveStyle`) are pure functions that return no new registry; they read the registry
    only through `named`: registries with the same `named` resolve every style alike, and registering another
    name does not disturb a lookup. -/
theorem c16_registry_read_only (reg reg' : Registry) (heavy : Decoration) (style n m : Bytes) (d : Decoration) :
    ((∀ k, reg.named k = reg'.named k) → resolveStyle reg heavy style = resolveStyle reg' heavy style) ∧
    (m ≠ n → (reg.register m d).named n = reg.named n) := by
  constructor
  · intro h
    unfold resolveStyle
    simp only [h]
  · intro hmn
    have hne : (m == n) = false := by simpa using hmn
    unfold Registry.register Registry.named
    simp only [List.find?_cons, hne]
    have : ∀ l : List (Bytes × Decoration),
        (l.filter (fun p => p.1 != m)).find? (fun p => p.1 == n) = l.find? (fun p => p.1 == n) := by
      intro l
      induction l with
      | nil => rfl
      | cons p l ih =>
        by_cases hp : p.1 = m
        · have h1 : (p.1 != m) = false := by simp [hp]
          have h2 : (p.1 == n) = false := by rw [hp]; exact hne
          simp only [List.filter_cons, h1, List.find?_cons, h2]
          exact ih
        · have h1 : (p.1 != m) = true := by simp [hp]
          simp only [List.filter_cons, h1, if_true, List.find?_cons, ih]
    rw [this]

/-! ### non-vacuity: a concrete two-table world -/

namespace C16Ex

def it (s : Bytes) : Item :=
  { kind := .str s, mString := none, mGoString := none, mError := none, fmtV := s,
    mHeight := none, mWidth := none, json := some s }

/-- table 0: header row 0, one data row 1; table 1: data row 2 and separator 3;
    row 4: made with `NewRow()` by the owner of table 0, not yet attached; row 5: likewise for table 1 -/
def w0 : World :=
  { tables := [ { header := some 0, rows := [1], nColumns := 1, columns := [{}, {}] },
                { rows := [2, 3], nColumns := 1, columns := [{}, {}] } ]
    rows := [ { cells := some [{ item := 0, inRow := some 0, columnNum := 1 }], ec := .table 0 },
              { cells := some [{ item := 1, inRow := some 1, columnNum := 1 }], inTable := some 0,
                rowNum := 1, ec := .table 0 },
              { cells := some [{ item := 0, inRow := some 2, columnNum := 1 }], inTable := some 1,
                rowNum := 1, ec := .table 1 },
              { cells := none, isSep := true, inTable := some 1, rowNum := 2, ec := .table 1 },
              {}, {} ]
    items := [it [104], it [105]] }

def x0 : Ext := { dw := fun b => b.length, js := fun b => b }

/-- the same world seen after the other goroutine changed its table 1 and its row 2 -/
def w0' : World :=
  { w0 with
    tables := w0.tables.modify 1 (fun tb => { tb with errs := [7], nColumns := 3 })
    rows := w0.rows.modify 2 (fun rw => { rw with cells := some [], ec := .own [9] }) }

def csv0 : Wrapper := { kind := .csv, core := 0 }
def txt1 : Wrapper := { kind := .text, core := 1, decor := { emptyDecoration with vertical := [124], horizontal := [45] } }

/-- an interleaving: A fills and attaches its row 4, renders, adds a row; B adds a separator, appends a row, renders -/
def sched : Sched :=
  [ (true, .rowAdd 4 0), (false, .addSeparator 1), (true, .addRow 0 4), (false, .appendNewRow 1),
    (true, .render csv0), (false, .rowAdd 5 1), (true, .addRowItems 0 [1, 0]), (false, .render txt1),
    (true, .cellAt 0 2 1) ]

example : Local w0 0 ∧ Local w0 1 := by decide
example : OwnedBy w0 0 [0, 1, 4] ∧ OwnedBy w0 1 [2, 3, 5] := by decide
example : (Step.addRow 0 4).on 0 [0, 1, 4] := by decide
example : (∀ r ∈ (Step.addRow 0 4).rowArgs, r < w0.rows.length ∧ RowLocal 0 r (w0.row r)) ∧
    (Step.addRow 0 4).tableOK 0 := ⟨by decide, rfl⟩
example : ValidRun x0 0 1 w0 [0, 1, 4] [2, 3, 5] sched := by decide

/-- a schedule in which A names no row, and both goroutines allocate -/
def sched2 : Sched :=
  [ (true, .addHeaders 0 [0]), (false, .addRowItems 1 [1]), (true, .addRowItems 0 [1, 0]),
    (false, .addSeparator 1), (true, .wrap .markdown 0), (false, .appendNewRow 1),
    (true, .render { kind := .markdown, core := 0 }), (true, .addSeparator 0), (true, .render csv0) ]

example : ValidRun x0 0 1 w0 [0, 1, 4] [2, 3, 5] sched2 ∧ (∀ p ∈ sched2, p.1 = true → p.2.rowArgs = []) := by
  decide

-- and B allocates nothing in this one (hypothesis of `c16_interleave_alone`)
example : ValidRun x0 0 1 w0 [0, 1, 4] [2, 3, 5]
      [(true, .rowAdd 4 0), (false, .rowAdd 5 1), (true, .addRow 0 4), (false, .addRow 1 5)] ∧
    (∀ p ∈ [(true, Step.rowAdd 4 0), (false, .rowAdd 5 1), (true, .addRow 0 4), (false, .addRow 1 5)],
      p.1 = false → p.2.allocs = false) := by decide

-- the hypotheses of `c16_depends` hold for two different worlds
example : w0.tables ≠ w0'.tables ∧ Local w0 csv0.core ∧ w0.tables[csv0.core]? = w0'.tables[csv0.core]? ∧
    (∀ r ∈ footprint w0 csv0.core, w0.rows[r]? = w0'.rows[r]?) := by decide

end C16Ex

end Tab
