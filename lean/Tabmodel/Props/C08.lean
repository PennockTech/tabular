/-
  C08 — Markdown output keeps GFM table structure and neutralises cell content.

  About `renderMarkdown` (Model/Markdown.lean, mirror of markdown/markdown.go `RenderTo`,
  `emitRow`, `mdPaddedCellEscape`, `mdCellEscape`).  All theorems hold for every display-width
  measure `dw`.  The spec-side readers (`unescapedPipes`, `splitPipes`, `mdDecode`, `trimSp`),
  the acceptance predicate `MdOK` and the rules `effAlign` / `mdColWidth` are defined in
  Spec/Markdown.lean without reference to the renderer; `WFShape` is in Spec/Shape.lean.
  Lines are read back with `lines` (= Go's `length.Lines`): split at LF, drop the final empty piece.
-/
import Tabmodel.Proofs.C08Render
namespace Tab
open Emit

/-! ### refusals (error class, nothing written) -/

theorem c08_refuse_no_columns (dw : Measure) (v : RTable) (h : v.ncols = 0) :
    (renderMarkdown dw v).res = .error (.err .noColumns) ∧ (renderMarkdown dw v).chunks = [] := by
  have hn : v.ncols < 1 := by omega
  unfold renderMarkdown; simp only [hn, if_true]; exact ⟨rfl, rfl⟩

theorem c08_refuse_no_headers (dw : Measure) (v : RTable) (hn : 1 ≤ v.ncols) (h : v.header = none) :
    (renderMarkdown dw v).res = .error (.err .noHeaders) ∧ (renderMarkdown dw v).chunks = [] := by
  have hn : ¬ v.ncols < 1 := by omega
  unfold renderMarkdown; simp only [hn, if_false, h]; exact ⟨rfl, rfl⟩

/-- a header or row with more cells than columns: structural error before anything is written -/
theorem c08_refuse_structural (dw : Measure) (v : RTable) (hn : 1 ≤ v.ncols) (hh : v.header.isSome = true)
    (h : ¬ WFShape v) :
    (renderMarkdown dw v).res = .error (.err .structural) ∧ (renderMarkdown dw v).chunks = [] := by
  obtain ⟨hs, hhs⟩ := Option.isSome_iff_exists.mp hh
  have hn : ¬ v.ncols < 1 := by omega
  by_cases hl : hs.length > v.ncols
  · unfold renderMarkdown; simp only [hn, if_false, hhs, hl, if_true]; exact ⟨rfl, rfl⟩
  · apply renderMarkdown_long_row dw v hs hn hhs hl
    apply Classical.byContradiction
    intro hne
    apply h
    refine ⟨fun hs' e => by rw [hhs] at e; cases e; omega, fun cs hcs => ?_⟩
    apply Classical.byContradiction
    intro hlen
    exact hne ⟨cs, hcs, by omega⟩

/-- a column (or column-0 default) alignment property that is not an `align.Alignment`:
    the type assertion panics, after the shape checks and before anything is written -/
theorem c08_panic_bad_align (dw : Measure) (v : RTable) (hn : 1 ≤ v.ncols) (hh : v.header.isSome = true)
    (hs : WFShape v) (hbad : ∃ i, i < v.ncols ∧ alignEntryOK (effAlign v i) = false) :
    (∃ site, (renderMarkdown dw v).res = .error (.panic site)) ∧ (renderMarkdown dw v).chunks = [] := by
  obtain ⟨hs', hhs⟩ := Option.isSome_iff_exists.mp hh
  have := renderMarkdown_bad_align dw v hs' hn hhs hs hbad
  exact ⟨⟨_, this.1⟩, this.2⟩

/-! ### acceptance -/

theorem c08_ok (dw : Measure) (v : RTable) (h : MdOK v) : (renderMarkdown dw v).res = .ok () := by
  obtain ⟨hn, hh, hshape, hal⟩ := h
  obtain ⟨hs, hhs⟩ := Option.isSome_iff_exists.mp hh
  exact (renderMarkdown_ok dw v hs hn hhs hshape hal).res

/-- with well-typed alignment properties a view is accepted if it is `MdOK` and refused with an
    error class if it is not -/
theorem c08_res_cases (dw : Measure) (v : RTable) (h : AlignsOK v) :
    (MdOK v ∧ (renderMarkdown dw v).res = .ok ()) ∨
    (¬ MdOK v ∧ ∃ e, (renderMarkdown dw v).res = .error (.err e)) := by
  by_cases hn : 1 ≤ v.ncols
  · cases hh : v.header with
    | none => exact .inr ⟨fun hm => absurd hm.2.1 (by simp [hh]), _, (c08_refuse_no_headers dw v hn hh).1⟩
    | some hs =>
      by_cases hshape : WFShape v
      · exact .inl ⟨⟨hn, by simp [hh], hshape, h⟩, c08_ok dw v ⟨hn, by simp [hh], hshape, h⟩⟩
      · exact .inr ⟨fun hm => hshape hm.2.2.1, _, (c08_refuse_structural dw v hn (by simp [hh]) hshape).1⟩
  · exact .inr ⟨fun hm => hn hm.1, _, (c08_refuse_no_columns dw v (by omega)).1⟩

/-- with well-typed alignment properties the renderer never panics, whatever the shape of the view
    (in particular for zero-cell and short rows, and without headers or columns) -/
theorem c08_no_panic (dw : Measure) (v : RTable) (h : AlignsOK v) (site : String) :
    (renderMarkdown dw v).res ≠ .error (.panic site) := by
  rcases c08_res_cases dw v h with ⟨_, e⟩ | ⟨_, _, e⟩
  · rw [e]; intro c; cases c
  · rw [e]; intro c; cases c

/-- with well-typed alignment properties, `MdOK` is exactly the set of accepted views -/
theorem c08_ok_iff (dw : Measure) (v : RTable) (h : AlignsOK v) :
    (renderMarkdown dw v).res = .ok () ↔ MdOK v := by
  refine ⟨fun hok => ?_, c08_ok dw v⟩
  rcases c08_res_cases dw v h with ⟨hm, _⟩ | ⟨_, _, e⟩
  · exact hm
  · rw [e] at hok; cases hok

/-! ### line structure -/

/-- The output is `2 + (number of non-separator rows)` LF-terminated lines (header, delimiter, one
    per body row), none containing LF; every line has exactly `ncols + 1` unescaped pipes, these are
    all the `|` bytes of the line (so no `|` at all follows a backslash), and splitting on them
    gives `ncols + 2` pieces (an empty one before the first pipe, the `ncols` cells, an empty one
    after the last pipe). -/
theorem c08_structure (dw : Measure) (v : RTable) (h : MdOK v) :
    (renderMarkdown dw v).output = ((lines (renderMarkdown dw v).output).map (· ++ [LF])).flatten ∧
    (lines (renderMarkdown dw v).output).length = 2 + (bodyRows v).length ∧
    ∀ l ∈ lines (renderMarkdown dw v).output,
      LF ∉ l ∧ unescapedPipes l = v.ncols + 1 ∧ l.count 124 = v.ncols + 1 ∧
      (splitPipes l).length = v.ncols + 2 := by
  obtain ⟨hn, hh, hshape, hal⟩ := h
  obtain ⟨hs, hhs⟩ := Option.isSome_iff_exists.mp hh
  rw [renderMarkdown_lines dw v hs hn hhs hshape hal]
  exact ⟨(renderMarkdown_ok dw v hs hn hhs hshape hal).output, mdLinesOf_length dw v hs,
    fun l hl => (mdLinesOf_form dw v hs hhs hshape l hl).facts⟩

/-! ### the delimiter row -/

/-- shape of a delimiter cell: at least three dashes (and at least `width` of them) between the two
    marker bytes: (space, space) for nil / left / invalid, (space, colon) for right,
    (colon, colon) for centre -/
theorem c08_control_cell (width : Int) (al : Nat) :
    ∃ n : Nat, 3 ≤ n ∧ width ≤ n ∧
      mdControlCell width al = (mdMarkers al).1 :: List.replicate n 45 ++ [(mdMarkers al).2] := by
  refine ⟨(if width < 3 then 3 else width).toNat, ?_, ?_, mdControlCell_eq width al⟩
  · split <;> omega
  · split <;> omega

/-- The `i`-th cell of the delimiter line (second line) is `mdControlCell w a` for `w` the measured
    width of column `i` and `a` its effective alignment (own setting, else column 0's), possibly
    with spaces around it; there are none when the measure gives the delimiter cell at least its
    column's width (true of every measure that counts ASCII bytes as 1). -/
theorem c08_delim (dw : Measure) (v : RTable) (h : MdOK v) (i : Nat) (hi : i < v.ncols) :
    ∃ line l r,
      (lines (renderMarkdown dw v).output)[1]? = some line ∧
      (splitPipes line)[i + 1]? =
        some (spaces l ++ mdControlCell (mdColWidth v i) (effAlignNat v i) ++ spaces r) ∧
      (mdColWidth v i ≤ (dw (mdControlCell (mdColWidth v i) (effAlignNat v i)) : Nat) → l = 0 ∧ r = 0) := by
  obtain ⟨hn, hh, hshape, hal⟩ := h
  obtain ⟨hs, hhs⟩ := Option.isSome_iff_exists.mp hh
  have hlines := renderMarkdown_lines dw v hs hn hhs hshape hal
  have hw := mdWidthsOf_get v hs hhs i hi
  have ha := mdAlignsOf_get v i hi
  have hget := mdRowLine_get dw v.ncols (mdControlRow v (mdWidthsOf v hs) (mdAlignsOf v)) (mdWidthsOf v hs)
    (mdAlignsOf v) false (mdRowBodies_good_control _ _ _ _ _ _) (by simp [mdControlRow]) i hi
  have hcell : (mdControlRow v (mdWidthsOf v hs) (mdAlignsOf v))[i]? =
      some { text := mdControlCell (mdColWidth v i) (effAlignNat v i) } := by
    rw [mdControlRow, List.getElem?_map, List.getElem?_range hi, Option.map_some, hw, ha]
  rw [hcell, hw, ha] at hget
  obtain ⟨l, r, hshapeP, hzero⟩ := mdPadded_shape dw { text := mdControlCell (mdColWidth v i) (effAlignNat v i) }
    (mdColWidth v i) (effAlignNat v i)
  rw [mdEscape_controlCell] at hshapeP hzero
  refine ⟨_, l, r, by rw [hlines]; rfl, ?_, hzero⟩
  rw [← hshapeP]; exact hget

/-! ### cell content -/

theorem c08_decode_escape (s : Bytes) : mdDecode (mdEscape s) = s := mdDecode_mdEscape s

/-- whichever of the three padding shapes `mdPadded` chooses (and with the bar's own spaces around
    it), trimming gives the trimmed escaped text, which is the escape of the trimmed text -/
theorem c08_trim_pad (dw : Measure) (c : RCell) (want : Int) (al : Nat) :
    trimSp (mdPadded dw c want al) = trimSp (mdEscape c.text) ∧
    trimSp ([32] ++ mdPadded dw c want al ++ [32]) = trimSp (mdEscape c.text) ∧
    trimSp (mdEscape c.text) = mdEscape (trimSp c.text) := by
  obtain ⟨l, r, h, _⟩ := mdPadded_shape dw c want al
  obtain ⟨l', r', h'⟩ := mdSeg_true_padded dw c want al
  refine ⟨by rw [h, trimSp_append_spaces, trimSp_spaces_append], ?_, trimSp_mdEscape _⟩
  show trimSp (mdSeg true (mdPadded dw c want al)) = _
  rw [h', trimSp_append_spaces, trimSp_spaces_append]

/-- Every header / body cell can be read back: with `hs` the header and source row `k` of
    `hs :: bodyRows v` on line `0` (header) or `k + 1` (body; line 1 is the delimiter), the `j`-th
    piece between unescaped pipes is the escaped cell text with at least one space on either side
    and nothing else, and, trimmed and entity-decoded, is the trimmed cell text; a column the row
    has no cell for holds a single space. -/
theorem c08_cells (dw : Measure) (v : RTable) (h : MdOK v) (hs : List RCell) (hh : v.header = some hs)
    (k : Nat) (cells : List RCell) (hk : (hs :: bodyRows v)[k]? = some cells) :
    ∃ line, (lines (renderMarkdown dw v).output)[if k = 0 then 0 else k + 1]? = some line ∧
      (∀ j c, cells[j]? = some c →
        ∃ e l r, (splitPipes line)[j + 1]? = some e ∧
          e = spaces (l + 1) ++ mdEscape c.text ++ spaces (r + 1) ∧
          mdDecode (trimSp e) = trimSp c.text) ∧
      (∀ j, cells.length ≤ j → j < v.ncols → (splitPipes line)[j + 1]? = some [32]) := by
  obtain ⟨hn, _, hshape, hal⟩ := h
  have hlines := renderMarkdown_lines dw v hs hn hh hshape hal
  -- the row is short enough, and stands on line `0` or `k + 1`
  obtain ⟨hlen, hline⟩ : cells.length ≤ v.ncols ∧ (mdLinesOf dw v hs)[if k = 0 then 0 else k + 1]? =
      some (mdRowLine dw v.ncols cells (mdWidthsOf v hs) (mdAlignsOf v) true) := by
    cases k with
    | zero =>
      obtain rfl : hs = cells := Option.some.inj hk
      exact ⟨hshape.1 hs hh, rfl⟩
    | succ k =>
      rw [List.getElem?_cons_succ] at hk
      obtain ⟨r, hr, e⟩ := List.mem_filterMap.1 (List.mem_of_getElem? hk)
      refine ⟨hshape.2 cells (by rw [← (e : r = some cells)]; exact hr), ?_⟩
      rw [if_neg (Nat.succ_ne_zero k), mdLinesOf, List.getElem?_cons_succ, List.getElem?_cons_succ,
        List.getElem?_map, hk]
      rfl
  refine ⟨_, by rw [hlines]; exact hline, ?_, ?_⟩
  · intro j c hc
    have hj : j < v.ncols := by
      have := (List.getElem?_eq_some_iff.mp hc).1; omega
    have hget := mdRowLine_get dw v.ncols cells (mdWidthsOf v hs) (mdAlignsOf v) true
      (mdRowBodies_good_true _ _ _ _ _) hlen j hj
    rw [hc] at hget
    obtain ⟨l, r, hp⟩ := mdSeg_true_padded dw c ((mdWidthsOf v hs).getD j 0) ((mdAlignsOf v).getD j 0)
    exact ⟨_, l, r, hget.trans (congrArg some hp), rfl,
      by rw [trimSp_append_spaces, trimSp_spaces_append, trimSp_mdEscape, mdDecode_mdEscape]⟩
  · intro j hj1 hj2
    have hget := mdRowLine_get dw v.ncols cells (mdWidthsOf v hs) (mdAlignsOf v) true
      (mdRowBodies_good_true _ _ _ _ _) hlen j hj2
    rw [List.getElem?_eq_none hj1] at hget
    exact hget

/-! ### inert content -/

/-- No pipe, line feed, angle bracket or quote survives escaping, and every ampersand of the
    escaped text starts one of the seven entities (so an entity look-alike in the input, such as
    `&amp;`, has its `&` escaped and decodes back to itself by `c08_decode_escape`). -/
theorem c08_inert (s : Bytes) :
    (∀ b ∈ mdEscape s, b ∉ ([124, 10, 60, 62, 34, 39] : List UInt8)) ∧
    (∀ pre post, mdEscape s = pre ++ 38 :: post → ∃ p ∈ mdEntities, p.1 <+: (38 :: post)) := by
  refine ⟨fun b hb hm => ?_, mdEscape_amp s⟩
  obtain ⟨h1, h2, h3, h4, h5, h6⟩ := mdEscape_inert s b hb
  simp only [List.mem_cons, List.not_mem_nil, or_false] at hm
  rcases hm with e | e | e | e | e | e
  · exact h1 e
  · exact h2 e
  · exact h3 e
  · exact h4 e
  · exact h5 e
  · exact h6 e

/-- escaping maps a space to a space and nothing else to or from one, so it commutes with trimming -/
theorem c08_escape_trim (s : Bytes) : trimSp (mdEscape s) = mdEscape (trimSp s) := trimSp_mdEscape s

/-! ### non-vacuity: a concrete hostile table -/

/-- a cell as the width callback leaves it (`mdw` = byte length, exact for ASCII) -/
def c08Cell (s : Bytes) : RCell := { text := s, mdw := s.length }

/-- 3 columns.  Header: `a|b`, `x\` (trailing backslash), `&amp;` (entity look-alike).
    Body: [`1 LF 2`, `<i>"'`, `\|`]; a separator; a zero-cell row; a one-cell row ` p `.
    Alignments: column-0 default right, column 2 centre, column 3 an invalid value (7). -/
def c08Table : RTable :=
  { ncols := 3
    header := some [c08Cell [97, 124, 98], c08Cell [120, 92], c08Cell [38, 97, 109, 112, 59]]
    rows := [some [c08Cell [49, 10, 50], c08Cell [60, 105, 62, 34, 39], c08Cell [92, 124]], none, some [],
             some [c08Cell [32, 112, 32]]]
    colAlign := [some (.align 2), none, some (.align 3), some (.align 7)]
    colSkip := [] }

example : MdOK c08Table := by decide
example : AlignsOK c08Table := by decide

/-- what the model (and the Go code) writes for it under the byte-count measure:
```
| a&#x7c;b |  x\   | &amp;amp; |
| ---:|:-----:| ----- |
| 1&#x0a;2 | &lt;i&gt;&#34;&#39; | \&#x7c; |
| | | |
|  p  | | |
``` -/
example : (lines (renderMarkdown List.length c08Table).output).map splitPipes =
    [[[], [32, 97, 38, 35, 120, 55, 99, 59, 98, 32], [32, 32, 120, 92, 32, 32, 32],
        [32, 38, 97, 109, 112, 59, 97, 109, 112, 59, 32], []],
     [[], [32, 45, 45, 45, 58], [58, 45, 45, 45, 45, 45, 58], [32, 45, 45, 45, 45, 45, 32], []],
     [[], [32, 49, 38, 35, 120, 48, 97, 59, 50, 32],
        [32, 38, 108, 116, 59, 105, 38, 103, 116, 59, 38, 35, 51, 52, 59, 38, 35, 51, 57, 59, 32],
        [32, 92, 38, 35, 120, 55, 99, 59, 32], []],
     [[], [32], [32], [32], []],
     [[], [32, 32, 112, 32, 32], [32], [32], []]] := by decide +kernel

/-! instances of each theorem's hypotheses -/

-- refusals
example : ({ c08Table with ncols := 0 } : RTable).ncols = 0 := rfl
example : (renderMarkdown List.length { c08Table with ncols := 0 }).res = .error (.err .noColumns) :=
  (c08_refuse_no_columns _ _ rfl).1
example : (renderMarkdown List.length { c08Table with header := none }).res = .error (.err .noHeaders) :=
  (c08_refuse_no_headers _ _ (by decide) rfl).1
-- the header has three cells: too many for two columns
example : (renderMarkdown List.length { c08Table with ncols := 2 }).res = .error (.err .structural) :=
  (c08_refuse_structural _ _ (by decide) (by decide) (by decide)).1
-- a non-alignment value as the column-0 default reaches column 1 (which has no own setting)
example : ∃ site, (renderMarkdown List.length { c08Table with colAlign := [some (.user 5)] }).res =
    .error (.panic site) :=
  (c08_panic_bad_align _ _ (by decide) (by decide) (by decide) ⟨0, by decide, by decide⟩).1

-- acceptance, structure
example : (renderMarkdown List.length c08Table).res = .ok () := c08_ok _ _ (by decide)
example : (lines (renderMarkdown (fun _ => 0) c08Table).output).length = 5 :=
  (c08_structure (fun _ => 0) c08Table (by decide)).2.1
example : bodyRows c08Table = [[c08Cell [49, 10, 50], c08Cell [60, 105, 62, 34, 39], c08Cell [92, 124]], [],
    [c08Cell [32, 112, 32]]] := by decide

-- delimiter row: column 0 inherits "right", column 1 is centre, column 2 has an invalid value;
-- under the byte-count measure the exactness hypothesis of `c08_delim` holds for every column
example : (List.range 3).map (effAlignNat c08Table) = [2, 3, 7] := by decide
example : (List.range 3).map (mdColWidth c08Table) = [3, 5, 5] := by decide
example : ∀ i, i < 3 → mdColWidth c08Table i ≤
    ((mdControlCell (mdColWidth c08Table i) (effAlignNat c08Table i)).length : Nat) := by decide
example : ∃ line, (lines (renderMarkdown List.length c08Table).output)[1]? = some line ∧
    (splitPipes line)[1]? = some (mdControlCell 3 2) := by
  obtain ⟨line, l, r, h1, h2, h3⟩ := c08_delim List.length c08Table (by decide) 0 (by decide)
  obtain ⟨rfl, rfl⟩ := h3 (by decide)
  have e1 : mdColWidth c08Table 0 = 3 := by decide
  have e2 : effAlignNat c08Table 0 = 2 := by decide
  rw [e1, e2] at h2
  exact ⟨line, h1, by simpa [spaces] using h2⟩

-- cells: source row 1 (first body row) is on line 2; its cell 2 is `\|`; source row 3 has one cell
example : c08Table.header = some [c08Cell [97, 124, 98], c08Cell [120, 92], c08Cell [38, 97, 109, 112, 59]] := rfl
example : ∃ line e, (lines (renderMarkdown (fun _ => 0) c08Table).output)[2]? = some line ∧
    (splitPipes line)[3]? = some e ∧ mdDecode (trimSp e) = [92, 124] := by
  obtain ⟨line, h1, h2, _⟩ := c08_cells (fun _ => 0) c08Table (by decide) _ rfl 1 _ rfl
  obtain ⟨e, _, _, he, _, hd⟩ := h2 2 (c08Cell [92, 124]) rfl
  exact ⟨line, e, h1, he, by rw [hd]; decide⟩
example : trimSp (c08Cell [32, 112, 32]).text = [112] := by decide

end Tab
