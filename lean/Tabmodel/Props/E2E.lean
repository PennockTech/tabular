/-
  E2E — capstone theorems: the format properties, stated about what the public API builds, for tables
  whose render-time user callbacks only log.

  The per-format theorems (C03, C05, C07, C08) are stated over an arbitrary render view with
  shape hypotheses.  Here they are composed with
    * C02: every world `run dw ops` of a `Valid` build history satisfies the structural invariant,
      so the view a renderer reads is well formed (`c02_view_wf_after_callbacks`);
    * C10/C14 (`Proofs/Stable*.lean`): under `LogOnly w t` ("no user callback fails or mutates")
      the callbacks pass of a render changes nothing but the three private measurement
      properties, and writes those on every cell when the measuring callback is registered;
    * C09: totality.
  `LogOnly` implies `UserKeysOnly` (`LogOnly.userKeysOnly`, Proofs/StableTraverse.lean) and leaves the
  column properties as they were, so the CSV, HTML, Markdown and text capstones are those of
  `Props/E2Ecb.lean` (arbitrary callbacks), with the alignment hypothesis checked on the built world.
  All theorems are about `(run x.dw ops).renderTo x wr`, i.e. `X.RenderTo` on a table built
  through the API; `v` is the view of the built world, `v'` the view the renderer reads after its
  callbacks pass.  Extra theorems, attached to C03/C04 (text), C05, C07, C08, C09, C14.
-/
import Tabmodel.Props.E2Ecb
import Tabmodel.Props.C14
import Tabmodel.Proofs.E2ENeeds
namespace Tab
open World hiding CellOK

/-! ### 1. the callbacks pass changes no text -/

/-- Under `LogOnly`, the view the renderer reads (`v'`, after the callbacks pass) has the same
    column count, column properties, header/row shape (separators in the same places, the same
    number of cells everywhere) and, cell by cell, the same `text`, `empty` and `json` as the view
    of the built world (`v`); it differs at most in the three measurement fields.
    (Holds for every world, reachable or not; `Valid` is not needed.) -/
theorem e2e_texts_stable (dw : Measure) (w : World) (t : Nat) (hL : LogOnly w t) :
    let v := w.view t
    let v' := (invokeRenderCallbacks dw w t).view t
    v'.ncols = v.ncols ∧ v'.colAlign = v.colAlign ∧ v'.colSkip = v.colSkip ∧
    v'.header.map (·.map RCell.content) = v.header.map (·.map RCell.content) ∧
    v'.rows.map (·.map (·.map RCell.content)) = v.rows.map (·.map (·.map RCell.content)) ∧
    v'.mapCells (RCell.mask false false) = v.mapCells (RCell.mask false false) :=
  ⟨irc_view_ncols dw w t hL, irc_view_colAlign dw w t hL, irc_view_colSkip dw w t hL,
   (view_content_irc dw w t hL).1, (view_content_irc dw w t hL).2, view_mask_irc dw w t hL⟩

/-- The same, read cell by cell: row `i` is a separator in `v'` iff it is in `v`, and cell `j` of
    row `i` (and of the header) exists in `v'` iff it exists in `v`, with the same content. -/
theorem e2e_texts_stable_cell (dw : Measure) (w : World) (t : Nat) (hL : LogOnly w t) (i j : Nat) :
    let v := w.view t
    let v' := (invokeRenderCallbacks dw w t).view t
    (v'.rows[i]? = some none ↔ v.rows[i]? = some none) ∧
    ((v'.rows[i]?.bind (fun r => r.bind (·[j]?))).map RCell.content =
      (v.rows[i]?.bind (fun r => r.bind (·[j]?))).map RCell.content) ∧
    ((v'.header.bind (·[j]?)).map RCell.content = (v.header.bind (·[j]?)).map RCell.content) := by
  intro v v'
  obtain ⟨_, _, _, hh, hr, _⟩ := e2e_texts_stable dw w t hL
  exact ⟨rows_sep_of_content hr i, rows_cell_of_content hr i j, header_cell_of_content hh j⟩

/-! ### a `Wrap` is a history step -/

/-- `X.Wrap(t)` on a built table is the history extended by one `RegisterPropertyCallback` step
    (`wrapOps`); the extended history is valid, keeps `LogOnly`, and establishes `Needs` for every
    wrapper of that kind on that table.  So every theorem below applies to "build, wrap, render"
    by taking `ops ++ wrapOps k t` as the history. -/
theorem e2e_wrap (dw : Measure) (ops : List BuildOp) (hv : Valid ops = true) (k : WKind) (t : Nat)
    (ht : t < (run dw ops).tables.length) :
    run dw (ops ++ wrapOps k t) = (run dw ops).wrapEffect k t ∧
    Valid (ops ++ wrapOps k t) = true ∧
    (run dw (ops ++ wrapOps k t)).tables.length = (run dw ops).tables.length ∧
    (∀ t', LogOnly (run dw ops) t' → LogOnly (run dw (ops ++ wrapOps k t)) t') ∧
    (∀ wr : Wrapper, wr.kind = k → wr.core = t → Needs (run dw (ops ++ wrapOps k t)) wr) := by
  rw [run_wrapOps, valid_wrapOps]
  refine ⟨rfl, hv, ntables_wrapEffect _ _ _, fun t' h => logOnly_wrapEffect _ _ _ _ h, ?_⟩
  intro wr hk hc
  subst hk; subst hc
  exact needs_wrapEffect_self _ wr ht

/-- "Wrapped at least once" is a property of the history: if the history contains a `Wrap` step of
    the wrapper's kind on its table (at a point where the table exists), then `Needs` holds in the
    final world, whatever came before and after (registrations are never removed:
    `has_runFrom`, Proofs/E2ENeeds.lean). -/
theorem e2e_wrapped_needs (dw : Measure) (pre post : List BuildOp) (wr : Wrapper)
    (ht : wr.core < (run dw pre).tables.length) :
    Needs (run dw (pre ++ wrapOps wr.kind wr.core ++ post)) wr :=
  needs_of_wrapped dw pre post wr ht

/-! ### 2. CSV -/

/-- CSV of a table built by any valid history, under `LogOnly`: the renderer emits exactly what it
    would emit on the view of the built world; with no columns it is refused with the "no columns"
    error and nothing is written; otherwise it succeeds and the strict RFC 4180 reader gets back
    exactly `csvRecords`: the header row (if any) then every non-separator row in order, each field
    byte-for-byte the text the history put into that cell, each record `nColumns` fields long
    (missing cells as empty fields).  The structural-error branch is unreachable. -/
theorem e2e_csv (x : Ext) (ops : List BuildOp) (hv : Valid ops = true) (wr : Wrapper) (hk : wr.kind = .csv)
    (ht : wr.core < (run x.dw ops).tables.length) (hL : LogOnly (run x.dw ops) wr.core) :
    let w := run x.dw ops
    let m := (w.renderTo x wr).2
    m = renderCsv (w.view wr.core) ∧
    ((w.table wr.core).nColumns = 0 → m.res = .error (.err .noColumns) ∧ m.chunks = []) ∧
    (1 ≤ (w.table wr.core).nColumns →
      m.res = .ok () ∧ parse4180 m.output = some (w.csvRecords wr.core) ∧
      ∀ r ∈ w.csvRecords wr.core, r.length = (w.table wr.core).nColumns) := by
  have _ := hL
  exact e2ecb_csv x ops hv wr hk ht

/-! ### 3. JSON -/

/-- JSON of a table built by any valid history, under `LogOnly`: the renderer emits exactly what it
    would emit on the view `v` of the built world; it succeeds iff `JsonOK v` (the shape clause of
    which always holds), and then the bytes are those of the token stream `jsonToks`, which parses
    to one object per non-separator row, `objects js v`; on any error `Render` returns no text, and
    the error is never a panic. -/
theorem e2e_json (x : Ext) (ops : List BuildOp) (hv : Valid ops = true) (wr : Wrapper) (hk : wr.kind = .json)
    (ht : wr.core < (run x.dw ops).tables.length) (hL : LogOnly (run x.dw ops) wr.core) :
    let w := run x.dw ops
    let v := w.view wr.core
    let m := (w.renderTo x wr).2
    m = renderJson x.js v ∧
    WFShape v ∧
    (m.res = .ok () ↔ JsonOK v) ∧
    (m.res = .ok () ↔ HeaderOK v ∧ MarshalOK v) ∧
    (m.res = .ok () →
      m.output = (jsonToks x.js v).flatMap tokBytes ∧ parseArr (jsonToks x.js v) = some (objects x.js v)) ∧
    (∀ s, m.res = .error s → (renderString m).1 = [] ∧ ∀ site, s ≠ .panic site) := by
  intro w v m
  have hm : m = renderJson x.js v := by
    show (w.renderTo x wr).2 = _
    rw [renderTo_json x w wr hk]; exact renderJson_irc x.dw x.js w wr.core hL
  have hwf : WFShape v := (c02_view_wf (c02_inv_run x.dw ops hv) wr.core ht).1
  refine ⟨hm, hwf, ?_⟩
  rw [hm]
  exact json_on_view x.js v hwf

/-! ### HTML -/

/-- HTML of a table built by any history (valid or not), under `LogOnly`: always succeeds, writes
    exactly `htmlBytes` of the view of the built world, which tokenizes to the template's skeleton
    (`c06_skeleton`) with one `<tr…>` for the header plus one per non-separator row. -/
theorem e2e_html (x : Ext) (w : World) (wr : Wrapper) (hk : wr.kind = .html) (hL : LogOnly w wr.core) :
    let v := w.view wr.core
    let m := (w.renderTo x wr).2
    m = renderHtml wr.html v ∧ m.res = .ok () ∧ m.output = htmlBytes wr.html v ∧
    tokenize m.output = skeleton wr.html v ∧
    ((tokenize m.output).filter isTrOpen).length = 1 + w.bodyRowCount wr.core := by
  have _ := hL
  exact e2ecb_html x w wr hk

/-! ### 4. Markdown -/

/-- Markdown of a table built by any valid history, under `LogOnly`, with alignment properties in
    their domain: rendering succeeds iff the table has a header and at least one column; the only
    possible failures are the "no columns" / "no headers" refusals, which write nothing (the
    structural error and the alignment panic are unreachable); on success the output is
    `2 + (non-separator rows)` LF-terminated lines, each with exactly `nColumns + 1` unescaped pipes
    (and no other `|`), splitting into `nColumns + 2` pieces (`c08_structure` on the real output). -/
theorem e2e_markdown (x : Ext) (ops : List BuildOp) (hv : Valid ops = true) (wr : Wrapper)
    (hk : wr.kind = .markdown) (ht : wr.core < (run x.dw ops).tables.length)
    (hL : LogOnly (run x.dw ops) wr.core) (ha : AlignOK ((run x.dw ops).view wr.core)) :
    let w := run x.dw ops
    let n := (w.table wr.core).nColumns
    let v' := (invokeRenderCallbacks x.dw w wr.core).view wr.core
    let m := (w.renderTo x wr).2
    m = renderMarkdown x.dw v' ∧
    (m.res = .ok () ↔ (w.table wr.core).header.isSome = true ∧ 1 ≤ n) ∧
    (m.res = .ok () ↔ MdOK v') ∧
    (n = 0 → m.res = .error (.err .noColumns) ∧ m.chunks = []) ∧
    (1 ≤ n → (w.table wr.core).header = none → m.res = .error (.err .noHeaders) ∧ m.chunks = []) ∧
    (m.res = .ok () →
      m.output = ((lines m.output).map (· ++ [LF])).flatten ∧
      (lines m.output).length = 2 + w.bodyRowCount wr.core ∧
      ∀ l ∈ lines m.output,
        LF ∉ l ∧ unescapedPipes l = n + 1 ∧ l.count 124 = n + 1 ∧ (splitPipes l).length = n + 2) :=
  e2ecb_markdown x ops hv wr hk ht (alignOK_irc x.dw _ wr.core hL ha)

/-! ### the measured view, as a function of the built world -/

/-- With the measuring callback registered (`Needs`, true after `X.Wrap`: `e2e_wrap`) the text and
    markdown renderers emit exactly what they emit on `canonView`, the view computed from the built
    world alone: each cell has the text / emptiness of the world's cell, `cellWidth` and `mdw` equal
    to the cell's `TerminalCellWidth`, and `lws` = its text lines with the widths `dimProps` gives
    them (`canonCell_content`, `canonCell_tt`, `canonCell_md` in Proofs/E2EText.lean). -/
theorem e2e_measured_view (x : Ext) (w : World) (wr : Wrapper) (hL : LogOnly w wr.core) (hN : Needs w wr) :
    (wr.kind = .text → wr.decor ≠ emptyDecoration →
      (w.renderTo x wr).2 = renderTextBody wr.decor (canonView x.dw true false w wr.core)) ∧
    (wr.kind = .markdown →
      (w.renderTo x wr).2 = renderMarkdown x.dw (canonView x.dw false true w wr.core)) := by
  constructor
  · intro hk hd
    rw [renderTo_text x w wr hk hd]
    rw [← view_measured_irc x.dw true false w wr.core hL (fun _ => hN.1 hk) (fun h => Bool.noConfusion h),
      renderTextBody_mapCells wr.decor (RCell.mask true false) (fun _ => rfl) (fun _ => rfl)]
  · intro hk
    rw [renderTo_markdown x w wr hk]
    rw [← view_measured_irc x.dw false true w wr.core hL (fun h => Bool.noConfusion h) (fun _ => hN.2 hk),
      renderMarkdown_mapCells x.dw (RCell.mask false true) (fun _ => rfl) (fun _ => rfl)]

/-! ### 5. text tables -/

/-- Text table of a table built by any valid history that was wrapped as text at least once
    (`Needs`), under `LogOnly`, with a complete or boxless decoration, alignments in their domain and
    at least one column: every cell of the view the renderer reads satisfies `CellOK` (it was
    measured by the callbacks pass), the render succeeds, and it writes exactly the specified chunk
    list `specChunks` (= the right-hand side of `c03_line_structure`): top rule, header lines and
    header rule, one rule per separator, each row's content lines, bottom rule. -/
theorem e2e_text (x : Ext) (ops : List BuildOp) (hv : Valid ops = true) (wr : Wrapper) (hk : wr.kind = .text)
    (ht : wr.core < (run x.dw ops).tables.length) (hL : LogOnly (run x.dw ops) wr.core)
    (hN : Needs (run x.dw ops) wr) (hd : DecoOK x.dw wr.decor)
    (ha : AlignOK ((run x.dw ops).view wr.core)) (hn : 1 ≤ ((run x.dw ops).table wr.core).nColumns) :
    let w := run x.dw ops
    let v' := (invokeRenderCallbacks x.dw w wr.core).view wr.core
    let m := (w.renderTo x wr).2
    m = renderTextBody wr.decor v' ∧
    v'.ncols = (w.table wr.core).nColumns ∧ WFShape v' ∧ AlignOK v' ∧
    (∀ c ∈ v'.allCells, CellOK x.dw c) ∧
    (∀ c ∈ v'.allCells, ∃ r ∈ (w.table wr.core).header.toList ++ (w.table wr.core).rows,
      ∃ ce ∈ w.rowCells r, c.text = ce.str ∧ c.empty = ce.empty ∧ c.cellWidth = ce.termWidth) ∧
    m.res = .ok () ∧
    m.chunks = specChunks wr.decor v' := by
  have ha' := alignOK_irc x.dw _ wr.core hL ha
  obtain ⟨hm, hnc, hwf, hcells, hsrc, hok, hch⟩ := e2ecb_text x ops hv wr hk ht hL.userKeysOnly hN hd ha' hn
  exact ⟨hm, hnc, hwf, ha', hcells, hsrc, hok, hch⟩

/-- The rectangle, for the real render.  If moreover every cell of the built table satisfies
    `Cell.FitsSrc` (`TableFits`: its stored width is what its text measures and its item declares no
    width, or the item declares a width and the text is one line — true of every cell freshly made
    from an item that is not a nested `Cell` and has no width override, `fitsSrc_update`), then the
    view is `ViewOK`, and with a complete boxed decoration EVERY line written is a line of segments
    of the same segment-sum width `1 + Σ (cwᵢ + 3)` with its dividers at the same offsets
    `[0, cw₀+3, cw₀+cw₁+6, …]`. -/
theorem e2e_text_rectangle (x : Ext) (ops : List BuildOp) (hv : Valid ops = true) (wr : Wrapper)
    (hk : wr.kind = .text) (ht : wr.core < (run x.dw ops).tables.length)
    (hL : LogOnly (run x.dw ops) wr.core) (hN : Needs (run x.dw ops) wr) (hg : GlyphOK x.dw wr.decor)
    (ha : AlignOK ((run x.dw ops).view wr.core)) (hn : 1 ≤ ((run x.dw ops).table wr.core).nColumns)
    (hF : TableFits x.dw (run x.dw ops) wr.core) :
    let w := run x.dw ops
    let v' := (invokeRenderCallbacks x.dw w wr.core).view wr.core
    let m := (w.renderTo x wr).2
    ViewOK x.dw v' ∧ m.res = .ok () ∧
    ∀ ch ∈ m.chunks, ∃ segs, ch = segBytes segs ++ [LF] ∧
      segWidth x.dw segs = 1 + (v'.colWidths.map (· + 3)).sum ∧
      divOffsets x.dw 0 segs = colOffsets 0 v'.colWidths :=
  e2ecb_text_rectangle x ops hv wr hk ht hL.userKeysOnly hN hg (alignOK_irc x.dw _ wr.core hL ha) hn hF

/-- The same for the boxless decoration: every chunk is empty (a rule) or a line of slots joined by
    single spaces, every slot its column wide, of segment-sum width `Σ cwᵢ + (n − 1)`. -/
theorem e2e_text_rectangle_boxless (x : Ext) (ops : List BuildOp) (hv : Valid ops = true) (wr : Wrapper)
    (hk : wr.kind = .text) (ht : wr.core < (run x.dw ops).tables.length)
    (hL : LogOnly (run x.dw ops) wr.core) (hN : Needs (run x.dw ops) wr) (hb : BoxlessOK wr.decor)
    (ha : AlignOK ((run x.dw ops).view wr.core)) (hn : 1 ≤ ((run x.dw ops).table wr.core).nColumns)
    (hF : TableFits x.dw (run x.dw ops) wr.core) :
    let w := run x.dw ops
    let v' := (invokeRenderCallbacks x.dw w wr.core).view wr.core
    let m := (w.renderTo x wr).2
    ViewOK x.dw v' ∧ m.res = .ok () ∧
    ∀ ch ∈ m.chunks, ch = [] ∨ ∃ slots, ch = segBytes (boxlessSegs slots) ++ [LF] ∧
      slots.map SlotD.width = v'.colWidths ∧
      segWidth x.dw (boxlessSegs slots) = v'.colWidths.sum + (v'.colWidths.length - 1) :=
  e2ecb_text_rectangle_boxless x ops hv wr hk ht hL.userKeysOnly hN hb (alignOK_irc x.dw _ wr.core hL ha) hn hF

/-! ### 6. totality, all five kinds, decoration hypothesis discharged -/

/-- No panic, for every valid history, every wrapper kind, and — for text — every built-in
    decoration, every `Populate`-completed decoration and the empty one (which is refused):
    `c09_total` with its decoration hypothesis discharged.  `ha`: alignment properties (as the
    renderer reads them, after the callbacks pass) are unset or left / right / centre. -/
theorem e2e_no_panic_any_history (x : Ext) (ops : List BuildOp) (hv : Valid ops = true) (wr : Wrapper)
    (ht : wr.core < (run x.dw ops).tables.length)
    (ha : AlignOK ((invokeRenderCallbacks x.dw (run x.dw ops) wr.core).view wr.core))
    (hd : wr.kind = .text → (∃ p ∈ Generated.builtins, wr.decor = p.2) ∨ (∃ d : Decoration, wr.decor = d.populate)
      ∨ wr.decor = emptyDecoration) :
    ∀ site, ((run x.dw ops).renderTo x wr).2.res ≠ .error (.panic site) := by
  have _ := ht; have _ := hd
  exact C09h.total_inv_any x _ (c02_inv_run x.dw ops hv) wr ha

/-- Under `LogOnly` the alignment hypothesis can be checked on the built world. -/
theorem e2e_no_panic_logonly (x : Ext) (ops : List BuildOp) (hv : Valid ops = true) (wr : Wrapper)
    (ht : wr.core < (run x.dw ops).tables.length) (hL : LogOnly (run x.dw ops) wr.core)
    (ha : AlignOK ((run x.dw ops).view wr.core))
    (hd : wr.kind = .text → (∃ p ∈ Generated.builtins, wr.decor = p.2) ∨ (∃ d : Decoration, wr.decor = d.populate)
      ∨ wr.decor = emptyDecoration) :
    ∀ site, ((run x.dw ops).renderTo x wr).2.res ≠ .error (.panic site) :=
  e2e_no_panic_any_history x ops hv wr ht (alignOK_irc x.dw _ wr.core hL ha) hd

/-! ### non-vacuity: a concrete history, every capstone instantiated on it (`dw := List.length`)

  `e2eHist` / `e2eOps` (Proofs/E2EExample.lean): items "a" … "f"; one table with a logging user
  callback on its cells; headers `a b`; a row `c d`; a separator; a pre-built ragged row `e`
  attached afterwards; column 1 right-aligned; an earlier render; then wrapped as text and as
  markdown (`wrapOps`). -/

namespace E2EExample

-- e2e_wrap: the example history IS "build, then Wrap twice"
example : run e2eX.dw e2eOps = ((run e2eX.dw e2eHist).wrapEffect .text 0).wrapEffect .markdown 0 := by
  have h1 := e2e_wrap e2eX.dw e2eHist hvH .text 0 htH
  have h2 := e2e_wrap e2eX.dw (e2eHist ++ wrapOps .text 0) h1.2.1 .markdown 0 (Nat.lt_of_lt_of_eq htH h1.2.2.1.symm)
  rw [← h1.1, ← h2.1]; rfl
example : Needs (run e2eX.dw (e2eHist ++ wrapOps .text 0)) e2eText :=
  (e2e_wrap e2eX.dw e2eHist hvH .text 0 htH).2.2.2.2 e2eText rfl rfl

-- e2e_wrapped_needs: the text wrap is followed by another step, `Needs` still holds
example : Needs (run e2eX.dw e2eOps) e2eText :=
  e2e_wrapped_needs e2eX.dw e2eHist (wrapOps .markdown 0) e2eText htH

-- 1. texts are stable (and the view really does change: the measurements are written)
example := e2e_texts_stable e2eX.dw (run e2eX.dw e2eOps) 0 hL
example := e2e_texts_stable_cell e2eX.dw (run e2eX.dw e2eOps) 0 hL 0 1
example : (invokeRenderCallbacks e2eX.dw (run e2eX.dw e2eOps) 0).view 0 ≠ (run e2eX.dw e2eOps).view 0 := by
  decide +kernel
example : ((run e2eX.dw e2eOps).view 0).rows.map (·.map (·.map RCell.content)) =
    [some [([99], false, some [34, 99, 34]), ([100], false, some [34, 100, 34])], none,
     some [([101], false, some [34, 101, 34])]] := by decide +kernel

-- 2. CSV: what the reader gets back from the real output
example : (run e2eX.dw e2eOps).csvRecords 0 = [[[97], [98]], [[99], [100]], [[101], []]] := hCsv
example : parse4180 ((run e2eX.dw e2eOps).renderTo e2eX e2eCsv).2.output =
    some [[[97], [98]], [[99], [100]], [[101], []]] := by
  rw [((e2e_csv e2eX e2eOps hv e2eCsv rfl ht hL).2.2 hn).2.1]
  exact congrArg some hCsv
-- … the refusal branch: a table with no columns
example : Valid [BuildOp.newTable] = true ∧ LogOnly (run e2eX.dw [.newTable]) 0 ∧
    ((run e2eX.dw [.newTable]).table 0).nColumns = 0 := by decide +kernel
example : ((run e2eX.dw [.newTable]).renderTo e2eX e2eCsv).2.res = .error (.err .noColumns) :=
  ((e2e_csv e2eX [.newTable] (by decide) e2eCsv rfl (by decide +kernel) (by decide +kernel)).2.1
    (by decide +kernel)).1
-- … and on the example history of C02 (five rows, four columns, all items nil)
example : LogOnly (run List.length exHist) 0 := hLx
example := e2e_csv e2eX exHist exHist_valid e2eCsv rfl htx hLx

-- 3. JSON
example : JsonOK ((run e2eX.dw e2eOps).view 0) := hJ
example : ((run e2eX.dw e2eOps).renderTo e2eX e2eJson).2.res = .ok () :=
  (e2e_json e2eX e2eOps hv e2eJson rfl ht hL).2.2.1.mpr hJ
example : objects e2eX.js ((run e2eX.dw e2eOps).view 0) =
    [[([34, 97, 34], [34, 99, 34]), ([34, 98, 34], [34, 100, 34])], [([34, 97, 34], [34, 101, 34])]] := by
  decide +kernel
-- … the error branch: on C02's history the header texts are empty, so `JsonOK` fails, the render
-- is an error (not a panic) and `Render` returns no text
example : ¬ JsonOK ((run e2eX.dw exHist).view 0) := hnJx
example : ∃ s, ((run e2eX.dw exHist).renderTo e2eX e2eJson).2.res = .error s ∧
    (renderString ((run e2eX.dw exHist).renderTo e2eX e2eJson).2).1 = [] := by
  obtain ⟨_, _, hiff, _, _, herr⟩ := e2e_json e2eX exHist exHist_valid e2eJson rfl htx hLx
  cases hr : ((run e2eX.dw exHist).renderTo e2eX e2eJson).2.res with
  | ok u => exact absurd (hiff.mp hr) hnJx
  | error s => exact ⟨s, rfl, (herr s hr).1⟩

-- HTML: three `<tr>` (header and two body rows)
example : ((tokenize ((run e2eX.dw e2eOps).renderTo e2eX { kind := .html, core := 0 }).2.output).filter
    isTrOpen).length = 3 := by
  rw [(e2e_html e2eX (run e2eX.dw e2eOps) { kind := .html, core := 0 } rfl hL).2.2.2.2, hB]

-- 4. Markdown: header + delimiter + two body rows, three pipes per line
example : ((run e2eX.dw e2eOps).renderTo e2eX e2eMd).2.res = .ok () :=
  (e2e_markdown e2eX e2eOps hv e2eMd rfl ht hL ha).2.1.mpr ⟨hH, hn⟩
example : (lines ((run e2eX.dw e2eOps).renderTo e2eX e2eMd).2.output).length = 4 := by
  obtain ⟨_, hiff, _, _, _, hs⟩ := e2e_markdown e2eX e2eOps hv e2eMd rfl ht hL ha
  rw [(hs (hiff.mpr ⟨hH, hn⟩)).2.1]
  unfold e2eMd; rw [hB]
-- … the refusal branch: no header
example : ((run e2eX.dw [.newTable, .addRowItems 0 [0]]).renderTo e2eX e2eMd).2.res =
    .error (.err .noHeaders) :=
  ((e2e_markdown e2eX [.newTable, .addRowItems 0 [0]] (by decide) e2eMd rfl (by decide +kernel)
    (by decide +kernel) (alignOK_of_alignOKb _ (by decide +kernel))).2.2.2.2.1
      (by decide +kernel) (by decide +kernel)).1

-- the measured view
example := (e2e_measured_view e2eX (run e2eX.dw e2eOps) e2eText hL hNt).1 rfl (by decide)
example := (e2e_measured_view e2eX (run e2eX.dw e2eOps) e2eMd hL hNm).2 rfl

-- 5. text: the real render succeeds, is the specified chunk list, and is a rectangle 9 wide with
--    dividers at 0, 4, 8
example : ((run e2eX.dw e2eOps).renderTo e2eX e2eText).2.res = .ok () :=
  (e2e_text e2eX e2eOps hv e2eText rfl ht hL hNt (Or.inl TextExample.hg) ha hn).2.2.2.2.2.2.1
example : ((run e2eX.dw e2eOps).renderTo e2eX e2eBoxless).2.res = .ok () :=
  (e2e_text e2eX e2eOps hv e2eBoxless rfl ht hL hNb (Or.inr TextExample.hb) ha hn).2.2.2.2.2.2.1
example : ((invokeRenderCallbacks e2eX.dw (run e2eX.dw e2eOps) 0).view 0).colWidths = [1, 1] := hCW
example : ∀ ch ∈ ((run e2eX.dw e2eOps).renderTo e2eX e2eText).2.chunks, ∃ segs,
    ch = segBytes segs ++ [LF] ∧ segWidth List.length segs = 9 ∧
    divOffsets List.length 0 segs = [0, 4, 8] := by
  have h := (e2e_text_rectangle e2eX e2eOps hv e2eText rfl ht hL hNt TextExample.hg ha hn hF).2.2
  intro ch hch
  obtain ⟨segs, h1, h2, h3⟩ := h ch hch
  simp only [e2eText, hCW] at h2 h3
  exact ⟨segs, h1, h2, h3⟩
example := e2e_text_rectangle_boxless e2eX e2eOps hv e2eBoxless rfl ht hL hNb TextExample.hb ha hn hF
/-- the table as written:
```
+---+---+
| a | b |
+---+---+
| c | d |
+---+---+
| e |   |
+---+---+
``` -/
example : ((run e2eX.dw e2eOps).renderTo e2eX e2eText).2.output =
    [43,45,45,45,43,45,45,45,43,10, 124,32,97,32,124,32,98,32,124,10, 43,45,45,45,43,45,45,45,43,10,
     124,32,99,32,124,32,100,32,124,10, 43,45,45,45,43,45,45,45,43,10,
     124,32,101,32,124,32,32,32,124,10, 43,45,45,45,43,45,45,45,43,10] := by decide +kernel
-- `TableFits` fails exactly where it should: an item declaring width 1 for a two-line text
example : ¬ Cell.FitsSrc List.length { TextExample.wideItem with kind := .str [97, 10, 98] }
    (newCell List.length 0 { TextExample.wideItem with kind := .str [97, 10, 98] }) := by decide +kernel
example : Cell.FitsSrc List.length (exItem 97) (newCell List.length 0 (exItem 97)) :=
  fitsSrc_update _ _ _ (by intro s w h e hk; cases hk) rfl

-- 6. no panic: built-in decoration, populated decoration, the empty one, and a non-text kind
example : ([117, 116, 102, 56, 45, 104, 101, 97, 118, 121], Generated.heavy) ∈ Generated.builtins :=
  List.mem_of_getElem? (i := 3) rfl
example := e2e_no_panic_logonly e2eX e2eOps hv e2eHeavy ht hL ha
  (fun _ => Or.inl ⟨_, List.mem_of_getElem? (l := Generated.builtins) (i := 3) rfl, rfl⟩)
example := e2e_no_panic_logonly e2eX e2eOps hv e2eText ht hL ha
  (fun _ => Or.inr (Or.inl ⟨{ horizontal := [45], vertical := [124], crossPiece := [43] }, rfl⟩))
example := e2e_no_panic_logonly e2eX e2eOps hv { e2eText with decor := emptyDecoration } ht hL ha
  (fun _ => Or.inr (Or.inr rfl))
example := e2e_no_panic_any_history e2eX e2eOps hv e2eCsv ht (alignOK_irc _ _ _ hL ha)
  (fun h => by cases h)

end E2EExample

end Tab
