/-
  C03h — the hypotheses that the text-table theorems left to the caller (`TableFits`, and
  "`cellWidth` = widest text line"), discharged for tables built through the API.

  Vocabulary (Proofs/C03hDefs.lean; every predicate is decidable):

  * `Item.isPlain it`  — `it` is not a nested `tabular.Cell` and declares neither
    `TerminalCellWidth()` nor `Height()`;
  * `Item.Fits dw it`  — the per-item condition that `Cell.FitsSrc` needs of the cell `Update` builds:
    an item declaring a width has a single-line text; a nested `Cell` that declares none carries a
    cached width equal to the widest line of its text; anything else is fine.  Declared heights are
    unconstrained (`TableFits` does not read heights);
  * `Cell.Measured dw ce` — `ce.width = longestLine dw ce.str ∧ ce.height = (lines ce.str).length`;
  * `PlainItems dw ops` — every item of every store a `setItems` installs is plain, and every cell
    VALUE given to `Row.Add(cell)` (`rowAddCell`; in Go a by-value copy, or `Cell{}`) is `Measured`
    (closed under adding copies the history itself made: `c03h_add_copy`);
  * `FitItems dw ops`  — a fold over the history tracking the current store `s` and the item ids `u`
    cells were made from: every item of a new store `Fits`; a new store does not change, for an id
    in `u`, WHETHER the item declares a width (in Go the dynamic type of a cell's item never
    changes); a cell value given to `Row.Add(cell)` satisfies `Cell.FitsSrc` for the item it names.

  Why no clause of `FitItems` can be dropped (examples at the end, `dw := List.length`):
  * `Fits`: an item declaring width 1 with the text "ab\ncd" gives lines of different widths (the
    documented exception: a declared width narrower than a multi-line text);
  * stability: a cell made from an item declaring width 3 with text "abcdef", whose item is then
    replaced by one declaring nothing, WITHOUT `Update`, keeps the cached 3: the line overflows.
    The other direction — an item that starts declaring a width after the cell was made — is forced
    by the definition of `Cell.FitsSrc`, not by the renderer; it is admitted by the weaker class
    `FitItemsW` (section "the weaker class"), which proves the same rectangle without `TableFits`.
-/
import Tabmodel.Proofs.C03hView
import Tabmodel.Proofs.C03hExample
import Tabmodel.Props.E2Ecb
namespace Tab
open World hiding CellOK
open E2Ecb C03h

/-! ### the two classes of histories -/

/-- plain histories are fitting histories -/
theorem c03h_plain_fit (dw : Measure) (ops : List BuildOp) (h : PlainItems dw ops) : FitItems dw ops :=
  fitFrom_of_plain dw ops [] [] (fun _ h => (List.not_mem_nil h).elim) h

/-- Both classes are closed under `Row.Add` of a by-value copy the history itself took (`copyCell`):
    the harness operation `rowaddcopy`. -/
theorem c03h_add_copy (dw : Measure) (ops : List BuildOp) (r : Nat) (ce : Cell)
    (hce : ce ∈ (run dw ops).copies) :
    (PlainItems dw ops → PlainItems dw (ops ++ [.rowAddCell r ce])) ∧
    (FitItems dw ops → FitItems dw (ops ++ [.rowAddCell r ce])) := by
  constructor
  · intro h op hop
    rcases List.mem_append.mp hop with h1 | h1
    · exact h op h1
    · rw [List.mem_singleton.mp h1]
      exact (plainInv_run dw ops h).copies ce hce
  · intro h
    unfold FitItems
    rw [fitFrom_append]
    exact ⟨h, ((fitInv_run dw ops h).2.1.2 ce hce).2, trivial⟩

/-! ### the cell invariant -/

/-- PLAIN histories: in the built world every item the store holds (and the `nil` an out-of-range id
    stands for) is plain, and EVERY cell — of every row in the store, attached or not, header or
    body, and every by-value copy — caches exactly the sizes of its text: `width` (and
    `TerminalCellWidth()`) = widest line in display cells, `height` (and `Height()`) = number of
    lines.  Kept by every operation, including `Update` after the item changed (`setItems` …
    `updateCell`), a stale cell whose item changed without `Update` (width and text are cached
    together), `copyCell`, and `Row.Add` of a copy.  No `Valid` needed. -/
theorem c03h_cell_invariant (dw : Measure) (ops : List BuildOp) (hP : PlainItems dw ops) :
    let w := run dw ops
    (∀ i, (w.item i).isPlain) ∧
    (∀ r, ∀ ce ∈ w.rowCells r,
      ce.width = (longestLine dw ce.str : Nat) ∧ ce.height = ((lines ce.str).length : Nat) ∧
      ce.termWidth = (longestLine dw ce.str : Nat) ∧ ce.hgt = ((lines ce.str).length : Nat)) ∧
    (∀ ce ∈ w.copies,
      ce.width = (longestLine dw ce.str : Nat) ∧ ce.height = ((lines ce.str).length : Nat)) := by
  intro w
  have h := plainInv_run dw ops hP
  refine ⟨fun i => (h.item default_isPlain i).2, ?_, h.copies⟩
  intro r ce hce
  have hm := h.rowCells r ce hce
  exact ⟨hm.1, hm.2, measured_termWidth hm, measured_hgt hm⟩

/-- FITTING histories: the store is the last one installed, all its items `Fit`, and every cell of
    every row and every copy satisfies `Cell.FitsSrc` for the item the store NOW holds under the
    cell's id: the item declares no width and the cached width is the widest line of the cached text
    (the measured form), or it declares one and the cached text is a single line (the override form:
    the cached width is then whatever `TerminalCellWidth()` returned at the last `Update`). -/
theorem c03h_cell_invariant_fit (dw : Measure) (ops : List BuildOp) (hF : FitItems dw ops) :
    let w := run dw ops
    w.items = finalStore [] ops ∧ (∀ i, (w.item i).Fits dw) ∧
    (∀ r, ∀ ce ∈ w.rowCells r, Cell.FitsSrc dw (w.item ce.item) ce) ∧
    (∀ ce ∈ w.copies, Cell.FitsSrc dw (w.item ce.item) ce) := by
  intro w
  have h := fitInv_run dw ops hF
  exact ⟨h.2.2, fun i => (h.item (isPlain_fits dw default_isPlain) i).2, h.rowCells, h.copies⟩

/-! ### `TableFits` -/

/-- `TableFits`, exactly as `e2e_text_rectangle` / `e2ecb_text_rectangle` ask for it, for every table
    of a fitting history. -/
theorem c03h_tablefits (dw : Measure) (ops : List BuildOp) (hF : FitItems dw ops) (t : Nat) :
    TableFits dw (run dw ops) t :=
  fun r _ ce hce => (c03h_cell_invariant_fit dw ops hF).2.2.1 r ce hce

/-! ### the rectangle, with no `TableFits` left to the caller -/

/-- `e2ecb_text_rectangle` (arbitrary user callbacks that name no private key) with `TableFits`
    replaced by the decidable condition `FitItems` on the history. -/
theorem c03h_text_rectangle (x : Ext) (ops : List BuildOp) (hv : Valid ops = true) (wr : Wrapper)
    (hk : wr.kind = .text) (ht : wr.core < (run x.dw ops).tables.length)
    (hU : (run x.dw ops).UserKeysOnly wr.core) (hN : Needs (run x.dw ops) wr) (hg : GlyphOK x.dw wr.decor)
    (ha : AlignOK ((invokeRenderCallbacks x.dw (run x.dw ops) wr.core).view wr.core))
    (hn : 1 ≤ ((run x.dw ops).table wr.core).nColumns) (hF : FitItems x.dw ops) :
    let w := run x.dw ops
    let v' := (invokeRenderCallbacks x.dw w wr.core).view wr.core
    let m := (w.renderTo x wr).2
    ViewOK x.dw v' ∧ m.res = .ok () ∧
    ∀ ch ∈ m.chunks, ∃ segs, ch = segBytes segs ++ [LF] ∧
      segWidth x.dw segs = 1 + (v'.colWidths.map (· + 3)).sum ∧
      divOffsets x.dw 0 segs = colOffsets 0 v'.colWidths :=
  e2ecb_text_rectangle x ops hv wr hk ht hU hN hg ha hn (c03h_tablefits x.dw ops hF wr.core)

/-- the same for the boxless decoration -/
theorem c03h_text_rectangle_boxless (x : Ext) (ops : List BuildOp) (hv : Valid ops = true) (wr : Wrapper)
    (hk : wr.kind = .text) (ht : wr.core < (run x.dw ops).tables.length)
    (hU : (run x.dw ops).UserKeysOnly wr.core) (hN : Needs (run x.dw ops) wr) (hb : BoxlessOK wr.decor)
    (ha : AlignOK ((invokeRenderCallbacks x.dw (run x.dw ops) wr.core).view wr.core))
    (hn : 1 ≤ ((run x.dw ops).table wr.core).nColumns) (hF : FitItems x.dw ops) :
    let w := run x.dw ops
    let v' := (invokeRenderCallbacks x.dw w wr.core).view wr.core
    let m := (w.renderTo x wr).2
    ViewOK x.dw v' ∧ m.res = .ok () ∧
    ∀ ch ∈ m.chunks, ch = [] ∨ ∃ slots, ch = segBytes (boxlessSegs slots) ++ [LF] ∧
      slots.map SlotD.width = v'.colWidths ∧
      segWidth x.dw (boxlessSegs slots) = v'.colWidths.sum + (v'.colWidths.length - 1) :=
  e2ecb_text_rectangle_boxless x ops hv wr hk ht hU hN hb ha hn (c03h_tablefits x.dw ops hF wr.core)

/-! ### plain histories: the view after the pass, cell by cell and column by column -/

/-- the widest text line of column `i` (0-based) of table `t` of the built world: the maximum, over
    the header cell and every body cell the column has, of the display widths of the cell's text
    lines; 0 when the column has no cell (or only empty ones) -/
def World.colTextWidth (dw : Measure) (w : World) (t i : Nat) : Nat :=
  maxNat ((w.colTexts t i).flatMap (fun s => (lines s).map dw))

/-- For a plain history with the measuring callback registered (`Needs`; any user callbacks under
    `UserKeysOnly`), every cell of the view the text renderer reads carries the measurement of its
    own text and nothing else: `cellWidth` is the widest line, `lws` is the list of its lines with
    their display widths (no blank padding: no declared height). -/
theorem c03h_view_cells (x : Ext) (ops : List BuildOp) (wr : Wrapper) (hk : wr.kind = .text)
    (hU : (run x.dw ops).UserKeysOnly wr.core) (hN : Needs (run x.dw ops) wr) (hP : PlainItems x.dw ops) :
    let v' := (invokeRenderCallbacks x.dw (run x.dw ops) wr.core).view wr.core
    ∀ c ∈ v'.allCells,
      c.cellWidth = ((longestLine x.dw c.text : Nat) : Int) ∧
      c.lws = (lines c.text).map (fun l => ({ s := l, w := ((x.dw l : Nat) : Int) } : WidthString)) ∧
      CellMeasured x.dw c :=
  fun c hc =>
    have hP := plainInv_run x.dw ops hP
    have h := plain_view_cell x.dw _ wr.core hU (hN.1 hk) (fun i => (hP.item default_isPlain i).2) hP.rowCells c hc
    ⟨h.1, h.2, fun y hy => by
      rw [h.2] at hy
      obtain ⟨l, _, rfl⟩ := List.mem_map.mp hy
      rfl⟩

/-- COLUMN WIDTHS.  For a valid plain history, in the view the text renderer reads after its pass:
    * the cells of column `i`, in order (header first), carry the texts of the cells of column `i` of
      the built table (`colTexts`);
    * the column's width `colWidth i` is exactly the widest text line of any header or body cell in
      it (`colTextWidth`), 0 if it has none;
    * and these are the widths the renderer computes and pads to (`ttColumnWidths` succeeds with
      them): every slot is padded to `colWidth i` and set off by one space on either side
      (`c03_content_shape`, `c03_rule_shape`: rule runs are `colWidth i + 2` long; in
      `c03h_text_rectangle_plain` the dividers sit at `colOffsets`, i.e. `colWidth i + 3` apart). -/
theorem c03h_column_widths (x : Ext) (ops : List BuildOp) (hv : Valid ops = true) (wr : Wrapper)
    (hk : wr.kind = .text) (ht : wr.core < (run x.dw ops).tables.length)
    (hU : (run x.dw ops).UserKeysOnly wr.core) (hN : Needs (run x.dw ops) wr) (hP : PlainItems x.dw ops) :
    let w := run x.dw ops
    let v' := (invokeRenderCallbacks x.dw w wr.core).view wr.core
    (∀ i, (v'.colCells i).map (·.text) = w.colTexts wr.core i) ∧
    (∀ i, v'.colWidth i = w.colTextWidth x.dw wr.core i) ∧
    v'.colWidths = (List.range (w.table wr.core).nColumns).map (w.colTextWidth x.dw wr.core) ∧
    ∃ wsI, ttColumnWidths v' = .ok wsI ∧
      wsI.map Int.toNat = (List.range (w.table wr.core).nColumns).map (w.colTextWidth x.dw wr.core) := by
  intro w v'
  have hinv := c02_inv_run x.dw ops hv
  have hsep : ∀ r, (w.row r).isSep = true → w.rowCells r = [] := by
    intro r hs
    unfold World.rowCells
    rw [c02_inv_sep hinv r hs]; rfl
  have htext := fun i => colCells_text_postpass x.dw w wr.core i hU (hN.1 hk) hsep
  have hwidth : ∀ i, v'.colWidth i = w.colTextWidth x.dw wr.core i :=
    fun i => colWidth_postpass x.dw w wr.core i hU (hN.1 hk) hsep (plainInv_run x.dw ops hP).rowCells
  have hnc : v'.ncols = (w.table wr.core).nColumns := (irc_view_content x.dw w wr.core wr.core).1
  have hcw : v'.colWidths = (List.range (w.table wr.core).nColumns).map (w.colTextWidth x.dw wr.core) := by
    unfold RTable.colWidths
    rw [hnc]
    exact List.map_congr_left (fun i _ => hwidth i)
  refine ⟨htext, hwidth, hcw, ?_⟩
  obtain ⟨_, hwf, _, _⟩ := c02_view_wf_after_callbacks x.dw hinv wr.core ht
  obtain ⟨wsI, h1, h2⟩ := (c03_column_widths v' hwf).1
  exact ⟨wsI, h1, h2.trans hcw⟩

/-- THE RECTANGLE FOR PLAIN HISTORIES, in terms of the texts: with `tw i` the widest text line of
    column `i` of the built table, the render succeeds and EVERY line written is a list of segments
    (+ LF) of segment-sum width `1 + Σ (tw i + 3)` whose dividers sit at `[0, tw₀+3, tw₀+tw₁+6, …]`
    (each column: one space, `tw i` cells, one space, then the next divider). -/
theorem c03h_text_rectangle_plain (x : Ext) (ops : List BuildOp) (hv : Valid ops = true) (wr : Wrapper)
    (hk : wr.kind = .text) (ht : wr.core < (run x.dw ops).tables.length)
    (hU : (run x.dw ops).UserKeysOnly wr.core) (hN : Needs (run x.dw ops) wr) (hg : GlyphOK x.dw wr.decor)
    (ha : AlignOK ((invokeRenderCallbacks x.dw (run x.dw ops) wr.core).view wr.core))
    (hn : 1 ≤ ((run x.dw ops).table wr.core).nColumns) (hP : PlainItems x.dw ops) :
    let w := run x.dw ops
    let tw := (List.range (w.table wr.core).nColumns).map (w.colTextWidth x.dw wr.core)
    let m := (w.renderTo x wr).2
    m.res = .ok () ∧
    ∀ ch ∈ m.chunks, ∃ segs, ch = segBytes segs ++ [LF] ∧
      segWidth x.dw segs = 1 + (tw.map (· + 3)).sum ∧
      divOffsets x.dw 0 segs = colOffsets 0 tw := by
  intro w tw m
  obtain ⟨_, hok, hall⟩ := c03h_text_rectangle x ops hv wr hk ht hU hN hg ha hn (c03h_plain_fit x.dw ops hP)
  have hcw := (c03h_column_widths x ops hv wr hk ht hU hN hP).2.2.1
  refine ⟨hok, ?_⟩
  intro ch hch
  obtain ⟨segs, h1, h2, h3⟩ := hall ch hch
  refine ⟨segs, h1, ?_, ?_⟩
  · rw [h2, hcw]
  · rw [h3, hcw]

/-- LINE COUNT of a row, plain histories: a header or body row of the view contributes
    `max 1 (most text lines of any of its cells within the first ncols)` content lines. -/
theorem c03h_row_lines (x : Ext) (ops : List BuildOp) (wr : Wrapper) (hk : wr.kind = .text)
    (hU : (run x.dw ops).UserKeysOnly wr.core) (hN : Needs (run x.dw ops) wr) (hP : PlainItems x.dw ops) :
    let v' := (invokeRenderCallbacks x.dw (run x.dw ops) wr.core).view wr.core
    ∀ cells, (v'.header = some cells ∨ some cells ∈ v'.rows) → ∀ (L I R : Bytes) (cw al : List Nat),
      (rowChunks L I R cw al cells v'.ncols).length =
        max 1 (maxNat ((cells.take v'.ncols).map (fun c => (lines c.text).length))) := by
  intro v' cells hrow L I R cw al
  have hlen : ∀ c ∈ cells.take v'.ncols, c.lws.length = (lines c.text).length := fun c hc => by
    rw [(c03h_view_cells x ops wr hk hU hN hP c
      (mem_allCells v' cells c hrow (List.mem_of_mem_take hc))).2.1, List.length_map]
  rw [rowChunks_length, rowLineCount_eq, List.map_congr_left hlen]

/-- WHOLE-LINE WIDTH, plain histories (conditional on additivity, as `c03_whole_line_render`; the
    other two premises of that theorem — `ViewOK` and "every slot's laid-out width is the measure of
    its text" — are discharged): every line written has a segmentation such that, IF `dw` is additive
    over its atoms, the line without its LF measures `1 + Σ (tw i + 3)` by the library's own measure. -/
theorem c03h_whole_line (x : Ext) (ops : List BuildOp) (hv : Valid ops = true) (wr : Wrapper)
    (hk : wr.kind = .text) (ht : wr.core < (run x.dw ops).tables.length)
    (hU : (run x.dw ops).UserKeysOnly wr.core) (hN : Needs (run x.dw ops) wr) (hg : GlyphOK x.dw wr.decor)
    (ha : AlignOK ((invokeRenderCallbacks x.dw (run x.dw ops) wr.core).view wr.core))
    (hn : 1 ≤ ((run x.dw ops).table wr.core).nColumns) (hP : PlainItems x.dw ops)
    (hsp : ∀ k, x.dw (spaces k) = k) :
    let w := run x.dw ops
    let tw := (List.range (w.table wr.core).nColumns).map (w.colTextWidth x.dw wr.core)
    ∀ ch ∈ (w.renderTo x wr).2.chunks, ∃ segs, ch = segBytes segs ++ [LF] ∧
      (AdditiveOn x.dw segs → x.dw (segBytes segs) = 1 + (tw.map (· + 3)).sum) := by
  intro w tw
  have hF := c03h_plain_fit x.dw ops hP
  obtain ⟨hm, hnc, hwf, _, _, _, _⟩ := e2ecb_text x ops hv wr hk ht hU hN (Or.inl hg) ha hn
  obtain ⟨hV, _, _⟩ := c03h_text_rectangle x ops hv wr hk ht hU hN hg ha hn hF
  have hcw := (c03h_column_widths x ops hv wr hk ht hU hN hP).2.2.1
  show ∀ ch ∈ ((run x.dw ops).renderTo x wr).2.chunks, _
  rw [hm]
  have := c03_whole_line_render x.dw wr.decor _ (by rw [hnc]; exact hn) hwf ha hg hV
    (fun c hc => (c03h_view_cells x ops wr hk hU hN hP c hc).2.2) hsp
  rw [hcw] at this
  exact this

/-! ### the weaker class `FitItemsW`: what the renderer needs, beyond `TableFits` as defined

  `Cell.FitsSrc` (Proofs/E2EDefs.lean) asks, in its "measured" disjunct, that the item declare no
  width.  The renderer does not need that: the measuring callback uses a declared width for
  single-line texts only, so a cached width equal to the widest line is enough whatever the item
  declares.  `Cell.FitsW` drops the clause; `FitItemsW` is `FitItems` with `FitsW` for `Fits` /
  `FitsSrc`, and lets an item id in use START declaring a width.  It additionally covers a nested
  multi-line `tabular.Cell` item (`NewCell(NewCell("ab\ncde"))`: a `Cell` always declares a width)
  and a declared width that happens to equal the widest line. -/

/-- fitting histories are weakly fitting -/
theorem c03h_fit_weak (dw : Measure) (ops : List BuildOp) (h : FitItems dw ops) : FitItemsW dw ops :=
  fitFromW_of_fitFrom dw ops [] [] h

/-- the cell invariant and `TableFitsW` for weakly fitting histories -/
theorem c03h_tablefits_weak (dw : Measure) (ops : List BuildOp) (hF : FitItemsW dw ops) :
    let w := run dw ops
    (∀ r, ∀ ce ∈ w.rowCells r, Cell.FitsW dw (w.item ce.item) ce) ∧
    (∀ ce ∈ w.copies, Cell.FitsW dw (w.item ce.item) ce) ∧
    ∀ t, TableFitsW dw w t := by
  intro w
  have h := fitInvW_run dw ops hF
  exact ⟨h.rowCells, h.copies, fun t r _ ce hce => h.rowCells r ce hce⟩

/-- `c03h_text_rectangle` for weakly fitting histories (not through `e2ecb_text_rectangle`, whose
    `TableFits` premise is false for some of them; same conclusion) -/
theorem c03h_text_rectangle_weak (x : Ext) (ops : List BuildOp) (hv : Valid ops = true) (wr : Wrapper)
    (hk : wr.kind = .text) (ht : wr.core < (run x.dw ops).tables.length)
    (hU : (run x.dw ops).UserKeysOnly wr.core) (hN : Needs (run x.dw ops) wr) (hg : GlyphOK x.dw wr.decor)
    (ha : AlignOK ((invokeRenderCallbacks x.dw (run x.dw ops) wr.core).view wr.core))
    (hn : 1 ≤ ((run x.dw ops).table wr.core).nColumns) (hF : FitItemsW x.dw ops) :
    let w := run x.dw ops
    let v' := (invokeRenderCallbacks x.dw w wr.core).view wr.core
    let m := (w.renderTo x wr).2
    ViewOK x.dw v' ∧ m.res = .ok () ∧
    ∀ ch ∈ m.chunks, ∃ segs, ch = segBytes segs ++ [LF] ∧
      segWidth x.dw segs = 1 + (v'.colWidths.map (· + 3)).sum ∧
      divOffsets x.dw 0 segs = colOffsets 0 v'.colWidths := by
  intro w v' m
  obtain ⟨hm, hnc, hwf, _, _, hok, _⟩ := e2ecb_text x ops hv wr hk ht hU hN (Or.inl hg) ha hn
  have hV : ViewOK x.dw v' :=
    viewOK_cb_weak x.dw w wr.core hU (hN.1 hk) ((c03h_tablefits_weak x.dw ops hF).2.2 wr.core)
  refine ⟨hV, hok, ?_⟩
  show ∀ ch ∈ (w.renderTo x wr).2.chunks, _
  rw [show (w.renderTo x wr).2 = renderTextBody wr.decor v' from hm]
  exact c03_rectangle x.dw wr.decor v' (by rw [hnc]; exact hn) hwf ha hg hV

/-- the same for the boxless decoration -/
theorem c03h_text_rectangle_weak_boxless (x : Ext) (ops : List BuildOp) (hv : Valid ops = true) (wr : Wrapper)
    (hk : wr.kind = .text) (ht : wr.core < (run x.dw ops).tables.length)
    (hU : (run x.dw ops).UserKeysOnly wr.core) (hN : Needs (run x.dw ops) wr) (hb : BoxlessOK wr.decor)
    (ha : AlignOK ((invokeRenderCallbacks x.dw (run x.dw ops) wr.core).view wr.core))
    (hn : 1 ≤ ((run x.dw ops).table wr.core).nColumns) (hF : FitItemsW x.dw ops) :
    let w := run x.dw ops
    let v' := (invokeRenderCallbacks x.dw w wr.core).view wr.core
    let m := (w.renderTo x wr).2
    ViewOK x.dw v' ∧ m.res = .ok () ∧
    ∀ ch ∈ m.chunks, ch = [] ∨ ∃ slots, ch = segBytes (boxlessSegs slots) ++ [LF] ∧
      slots.map SlotD.width = v'.colWidths ∧
      segWidth x.dw (boxlessSegs slots) = v'.colWidths.sum + (v'.colWidths.length - 1) := by
  intro w v' m
  obtain ⟨hm, hnc, hwf, _, _, hok, _⟩ := e2ecb_text x ops hv wr hk ht hU hN (Or.inr hb) ha hn
  have hV : ViewOK x.dw v' :=
    viewOK_cb_weak x.dw w wr.core hU (hN.1 hk) ((c03h_tablefits_weak x.dw ops hF).2.2 wr.core)
  refine ⟨hV, hok, ?_⟩
  show ∀ ch ∈ (w.renderTo x wr).2.chunks, _
  rw [show (w.renderTo x wr).2 = renderTextBody wr.decor v' from hm]
  exact c03_rectangle_boxless x.dw wr.decor v' (by rw [hnc]; exact hn) hwf ha hb hV

/-! ### non-vacuity (`dw := List.length`; histories in Proofs/C03hExample.lean)

  `plainOps`: items "name", "ab\ncde", "x", "", nil; a table with a property-setting cell callback and
  a failing table callback; headers `name | x`; row `"ab\ncde" | x`; a separator; a pre-built row `x`
  to which a by-value COPY of cell (1,0) is added; item "x" mutated to "wider\n!" and only cell (1,1)
  `Update`d (the header and the pre-built row keep the stale "x"); a row `"" | nil`; column 2
  right-aligned; wrapped as text. -/

namespace C03hExample

example : FitItems e2eX.dw plainOps := c03h_plain_fit e2eX.dw plainOps hP
example : PlainItems List.length (plainPre ++ [.rowAddCell 3 ((run List.length plainPre).copies.getD 0 default)]) :=
  (c03h_add_copy List.length plainPre 3 _ hcopy).1 (by decide +kernel)
example := c03h_cell_invariant e2eX.dw plainOps hP
-- the updated cell (1,1) holds the new text with its sizes; the stale header cell (0,1) the old one
example : ((run e2eX.dw plainOps).cell? 1 1).map (fun ce => (ce.str, ce.width, ce.height)) =
    some ([119, 105, 100, 101, 114, 10, 33], 5, 2) := by decide +kernel
example : ((run e2eX.dw plainOps).cell? 0 1).map (fun ce => (ce.str, ce.width, ce.height)) =
    some ([120], 1, 1) := by decide +kernel
example := c03h_cell_invariant_fit e2eX.dw plainOps (c03h_plain_fit e2eX.dw plainOps hP)
example : TableFits e2eX.dw (run e2eX.dw plainOps) 0 := c03h_tablefits e2eX.dw plainOps (c03h_plain_fit _ _ hP) 0
example := c03h_text_rectangle e2eX plainOps hv e2eText rfl ht hU hNt TextExample.hg ha hn (c03h_plain_fit _ _ hP)
example := c03h_text_rectangle_boxless e2eX plainOps hv e2eBoxless rfl ht hU hNb TextExample.hb ha hn
  (c03h_plain_fit _ _ hP)
example := c03h_view_cells e2eX plainOps e2eText rfl hU hNt hP
example := c03h_row_lines e2eX plainOps e2eText rfl hU hNt hP
-- the texts of the two columns, and their widest lines: "name" (4) and "wider" (5)
example : (List.range 2).map ((run e2eX.dw plainOps).colTexts 0) =
    [[[110, 97, 109, 101], [97, 98, 10, 99, 100, 101], [120], []],
     [[120], [119, 105, 100, 101, 114, 10, 33], [97, 98, 10, 99, 100, 101], []]] := by decide +kernel
example : (List.range 2).map ((run e2eX.dw plainOps).colTextWidth e2eX.dw 0) = [4, 5] := by decide +kernel
example : ((invokeRenderCallbacks e2eX.dw (run e2eX.dw plainOps) 0).view 0).colWidths = [4, 5] :=
  ((c03h_column_widths e2eX plainOps hv e2eText rfl ht hU hNt hP).2.2.1).trans (by decide +kernel)
theorem plain_tw : (List.range ((run e2eX.dw plainOps).table e2eText.core).nColumns).map
    ((run e2eX.dw plainOps).colTextWidth e2eX.dw e2eText.core) = [4, 5] := by decide +kernel
/-- every line is 1 + (4+3) + (5+3) = 16 wide, dividers at 0, 7, 15 -/
example : ∀ ch ∈ ((run e2eX.dw plainOps).renderTo e2eX e2eText).2.chunks, ∃ segs, ch = segBytes segs ++ [LF] ∧
    segWidth e2eX.dw segs = 16 ∧ divOffsets e2eX.dw 0 segs = [0, 7, 15] := by
  have h := (c03h_text_rectangle_plain e2eX plainOps hv e2eText rfl ht hU hNt TextExample.hg ha hn hP).2
  rw [plain_tw] at h
  exact h
/-- and, `List.length` being additive, 16 bytes long -/
example : ∀ ch ∈ ((run e2eX.dw plainOps).renderTo e2eX e2eText).2.chunks, ∃ segs, ch = segBytes segs ++ [LF] ∧
    (segBytes segs).length = 16 := by
  intro ch hch
  have h := c03h_whole_line e2eX plainOps hv e2eText rfl ht hU hNt TextExample.hg ha hn hP TextExample.hsp ch hch
  rw [plain_tw] at h
  obtain ⟨segs, h1, h2⟩ := h
  exact ⟨segs, h1, h2 (TextExample.hadd segs)⟩
/-- the table as written:
```
+------+-------+
| name |     x |
+------+-------+
| ab   | wider |
| cde  |     ! |
+------+-------+
| x    |    ab |
|      |   cde |
|      |       |
+------+-------+
``` -/
example : ((run e2eX.dw plainOps).renderTo e2eX e2eText).2.output =
    [43,45,45,45,45,45,45,43,45,45,45,45,45,45,45,43,10, 124,32,110,97,109,101,32,124,32,32,32,32,32,120,32,124,10,
     43,45,45,45,45,45,45,43,45,45,45,45,45,45,45,43,10, 124,32,97,98,32,32,32,124,32,119,105,100,101,114,32,124,10,
     124,32,99,100,101,32,32,124,32,32,32,32,32,33,32,124,10, 43,45,45,45,45,45,45,43,45,45,45,45,45,45,45,43,10,
     124,32,120,32,32,32,32,124,32,32,32,32,97,98,32,124,10, 124,32,32,32,32,32,32,124,32,32,32,99,100,101,32,124,10,
     124,32,32,32,32,32,32,124,32,32,32,32,32,32,32,124,10, 43,45,45,45,45,45,45,43,45,45,45,45,45,45,45,43,10] := by
  decide +kernel

/-! `fitOps`: a fitting history that is NOT plain — "abc" declaring width 5, "x" declaring height 3, a
    nested `tabular.Cell`, "-" declaring width −1, "ab\ncd" declaring height 1 (shows both lines), and
    a later store in which item 0 declares another width and item 5 another text, with no `Update`. -/

example : ¬ PlainItems e2eX.dw fitOps := by decide +kernel
example : TableFits e2eX.dw (run e2eX.dw fitOps) 0 := c03h_tablefits e2eX.dw fitOps fhF 0
example := c03h_cell_invariant_fit e2eX.dw fitOps fhF
example := c03h_text_rectangle e2eX fitOps fhv e2eText rfl fht fhU fhNt TextExample.hg fha fhn fhF
/-- columns 5, 5, 7 wide (the declared 5 twice, and the stale "abcdefg") -/
example : ((invokeRenderCallbacks e2eX.dw (run e2eX.dw fitOps) 0).view 0).colWidths = [5, 5, 7] := by
  decide +kernel

/-! Why the clauses of `FitItems` cannot be dropped. -/

/-- `Fits`: "ab\ncd" declaring width 1 — not fitting, `TableFits` false, and the table is not a
    rectangle:
```
+---+
| x |
+---+
| ab |
| cd |
+---+
``` -/
example : ¬ FitItems e2eX.dw badWidthOps ∧ ¬ TableFits e2eX.dw (run e2eX.dw badWidthOps) 0 ∧
    ((run e2eX.dw badWidthOps).renderTo e2eX e2eText).2.output =
      [43,45,45,45,43,10, 124,32,120,32,124,10, 43,45,45,45,43,10, 124,32,97,98,32,124,10,
       124,32,99,100,32,124,10, 43,45,45,45,43,10] := by decide +kernel

/-- stability: the item under an id in use stops declaring a width and the cell is not `Update`d —
    every item of every store `Fits`, yet the cached width 3 is now read as a measured one:
```
+-----+
| x   |
+-----+
| abcdef |
+-----+
``` -/
example : (∀ op ∈ badStableOps, ∀ its, op = .setItems its → ∀ it ∈ its, it.Fits e2eX.dw) ∧
    ¬ FitItems e2eX.dw badStableOps ∧ ¬ TableFits e2eX.dw (run e2eX.dw badStableOps) 0 ∧
    ((run e2eX.dw badStableOps).renderTo e2eX e2eText).2.output =
      [43,45,45,45,45,45,43,10, 124,32,120,32,32,32,124,10, 43,45,45,45,45,45,43,10,
       124,32,97,98,99,100,101,102,32,124,10, 43,45,45,45,45,45,43,10] := by
  refine ⟨?_, by decide +kernel, by decide +kernel, by decide +kernel⟩
  intro op hop its e
  subst e
  simp only [badStableOps, wrapOps, List.cons_append, List.nil_append, List.mem_cons, List.not_mem_nil,
    or_false, reduceCtorEq, false_or, BuildOp.setItems.injEq] at hop
  rcases hop with rfl | rfl <;> decide +kernel

/-- the other direction of the stability clause is forced by the DEFINITION of `Cell.FitsSrc`, not by
    the renderer: a multi-line plain item that starts declaring a width, cell not `Update`d.
    `TableFits` is false, the table is still a rectangle (the measuring callback uses the declared
    width for single-line texts only). -/
example : ¬ FitItems e2eX.dw lateDeclOps ∧ ¬ TableFits e2eX.dw (run e2eX.dw lateDeclOps) 0 ∧
    ((run e2eX.dw lateDeclOps).renderTo e2eX e2eText).2.output =
      [43,45,45,45,45,43,10, 124,32,120,32,32,124,10, 43,45,45,45,45,43,10, 124,32,97,98,32,124,10,
       124,32,99,100,32,124,10, 43,45,45,45,45,43,10] := by decide +kernel

/-! The weaker class. -/

example : FitItemsW e2eX.dw fitOps := c03h_fit_weak e2eX.dw fitOps fhF
example := c03h_tablefits_weak e2eX.dw nestedOps nhF
example := c03h_text_rectangle_weak e2eX nestedOps nhv e2eText rfl nht nhU nhNt TextExample.hg nha nhn nhF
example := c03h_text_rectangle_weak_boxless e2eX plainOps hv e2eBoxless rfl ht hU hNb TextExample.hb ha hn
  (c03h_fit_weak _ _ (c03h_plain_fit _ _ hP))
/-- the nested two-line `Cell`: outside `FitItems`, `TableFits` false, covered by `FitItemsW` -/
example : ¬ FitItems e2eX.dw nestedOps ∧ ¬ TableFits e2eX.dw (run e2eX.dw nestedOps) 0 ∧
    ((run e2eX.dw nestedOps).renderTo e2eX e2eText).2.output =
      [43,45,45,45,45,45,43,10, 124,32,120,32,32,32,124,10, 43,45,45,45,45,45,43,10,
       124,32,97,98,32,32,124,10, 124,32,99,100,101,32,124,10, 43,45,45,45,45,45,43,10] := by decide +kernel
/-- so is the late declaration; the two real counterexamples stay outside -/
example : FitItemsW e2eX.dw lateDeclOps ∧ ¬ FitItemsW e2eX.dw badWidthOps ∧ ¬ FitItemsW e2eX.dw badStableOps := by
  decide +kernel

end C03hExample

end Tab
