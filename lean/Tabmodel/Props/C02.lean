/-
  C02 — Row/column counts, row order and cell addressing follow the build history
  (and the structural half of C09: the render view of every reachable table is well formed).

  Vocabulary (definitions in `Spec/World.lean`):
  * `BuildOp`, `applyOp dw w op`, `run dw ops`: histories of API calls and the world they build;
  * `Valid ops`: ids name existing objects, a pre-built row is attached at most once, the
    (unreachable) header row is never `Add`ed to or attached — a decidable check on the history;
  * `w.shape`: the world minus properties, callbacks, errors, items, texts, copies, events;
    `Shape.step`: the reference "slice of slices" machine; `Inv w`: the structural invariant.
-/
import Tabmodel.Proofs.WorldObs
namespace Tab
open World

/-! ### callbacks never change structure; building steps refine the reference machine -/

/-- Running any list of callbacks on any target changes nothing structural. -/
theorem c02_callbacks_keep_shape (dw : Measure) (w : World) (cbs : List Cb) (tgt : Target) (tk : Taker) :
    (invoke dw w cbs tgt tk).shape = w.shape := shape_invoke dw w cbs tgt tk

/-- The whole render-time callback pass changes nothing structural. -/
theorem c02_render_keeps_shape (dw : Measure) (w : World) (t : Nat) :
    (invokeRenderCallbacks dw w t).shape = w.shape := shape_invokeRenderCallbacks dw w t

/-- Every operation acts on the shape exactly as the reference machine does (for all inputs,
    valid or not). -/
theorem c02_refines (dw : Measure) (w : World) (op : BuildOp) :
    (applyOp dw w op).shape = w.shape.step op := shape_applyOp dw w op

theorem c02_refines_run (dw : Measure) (ops : List BuildOp) :
    (run dw ops).shape = Shape.runFrom {} ops := shape_run dw ops

/-! ### the invariant holds after every valid history -/

theorem c02_inv_init : Inv {} := inv_init

theorem c02_inv_step (dw : Measure) {w : World} (hinv : Inv w) (op : BuildOp) (hok : w.shape.ok op = true) :
    Inv (applyOp dw w op) := inv_step dw hinv op hok

theorem c02_inv_run (dw : Measure) (ops : List BuildOp) (hv : Valid ops = true) : Inv (run dw ops) := by
  unfold Inv; rw [shape_run]; exact Shape.SInv.runFrom Shape.sinv_init ops hv

/-- the callbacks pass of a render preserves the invariant -/
theorem c02_inv_render (dw : Measure) {w : World} (hinv : Inv w) (t : Nat) :
    Inv (invokeRenderCallbacks dw w t) := inv_of_shape_eq hinv (shape_invokeRenderCallbacks dw w t)

/-! The invariant, clause by clause, in terms of the world. -/

/-- `len(t.columns) = nColumns + 1` -/
theorem c02_inv_columns {w : World} (hinv : Inv w) (t : Nat) :
    (w.table t).columns.length = (w.table t).nColumns + 1 := hinv.cols t

/-- the i-th entry of a table's row list is a stored row that knows it is row i+1 of that table;
    hence a row is in at most one table, at most once -/
theorem c02_inv_attached {w : World} (hinv : Inv w) (t i r : Nat) (hi : (w.table t).rows[i]? = some r) :
    r < w.rows.length ∧ (w.row r).inTable = some t ∧ (w.row r).rowNum = i + 1 :=
  ⟨hinv.rowsLt t r (List.mem_of_getElem? hi), hinv.att t i r hi⟩

/-- no row id occurs twice in a table's list, and no row id is in two tables' lists -/
theorem c02_inv_rows_unique {w : World} (hinv : Inv w) (t : Nat) :
    (w.table t).rows.Nodup ∧ ∀ t' r, r ∈ (w.table t).rows → r ∈ (w.table t').rows → t' = t := by
  constructor
  · rw [List.nodup_iff_pairwise_ne, List.pairwise_iff_getElem]
    intro i j hi hj hij e
    have h1 := (hinv.att t i _ (List.getElem?_eq_getElem hi)).2
    have h2 := (hinv.att t j _ (List.getElem?_eq_getElem hj)).2
    rw [e] at h1; omega
  · intro t' r hm hm'
    obtain ⟨i, hi⟩ := List.mem_iff_getElem?.mp hm
    obtain ⟨i', hi'⟩ := List.mem_iff_getElem?.mp hm'
    have h1 := (hinv.att t i r hi).1
    have h2 := (hinv.att t' i' r hi').1
    rw [h1] at h2; cases h2; rfl

/-- a row that names a table is in that table's list; so unattached rows have `inTable = none` -/
theorem c02_inv_back {w : World} (hinv : Inv w) (r t : Nat) (hi : (w.row r).inTable = some t) :
    r ∈ (w.table t).rows := hinv.back r t hi

/-- the header row is a stored row that is in no table -/
theorem c02_inv_header {w : World} (hinv : Inv w) (t hd : Nat) (hh : (w.table t).header = some hd) :
    hd < w.rows.length ∧ (w.row hd).inTable = none ∧ ∀ t', hd ∉ (w.table t').rows := by
  refine ⟨hinv.hdrLt t hd hh, hinv.hdrFree t hd hh, ?_⟩
  intro t' hm
  obtain ⟨i, hi⟩ := List.mem_iff_getElem?.mp hm
  have := (hinv.att t' i hd hi).1
  rw [hinv.hdrFree t hd hh] at this; cases this

/-- every cell of every stored row (attached or not) carries its own coordinates -/
theorem c02_inv_cell_geo {w : World} (hinv : Inv w) (r j : Nat) (ce : Cell) (hc : w.cell? r j = some ce) :
    ce.columnNum = j + 1 ∧ ce.inRow = some r := by
  unfold cell? rowCells at hc
  cases hcs : (w.row r).cells with
  | none => rw [hcs] at hc; simp at hc
  | some cs => rw [hcs] at hc; exact hinv.geo r cs j ce hcs hc

/-- separators have a nil cell slice -/
theorem c02_inv_sep {w : World} (hinv : Inv w) (r : Nat) (hs : (w.row r).isSep = true) :
    (w.row r).cells = none := hinv.sep r hs

/-! ### row count and row order -/

/-- One step: the operation appends exactly its `attaches` to each table's list, never reorders
    or truncates it, and adds `newRows` rows to the store. -/
theorem c02_order_step (dw : Measure) (w : World) (op : BuildOp) (hok : w.shape.ok op = true) (t : Nat) :
    ((applyOp dw w op).table t).rows = (w.table t).rows ++ op.attaches t w.rows.length ∧
    (applyOp dw w op).rows.length = w.rows.length + op.newRows := by
  constructor
  · have := Shape.step_rows w.shape op hok t
    rwa [← shape_applyOp dw, shape_table_rows, shape_table_rows, shape_rows_length] at this
  · exact rows_length_step dw w op

/-- The rows of a table are exactly the ids attached to it by the history, in insertion order. -/
theorem c02_order (dw : Measure) (ops : List BuildOp) (hv : Valid ops = true) (t : Nat) :
    ((run dw ops).table t).rows = attachedFrom t 0 ops := by
  have := Shape.runFrom_rows {} ops hv t
  rw [← shape_run dw, shape_table_rows] at this
  rw [this, Shape.table_oob _ _ (Nat.zero_le _)]
  rfl

/-- `NRows` = number of AddRowItems / AppendNewRow / AddRow / AddSeparator calls on the table. -/
theorem c02_nrows (dw : Measure) (ops : List BuildOp) (hv : Valid ops = true) (t : Nat) :
    ((run dw ops).table t).rows.length = attachCount t ops := by
  rw [c02_order dw ops hv t, attachedFrom_length]

/-- a row reports its own 1-based position (`Row.Location().Row`) -/
theorem c02_row_location {w : World} (hinv : Inv w) (t i rid : Nat) (hi : (w.table t).rows[i]? = some rid) :
    (w.row rid).rowNum = i + 1 := (hinv.att t i rid hi).2

/-! ### column count -/

/-- `NColumns` = max (largest header ever set on the table, widest row attached to it now —
    including cells appended after the row joined). -/
theorem c02_ncols (dw : Measure) (ops : List BuildOp) (hv : Valid ops = true) (t : Nat) :
    ((run dw ops).table t).nColumns = max (hdrMax t ops) ((run dw ops).rowsMax t) := by
  have := Shape.runFrom_nColumns Shape.sinv_init ops hv t 0
    (by rw [Shape.rowsMax_eq, Shape.table_oob _ _ (Nat.zero_le _)]; rfl)
  rwa [← shape_run dw, shape_table_nColumns, shape_rowsMax, Nat.zero_max] at this

/-- the `resizeColumnsAtLeast` law: each step sets `nColumns` to `max old demand` -/
theorem c02_ncols_step (dw : Measure) {w : World} (hinv : Inv w) (op : BuildOp) (hok : w.shape.ok op = true)
    (t : Nat) :
    ((applyOp dw w op).table t).nColumns = max (w.table t).nColumns (w.shape.demand t op) := by
  have := Shape.step_nColumns hinv op hok t
  rwa [← shape_applyOp dw, shape_table_nColumns, shape_table_nColumns] at this

/-- so `NColumns` never decreases -/
theorem c02_ncols_mono (dw : Measure) {w : World} (hinv : Inv w) (op : BuildOp) (hok : w.shape.ok op = true)
    (t : Nat) : (w.table t).nColumns ≤ ((applyOp dw w op).table t).nColumns := by
  rw [c02_ncols_step dw hinv op hok t]; omega

/-- `Row.Add` on a row that is already in table `t` grows `t` to the new cell's column -/
theorem c02_ncols_rowadd_attached (dw : Measure) {w : World} (hinv : Inv w) (r i t : Nat) (cs : List Cell)
    (hr : r < w.rows.length) (hc : (w.row r).cells = some cs) (hi : (w.row r).inTable = some t) :
    ((w.rowAdd dw r i).table t).nColumns = max (w.table t).nColumns (cs.length + 1) ∧
    ((w.rowAdd dw r i).rowCells r).length = cs.length + 1 ∧
    Inv (w.rowAdd dw r i) := by
  have hc' : (w.shape.row r).cells = some (cs.map Cell.geo) := by rw [shape_row_cells, hc]; rfl
  refine ⟨?_, ?_, ?_⟩
  · rw [← shape_table_nColumns, shape_rowAdd, Shape.rowAdd_nColumns hinv r t, shape_table_nColumns]
    unfold Shape.addDemand
    rw [hc', shape_row_inTable, hi]
    dsimp only
    rw [if_pos rfl, List.length_map]
  · rw [← shape_width, shape_rowAdd, Shape.rowAdd_width_self w.shape r (cs.map Cell.geo)
      (by rw [shape_rows_length]; exact hr) hc', List.length_map]
  · -- an attached row is no header, so `Row.Add` on it is a valid step
    unfold Inv
    rw [shape_rowAdd]
    refine Shape.SInv.rowAdd hinv r fun t' e => ?_
    have := Shape.SInv.hdrFree hinv t' r e
    rw [shape_row_inTable, hi] at this; cases this

/-- attached rows and the header are never wider than `NColumns` -/
theorem c02_ncols_ge {w : World} (hinv : Inv w) (t : Nat) :
    (∀ r ∈ (w.table t).rows, (w.rowCells r).length ≤ (w.table t).nColumns) ∧
    (∀ hd, (w.table t).header = some hd → (w.rowCells hd).length ≤ (w.table t).nColumns) :=
  ⟨fun r hm => hinv.wid t r hm, fun hd hh => hinv.hwid t hd hh⟩

/-! ### cell addressing -/

/-- `CellAt (r,c)` succeeds exactly when `1 ≤ r ≤ NRows`, the r-th row has a cell slice (it is
    not a separator or zero-value row) and `1 ≤ c ≤` its length; the result is the c-th cell
    of the r-th row.  In every other case the result is the no-such-cell error (`none`). -/
theorem c02_cellat (w : World) (t : Nat) (r c : Int) (rid j : Nat) :
    w.cellAt t r c = some (rid, j) ↔
      (1 ≤ r ∧ r ≤ (w.table t).rows.length ∧ (w.table t).rows[r.toNat - 1]? = some rid ∧
        ∃ cs, (w.row rid).cells = some cs ∧ 1 ≤ c ∧ c ≤ cs.length ∧ j = c.toNat - 1) := by
  unfold cellAt
  constructor
  · -- the only branch of the definition that returns a cell
    intro h
    simp only at h
    split at h
    · cases h
    · rename_i hb
      split at h
      · cases h
      · rename_i rid' hrow
        split at h
        · cases h
        · rename_i cs hc
          split at h
          · cases h
          · rename_i hcl
            cases h
            exact ⟨Int.not_lt.mp fun h => hb (.inl h), Int.not_lt.mp fun h => hb (.inr (.inr h)), hrow, cs, hc,
              Int.not_lt.mp fun h => hb (.inr (.inl h)), Int.not_lt.mp hcl, rfl⟩
  · rintro ⟨h1, h2, hrow, cs, hc, h3, h4, rfl⟩
    have hb : ¬(r < 1 ∨ c < 1 ∨ r > ((w.table t).rows.length : Int)) := fun hb =>
      hb.elim (Int.not_lt.mpr h1) fun hb => hb.elim (Int.not_lt.mpr h3) (Int.not_lt.mpr h2)
    simp only
    rw [if_neg hb, hrow]
    simp only
    rw [hc]
    simp only
    rw [if_neg (Int.not_lt.mpr h4)]

/-- out-of-range coordinates give the no-such-cell error -/
theorem c02_cellat_out_of_range (w : World) (t : Nat) (r c : Int)
    (h : r < 1 ∨ c < 1 ∨ r > (w.table t).rows.length) : w.cellAt t r c = none := by
  unfold cellAt; simp only; rw [if_pos h]

/-- a separator row gives the no-such-cell error for every column -/
theorem c02_cellat_separator {w : World} (hinv : Inv w) (t : Nat) (r c : Int) (rid : Nat)
    (hrow : (w.table t).rows[r.toNat - 1]? = some rid) (hs : (w.row rid).isSep = true) :
    w.cellAt t r c = none := by
  unfold cellAt; simp only
  split
  · rfl
  · rw [hrow]; simp only; rw [hinv.sep rid hs]

/-- a 1-based Go coordinate, to a 0-based index and back -/
theorem toNat_pred_succ {x : Int} (h : 1 ≤ x) : ((x.toNat - 1 + 1 : Nat) : Int) = x := by omega

/-- the cell `CellAt (r,c)` returns exists and its own `Location()` is `(r,c)` -/
theorem c02_cellat_location {w : World} (hinv : Inv w) (t : Nat) (r c : Int) (rid j : Nat)
    (h : w.cellAt t r c = some (rid, j)) :
    ∃ ce, w.cell? rid j = some ce ∧
      ((w.cellLocation ce).1 : Int) = r ∧ ((w.cellLocation ce).2 : Int) = c := by
  obtain ⟨h1, h2, hrow, cs, hc, h3, h4, hj⟩ := (c02_cellat w t r c rid j).mp h
  have hcn : ((j + 1 : Nat) : Int) = c := hj ▸ toNat_pred_succ h3
  have hjl : j < cs.length := Int.ofNat_lt.mp (Int.lt_of_lt_of_le (hcn ▸ Int.lt_succ j) h4)
  have hce : cs[j]? = some cs[j] := List.getElem?_eq_getElem hjl
  obtain ⟨hcol, hin⟩ := hinv.geo rid cs j cs[j] hc hce
  refine ⟨cs[j], ?_, ?_, ?_⟩
  · unfold cell? rowCells; rw [hc]; exact hce
  · unfold cellLocation
    simp only [hin, (hinv.att t _ rid hrow).2]
    exact toNat_pred_succ h1
  · unfold cellLocation
    simp only [hcol]
    exact hcn

/-! ### column handles -/

/-- `Column(n)` is non-nil exactly for `0 ≤ n ≤ NColumns` … -/
theorem c02_columns (w : World) (t : Nat) (n : Int) :
    w.hasColumn t n = true ↔ (0 ≤ n ∧ n ≤ (w.table t).nColumns) := by
  unfold hasColumn
  simp only [Bool.not_eq_true', Bool.or_eq_false_iff, decide_eq_false_iff_not]
  omega

/-- … and for exactly those `n` the column record it returns exists (`t.columns[n]` is in range) -/
theorem c02_column_handle {w : World} (hinv : Inv w) (t n : Nat) :
    (w.column? t n).isSome = true ↔ n ≤ (w.table t).nColumns := by
  unfold column?
  have := hinv.cols t
  by_cases hn : n < (w.table t).columns.length
  · rw [List.getElem?_eq_getElem hn]; simp; omega
  · rw [List.getElem?_eq_none (by omega)]; simp; omega

/-! ### the row list handed out is a value -/

/-- `AllRows()` in the model -/
def World.allRows (w : World) (t : Nat) : List Nat := (w.table t).rows

/-- Observers return values and never a new world: whatever the caller does to the list it
    got (`scribble`), the table's list is what it was.  (In the model this is true by
    construction; that the Go code really copies the slice is checked by the differential
    harness, which overwrites the returned slice and re-observes.) -/
theorem c02_allrows_copy (w : World) (t : Nat) (scribble : List Nat → List Nat) :
    let got := w.allRows t
    let _mutated := scribble got
    w.allRows t = got ∧ (w.table t).rows = got := ⟨rfl, rfl⟩

/-! ### what the renderers read (structural half of C09) -/

/-- Under the invariant the render view is well formed: header and every non-separator row
    have at most `ncols` cells, and the per-column property lists have `ncols + 1` entries. -/
theorem c02_view_wf {w : World} (hinv : Inv w) (t : Nat) (_ht : t < w.tables.length) :
    WFShape (w.view t) ∧ (w.view t).colAlign.length = (w.view t).ncols + 1 ∧
      (w.view t).colSkip.length = (w.view t).ncols + 1 := view_wf hinv t

/-- …and so is the view every renderer actually uses, taken after the callbacks pass. -/
theorem c02_view_wf_after_callbacks (dw : Measure) {w : World} (hinv : Inv w) (t : Nat)
    (_ht : t < w.tables.length) :
    let w' := invokeRenderCallbacks dw w t
    Inv w' ∧ WFShape (w'.view t) ∧ (w'.view t).colAlign.length = (w'.view t).ncols + 1 ∧
      (w'.view t).colSkip.length = (w'.view t).ncols + 1 :=
  ⟨c02_inv_render dw hinv t, view_wf (c02_inv_render dw hinv t) t⟩

/-- the view's dimensions are the table's: one entry per row, `none` exactly for separators -/
theorem c02_view_rows (w : World) (t : Nat) :
    (w.view t).ncols = (w.table t).nColumns ∧ (w.view t).rows.length = (w.table t).rows.length ∧
    ∀ (i rid : Nat), (w.table t).rows[i]? = some rid →
      ∃ v, (w.view t).rows[i]? = some v ∧ (v = none ↔ (w.row rid).isSep = true) := by
  refine ⟨rfl, by simp [view], ?_⟩
  intro i rid hi
  simp only [view, List.getElem?_map, hi, Option.map_some]
  refine ⟨_, rfl, ?_⟩
  split <;> simp_all

/-! ### non-vacuity: a history exercising every building call, and the theorems on it -/

/-- one table; a cell callback; headers; a full row; a separator; a pre-built row attached
    and then extended past the column count; a zero-value row (on which `Add` only records
    an error) attached; an empty appended row; a render; headers set again, shorter. -/
def exHist : List BuildOp :=
  [ .newTable,
    .regCb (.table 0) .add .cell (.setProp 7 (.user 1) (some (.user 2))),
    .addHeaders 0 [0, 1],            -- row id 0
    .addRowItems 0 [0, 1, 2],        -- row id 1
    .addSeparator 0,                 -- row id 2
    .newRow,                         -- row id 3
    .rowAdd 3 5,
    .addRow 0 3,
    .rowAdd 3 6, .rowAdd 3 6, .rowAdd 3 6,
    .zeroRow,                        -- row id 4
    .rowAdd 4 1,
    .addRow 0 4,
    .appendNewRow 0,                 -- row id 5
    .render 0,
    .addHeaders 0 [0] ]              -- row id 6

theorem exHist_valid : Valid exHist = true := by decide

theorem exHist_inv (dw : Measure) : Inv (run dw exHist) := c02_inv_run dw exHist exHist_valid

/-- the history is valid … -/
example : Valid exHist = true := exHist_valid
/-- … while attaching a row twice, adding to a header row, or naming a missing table is not -/
example : Valid [.newTable, .newRow, .addRow 0 0, .addRow 0 0] = false := by decide
example : Valid [.newTable, .addHeaders 0 [1], .rowAdd 0 1] = false := by decide
example : Valid [.addSeparator 0] = false := by decide

/-- the shape the history builds (by evaluation of the reference machine) -/
theorem c02_ex_shape (dw : Measure) : (run dw exHist).shape =
    { tables := [{ header := some 6, rows := [1, 2, 3, 4, 5], nColumns := 4, nColRecs := 5 }],
      rows := [{ cells := some [(1, some 0), (2, some 0)] },
               { cells := some [(1, some 1), (2, some 1), (3, some 1)], inTable := some 0, rowNum := 1 },
               { cells := none, inTable := some 0, isSep := true, rowNum := 2 },
               { cells := some [(1, some 3), (2, some 3), (3, some 3), (4, some 3)], inTable := some 0, rowNum := 3 },
               { cells := none, inTable := some 0, rowNum := 4 },
               { cells := some [], inTable := some 0, rowNum := 5 },
               { cells := some [(1, some 6)] }] } := by
  rw [shape_run]; decide

example (dw : Measure) : Inv (run dw exHist) := exHist_inv dw

-- c02_order / c02_nrows / c02_ncols on the example: five rows in insertion order, four columns
example (dw : Measure) : ((run dw exHist).table 0).rows = [1, 2, 3, 4, 5] := by
  rw [c02_order dw exHist exHist_valid]; decide
example (dw : Measure) : ((run dw exHist).table 0).rows.length = 5 := by
  rw [c02_nrows dw exHist exHist_valid]; decide
example : hdrMax 0 exHist = 2 := by decide
example (dw : Measure) : ((run dw exHist).table 0).nColumns = 4 := by
  rw [← shape_table_nColumns, c02_ex_shape]; decide
example (dw : Measure) : (run dw exHist).rowsMax 0 = 4 := by
  rw [← shape_rowsMax, c02_ex_shape]; decide

/-- facts about the example world used to discharge hypotheses below -/
theorem c02_ex_facts (dw : Measure) :
    let w := run dw exHist
    w.tables.length = 1 ∧ w.rows.length = 7 ∧
    (w.table 0).rows = [1, 2, 3, 4, 5] ∧ (w.table 0).header = some 6 ∧
    (w.row 2).isSep = true ∧ (w.row 3).inTable = some 0 ∧
    (∃ cs, (w.row 3).cells = some cs ∧ cs.length = 4) := by
  intro w
  have hs := c02_ex_shape dw
  have e3 : (w.shape.row 3).cells = some [(1, some 3), (2, some 3), (3, some 3), (4, some 3)] := by
    rw [hs]; decide
  refine ⟨?_, ?_, ?_, ?_, ?_, ?_, ?_⟩
  · rw [← shape_tables_length, hs]; decide
  · rw [← shape_rows_length, hs]; decide
  · rw [← shape_table_rows, hs]; decide
  · rw [← shape_table_header, hs]; decide
  · rw [← shape_row_isSep, hs]; decide
  · rw [← shape_row_inTable, hs]; decide
  · rw [shape_row_cells] at e3
    cases hc : (w.row 3).cells with
    | none => rw [hc] at e3; cases e3
    | some cs =>
      rw [hc] at e3
      simp only [Option.map_some, Option.some.injEq] at e3
      exact ⟨cs, rfl, by simpa using congrArg List.length e3⟩

-- hypotheses of c02_inv_step / c02_order_step / c02_ncols_step / c02_ncols_mono
example (dw : Measure) : (run dw exHist).shape.ok (.rowAdd 3 0) = true := by rw [c02_ex_shape]; decide
example (dw : Measure) : (run dw exHist).shape.ok (.addRow 0 6) = false := by rw [c02_ex_shape]; decide
example (dw : Measure) : ((applyOp dw (run dw exHist) (.rowAdd 3 0)).table 0).nColumns = 5 := by
  rw [c02_ncols_step dw (exHist_inv dw) _ (by rw [c02_ex_shape]; decide), c02_ex_shape,
    ← shape_table_nColumns, c02_ex_shape]
  decide

-- hypotheses of c02_inv_attached / c02_row_location / c02_inv_back / c02_inv_header /
-- c02_cellat_separator / c02_ncols_rowadd_attached / c02_view_wf
example (dw : Measure) : ((run dw exHist).row 3).rowNum = 3 := by
  have h := c02_ex_facts dw
  exact c02_row_location (exHist_inv dw) 0 2 3 (by rw [h.2.2.1]; rfl)
example (dw : Measure) : 3 ∈ ((run dw exHist).table 0).rows :=
  c02_inv_back (exHist_inv dw) 3 0 (c02_ex_facts dw).2.2.2.2.2.1
example (dw : Measure) : ((run dw exHist).row 6).inTable = none :=
  (c02_inv_header (exHist_inv dw) 0 6 (c02_ex_facts dw).2.2.2.1).2.1
example (dw : Measure) : (run dw exHist).cellAt 0 2 1 = none := by
  have h := c02_ex_facts dw
  exact c02_cellat_separator (exHist_inv dw) 0 2 1 2 (by rw [h.2.2.1]; rfl) h.2.2.2.2.1
example (dw : Measure) : (run dw exHist).cellAt 0 3 4 = some (3, 3) := by
  have h := c02_ex_facts dw
  obtain ⟨cs, hc, hl⟩ := h.2.2.2.2.2.2
  exact (c02_cellat _ 0 3 4 3 3).mpr
    ⟨by omega, by rw [h.2.2.1]; decide, by rw [h.2.2.1]; rfl, cs, hc, by omega, by rw [hl]; decide, rfl⟩
example (dw : Measure) : ∃ ce, (run dw exHist).cell? 3 3 = some ce ∧
    (((run dw exHist).cellLocation ce).1 : Int) = 3 ∧ (((run dw exHist).cellLocation ce).2 : Int) = 4 := by
  have h := c02_ex_facts dw
  obtain ⟨cs, hc, hl⟩ := h.2.2.2.2.2.2
  exact c02_cellat_location (exHist_inv dw) 0 3 4 3 3
    ((c02_cellat _ 0 3 4 3 3).mpr
      ⟨by omega, by rw [h.2.2.1]; decide, by rw [h.2.2.1]; rfl, cs, hc, by omega, by rw [hl]; decide, rfl⟩)
example (dw : Measure) : ((run dw exHist).cell? 3 3).isSome = true := by
  have h := c02_ex_facts dw
  obtain ⟨cs, hc, hl⟩ := h.2.2.2.2.2.2
  unfold cell? rowCells; rw [hc]
  have : 3 < cs.length := by omega
  simp [this]
example (dw : Measure) : (((run dw exHist).rowAdd dw 3 0).table 0).nColumns = 5 := by
  have h := c02_ex_facts dw
  obtain ⟨cs, hc, hl⟩ := h.2.2.2.2.2.2
  rw [(c02_ncols_rowadd_attached dw (exHist_inv dw) 3 0 0 cs
    (by rw [h.2.1]; decide) hc h.2.2.2.2.2.1).1, hl, ← shape_table_nColumns, c02_ex_shape]
  decide
example (dw : Measure) : WFShape ((run dw exHist).view 0) :=
  (c02_view_wf (exHist_inv dw) 0 (by rw [(c02_ex_facts dw).1]; decide)).1
example (dw : Measure) : WFShape ((invokeRenderCallbacks dw (run dw exHist) 0).view 0) :=
  (c02_view_wf_after_callbacks dw (exHist_inv dw) 0 (by rw [(c02_ex_facts dw).1]; decide)).2.1

end Tab
