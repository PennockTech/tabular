/-
  C13x — C13 for ARBITRARY callbacks (no `LogOnlyAll` hypothesis).

  In the model a `.setProp id k v` callback only rewrites its target's property chain, a `.fail id e`
  callback only appends an error through its taker, and the two measuring callbacks only write their
  private property keys (or report "not a cell"); none touches a callback set, the structure, or the
  event log beyond its own event.  So the event trace of a pass is the documented list whatever the
  callbacks are.  `userEvents`, `expectedRenderAny`, `expectedAddRowAny`, `expectedAddHeadersAny`,
  `UniqueAny`, `SameSkeleton`, `SoleWriter` are in `Tabmodel/Proofs/C13xSpec.lean` (definitions only);
  slots, `cbsAt`, `renderTargets`, the linked states &c. are those of C13 (`Proofs/C13Spec.lean`).
  The shape part of the frame statements rests on `shape_setProp` / `shape_addErrTo`
  (`Proofs/WorldShape.lean`, as in `c02_render_keeps_shape`).
-/
import Tabmodel.Proofs.C13xAdd
import Tabmodel.Proofs.C13Once
import Tabmodel.Proofs.C13xLive
import Tabmodel.Props.C13
namespace Tab
open World C13 C13x

/-! ## Render order -/

/-- One render pass in ANY world appends exactly the documented list (every user callback leaves its
    event; the measuring callbacks leave none). -/
theorem c13x_render_order (dw : Measure) (w : World) (t : Nat) :
    (invokeRenderCallbacks dw w t).events = w.events ++ expectedRenderAny w t :=
  (invokeRenderCallbacks_any dw w t).events

/-- ... and leaves every callback set, the structural skeleton (`World.shape`) and the number of
    caller-held cell values as they were.  Only properties, error containers and the log can differ. -/
theorem c13x_render_frame (dw : Measure) (w : World) (t : Nat) :
    SameSkeleton (invokeRenderCallbacks dw w t) w :=
  (invokeRenderCallbacks_any dw w t).same

/-- What `SameSkeleton` gives, spelled out: callback lists, header, row lists, column counts, cell
    counts, each cell's (`columnNum`, `inRow`), each row's `inTable`, `columnOfTable`, and which
    objects exist. -/
theorem c13x_skeleton_obs {w' w : World} (h : SameSkeleton w' w) :
    (∀ s tm, w'.cbsAt s tm = w.cbsAt s tm) ∧
    (∀ t, (w'.table t).header = (w.table t).header ∧ (w'.table t).rows = (w.table t).rows ∧
      (w'.table t).nColumns = (w.table t).nColumns ∧ (w'.table t).columns.length = (w.table t).columns.length) ∧
    (∀ r, (w'.rowCells r).length = (w.rowCells r).length ∧ (w'.row r).inTable = (w.row r).inTable) ∧
    (∀ r c, (w'.cell? r c).map Cell.geo = (w.cell? r c).map Cell.geo ∧ w'.columnOf r c = w.columnOf r c) ∧
    (∀ o, w.hasObj o → w'.hasObj o) :=
  ⟨same_cbsAt h,
   fun t => ⟨same_header h t, same_rows h t, same_nColumns h t, same_ncolrecs h t⟩,
   fun r => ⟨same_rowCells_length h r, same_inTable h r⟩,
   fun r c => ⟨same_cell_geo h r c, same_columnOf h r c⟩,
   hasObj_same h⟩

/-- The documented list depends on callback sets and skeleton only; so every further pass appends the
    same list again. -/
theorem c13x_render_order_twice (dw : Measure) (w : World) (t : Nat) :
    (invokeRenderCallbacks dw (invokeRenderCallbacks dw w t) t).events =
      w.events ++ expectedRenderAny w t ++ expectedRenderAny w t := by
  rw [c13x_render_order, c13x_render_order, expectedRenderAny_same (c13x_render_frame dw w t)]

/-- In a log-only world the list is the one of `c13_render_order`. -/
theorem c13x_agrees (w : World) (t : Nat) (h : LogOnlyAll w) : expectedRenderAny w t = expectedRender w t :=
  expectedRenderAny_log (logOnlyAll_at h) t

/-- Induction principle for a pass: a predicate on (world, events so far) that holds initially and is
    kept by invoking any callback registered in `w` on any target, in a world with `w`'s callback sets
    and skeleton, holds at the end with the documented list. -/
theorem c13x_pass_induction (dw : Measure) (w : World) (t : Nat) (J : World → List Event → Prop)
    (h0 : J w [])
    (hstep : ∀ w' es cb tgt tk, SameSkeleton w' w → (∃ s tm, cb ∈ w.cbsAt s tm) → J w' es →
      J (invokeOne dw w' cb tgt tk) (es ++ userEvents [cb] tgt)) :
    J (invokeRenderCallbacks dw w t) (expectedRenderAny w t) :=
  (invokeRenderCallbacks_any dw w t J hstep h0).inv

/-! ## Once per target -/

theorem c13x_unique_check {w : World} {id : Nat} {s : CbSlot} {tm : Time} (h : uniqueAnyB w id s tm = true) :
    UniqueAny w id s tm := by
  simp only [uniqueAnyB, Bool.and_eq_true, beq_iff_eq] at h
  refine ⟨h.1, fun s' tm' hm => ?_⟩
  have := cbsAt_check (fun s' tm' cbs => !(userIds cbs).contains id || (s' == s && tm' == tm)) (fun _ _ => rfl)
    h.2 s' tm'
  simpa [hm] using this

/-- The whole matrix, for any callbacks: a user callback that is the only one with its id, registered
    in slot `s` at time `tm`, is invoked during one pass over `t` exactly on `renderTargets w t s tm`,
    in that order; the count of `⟨id, tgt⟩` grows by the number of occurrences of `tgt` there, which is
    1 or 0 when no row is visited twice. -/
theorem c13x_once (dw : Measure) (w : World) (t id : Nat) (s : CbSlot) (tm : Time) (tgt : Target)
    (hu : UniqueAny w id s tm) :
    (expectedRenderAny w t).filter (fun e => e.cb == id) = (renderTargets w t s tm).map (fun x => ⟨id, x⟩) ∧
    (invokeRenderCallbacks dw w t).events.count ⟨id, tgt⟩ =
      w.events.count ⟨id, tgt⟩ + (renderTargets w t s tm).count tgt ∧
    ((renderRows w t).Nodup →
      (invokeRenderCallbacks dw w t).events.count ⟨id, tgt⟩ =
        w.events.count ⟨id, tgt⟩ + if tgt ∈ renderTargets w t s tm then 1 else 0) := by
  have hproj : evOf id (expectedRenderAny w t) = (renderTargets w t s tm).map (fun x => ⟨id, x⟩) :=
    evOf_expectedRenderOf (ev := userEvents) (evOf_unique hu.1 hu.2) (fun _ => rfl) t
  have hcount : (invokeRenderCallbacks dw w t).events.count ⟨id, tgt⟩ =
      w.events.count ⟨id, tgt⟩ + (renderTargets w t s tm).count tgt := by
    rw [c13x_render_order dw w t, List.count_append, count_of_evOf hproj]
  exact ⟨hproj, hcount, fun hnd => by rw [hcount, (renderTargets_nodup s tm hnd).count]⟩

/-! ## Add-time order -/

/-- `Row.Add`, any callbacks: the row's own add-time cell callbacks on the new cell, and nothing else
    happens to the linked state's callback sets and skeleton. -/
theorem c13x_add_order_rowAddCell (dw : Measure) (w : World) (r : Nat) (ce : Cell) (cs : List Cell)
    (hcs : (w.row r).cells = some cs) :
    (rowAddCell dw w r ce).events = w.events ++ userEvents (w.cbsAt (.rowCell r) .add) (.cell r cs.length) ∧
    SameSkeleton (rowAddCell dw w r ce) (rowAddLinked w r ce cs) := by
  have h := rowAddCell_any dw w r ce cs hcs
  exact ⟨by rw [h.events, rowAddLinked_events], h.same⟩

/-- `AddRow`, any callbacks (events evaluated in the linked state, whose callback sets are `w`'s). -/
theorem c13x_add_order_addRow (dw : Measure) (w : World) (t r : Nat) :
    (addRow dw w t r).events = w.events ++ expectedAddRowAny (addRowLinked w t r) t r ∧
    SameSkeleton (addRow dw w t r) (addRowLinked w t r) ∧
    (∀ s tm, (addRowLinked w t r).cbsAt s tm = w.cbsAt s tm) := by
  have h := addRow_any dw w t r
  exact ⟨h.events, h.same, fun s tm => by simp only [World.cbsAt, cbSet_addRowLinked]⟩

/-- `AddRow` of a well-formed row to an existing table, in terms of the world before the call. -/
theorem c13x_add_order_addRow_wf (dw : Measure) (w : World) (t r : Nat)
    (ht : t < w.tables.length) (hr : r < w.rows.length) (hwf : RowAddWF w r) :
    (addRow dw w t r).events = w.events ++ expectedAddRowAnyWF w t r := by
  rw [(c13x_add_order_addRow dw w t r).1, expectedAddRowAny_wf ht hr hwf]

/-- `AddHeaders`, any callbacks: the table's row callbacks on the header row, then per header cell the
    table's cell callbacks (no column-level callbacks: the header row is not `inTable`). -/
theorem c13x_add_order_addHeaders (dw : Measure) (w : World) (t : Nat) (items : List Nat) :
    (addHeaders dw w t items).events = w.events ++ expectedAddHeadersAny w t items ∧
    SameSkeleton (addHeaders dw w t items) (addHeadersLinked dw w t items) :=
  ⟨(addHeaders_any dw w t items).events, (addHeaders_any dw w t items).same⟩

/-- The three add-time event-list equations together, for every world. -/
theorem c13x_add_order (dw : Measure) (w : World) :
    (∀ r ce cs, (w.row r).cells = some cs →
      (rowAddCell dw w r ce).events = w.events ++ userEvents (w.cbsAt (.rowCell r) .add) (.cell r cs.length)) ∧
    (∀ t r, (addRow dw w t r).events = w.events ++ expectedAddRowAny (addRowLinked w t r) t r) ∧
    (∀ t items, (addHeaders dw w t items).events = w.events ++ expectedAddHeadersAny w t items) :=
  ⟨fun r ce cs hcs => (c13x_add_order_rowAddCell dw w r ce cs hcs).1,
   fun t r => (c13x_add_order_addRow dw w t r).1,
   fun t items => (c13x_add_order_addHeaders dw w t items).1⟩

/-! ## Live object -/

/-- Through one `invokePropertyCallbacks` call (a list of callbacks on one existing target): if the
    last callback of the list that may write key `k` is `.setProp id k (some v)`, then afterwards `k`
    reads `v` on the target.  (`Cb.writes`: `.setProp _ k' _` writes `k'`; `dimSetter` writes
    texttable's two private keys, `widthSetter` markdown's; `.log`, `.fail` write nothing.) -/
theorem c13x_live_all (dw : Measure) (w : World) (pre post : List Cb) (id : Nat) (k : Key) (v : Val)
    (tgt : Target) (tk : Taker) (h : w.hasObj tgt) (hpost : ∀ cb ∈ post, cb.writes k = false) :
    (invoke dw w (pre ++ [.setProp id k (some v)] ++ post) tgt tk).getProp tgt k = some v :=
  getProp_invoke_last_writer dw w pre post id k v tgt tk h hpost

/-- A callback that cannot write `k` changes `k` on no object; a `.setProp` changes nothing on any
    object other than its target. -/
theorem c13x_live_frame (dw : Measure) (w : World) (cb : Cb) (tgt : Target) (tk : Taker) (k : Key) (o : Target) :
    (cb.writes k = false → (invokeOne dw w cb tgt tk).getProp o k = w.getProp o k) ∧
    (∀ id k' v, cb = .setProp id k' v → tgt ≠ o → (invokeOne dw w cb tgt tk).getProp o k = w.getProp o k) :=
  ⟨fun hw => getProp_invokeOne_frame dw w cb tgt tk k o (.inl hw),
   fun _ _ _ _ hne => getProp_invokeOne_frame dw w cb tgt tk k o (.inr hne)⟩

theorem c13x_sole_writer_check {w : World} {id : Nat} {k : Key} {v : Val} (h : soleWriterB w id k v = true) :
    SoleWriter w id k v := by
  intro s tm cb hcb hw
  have := cbsAt_check (fun _ _ cbs => cbs.all fun cb =>
    !(cb.id? == some id || cb.writes k) || cb == .setProp id k (some v)) (fun _ _ => rfl) h s tm
  simp only [List.all_eq_true, Bool.or_eq_true, Bool.not_eq_true', Bool.or_eq_false_iff, beq_iff_eq,
    beq_eq_false_iff_ne] at this
  rcases this cb hcb with h' | h'
  · rcases hw with hw | hw
    · exact absurd hw h'.1
    · rw [hw] at h'; cases h'.2
  · exact h'

/-- Over a whole pass: if `.setProp id k (some v)` is the only callback of the world that carries id
    `id` or may write `k`, then after the pass `k` reads `v` on every existing object the callback was
    invoked on (every `tgt` with `⟨id, tgt⟩` in the documented list), and `k` is untouched on every
    object it was not invoked on. -/
theorem c13x_live_pass (dw : Measure) (w : World) (t id : Nat) (k : Key) (v : Val) (hs : SoleWriter w id k v) :
    (∀ tgt, (⟨id, tgt⟩ : Event) ∈ expectedRenderAny w t → w.hasObj tgt →
      (invokeRenderCallbacks dw w t).getProp tgt k = some v) ∧
    (∀ tgt, (⟨id, tgt⟩ : Event) ∉ expectedRenderAny w t →
      (invokeRenderCallbacks dw w t).getProp tgt k = w.getProp tgt k) :=
  (invokeRenderCallbacks_any dw w t _ (liveInv_step dw hs) (liveInv_init w id k v)).inv

/-! ## Non-vacuity: a world with a `.setProp`, a `.fail` and a measuring callback -/

/-- `c13ExBase` (header row 0 = `[a]`, body row 1 = `[a]`) with: `21` = table 0, render time, on cells,
    sets user key 1 to 5; `22` = row 1, pre-cell time, on the row, fails; the texttable measuring
    callback on table cells at render time; `23` = column 1, post-cell time, on cells, logs. -/
def c13xExW : World :=
  let w := c13ExBase
  let w := (w.registerCb (.table 0) .render .cell (.setProp 21 (.user 1) (some (.user 5)))).getD w
  let w := (w.registerCb (.row 1) .pre .itself (.fail 22 77)).getD w
  let w := (w.registerCb (.table 0) .render .cell .dimSetter).getD w
  (w.registerCb (.column 0 1) .post .cell (.log 23)).getD w

example : ¬ LogOnlyAll c13xExW := by decide +kernel
example : expectedRenderAny c13xExW 0 =
    [⟨21, .cell 0 0⟩, ⟨22, .row 1⟩, ⟨21, .cell 1 0⟩, ⟨23, .cell 1 0⟩] := by decide +kernel
example : (invokeRenderCallbacks c13ExDw c13xExW 0).events =
    [⟨21, .cell 0 0⟩, ⟨22, .row 1⟩, ⟨21, .cell 1 0⟩, ⟨23, .cell 1 0⟩] := by decide +kernel
example : UniqueAny c13xExW 21 (.tableCell 0) .render := c13x_unique_check (by decide +kernel)
example : renderTargets c13xExW 0 (.tableCell 0) .render = [.cell 0 0, .cell 1 0] := by decide +kernel
example : renderTargets c13xExW 0 (.colCell 0 1) .post = [.cell 1 0] := by decide +kernel
example : SoleWriter c13xExW 21 (.user 1) (.user 5) := c13x_sole_writer_check (by decide +kernel)
example : c13xExW.hasObj (.cell 0 0) ∧ c13xExW.hasObj (.cell 1 0) := by decide +kernel
example : (invokeRenderCallbacks c13ExDw c13xExW 0).getProp (.cell 1 0) (.user 1) = some (.user 5) ∧
    (invokeRenderCallbacks c13ExDw c13xExW 0).getProp (.row 1) (.user 1) = none := by decide +kernel
/-- the failing callback's error reached the table; the measuring callback wrote its private key -/
example : ((invokeRenderCallbacks c13ExDw c13xExW 0).table 0).errs = [77] ∧
    ((invokeRenderCallbacks c13ExDw c13xExW 0).getProp (.cell 1 0) .ttDims).isSome = true := by decide +kernel
/-- add time with a `.setProp` and a `.fail` callback -/
def c13xExAdd : World :=
  let w := c13ExBase
  let w := (w.registerCb (.table 0) .add .row (.fail 31 78)).getD w
  let w := (w.registerCb (.table 0) .add .cell (.setProp 32 (.user 2) (some (.user 6)))).getD w
  let w := (w.registerCb (.column 0 1) .add .cell (.log 33)).getD w
  let w := (w.newRow {}).1
  let w := (w.registerCb (.row 2) .add .cell (.setProp 34 (.user 3) none)).getD w
  rowAdd c13ExDw w 2 0
example : (c13xExAdd.row 2).cells.isSome = true ∧ 0 < c13xExAdd.tables.length ∧ 2 < c13xExAdd.rows.length ∧
    RowAddWF c13xExAdd 2 := by decide +kernel
example : c13xExAdd.events = [⟨34, .cell 2 0⟩] := by decide +kernel
example : (addRow c13ExDw c13xExAdd 0 2).events =
    [⟨34, .cell 2 0⟩, ⟨31, .row 2⟩, ⟨33, .cell 2 0⟩, ⟨32, .cell 2 0⟩] := by decide +kernel
example : c13xExAdd.events ++ expectedAddRowAnyWF c13xExAdd 0 2 =
    [⟨34, .cell 2 0⟩, ⟨31, .row 2⟩, ⟨33, .cell 2 0⟩, ⟨32, .cell 2 0⟩] := by decide +kernel
example : (addHeaders c13ExDw c13xExAdd 0 [0]).events = [⟨34, .cell 2 0⟩, ⟨31, .row 3⟩, ⟨32, .cell 3 0⟩] := by
  decide +kernel
example : c13xExW.hasObj (.cell 1 0) := by decide +kernel
example : (invoke c13ExDw c13xExW [.log 1, .setProp 2 (.user 9) (some (.user 4)), .fail 3 5, .dimSetter]
    (.cell 1 0) .drop).getProp (.cell 1 0) (.user 9) = some (.user 4) := by decide +kernel

end Tab
