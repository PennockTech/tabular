/-
  C11 — Errors accumulate in the table: none lost, none duplicated, none nil.

  Errors are natural-number ids; Go's nil error is `none : Option Nat`.  An error *list* in the
  model is a `List Nat`: a nil entry is not representable in it, which is the "none nil" part
  of the property once `c11_container` has shown that nil arguments are filtered on the way in.

  Spec definitions used below (defined in `Proofs/C11Defs.lean` because the helper lemmas
  need them; `c11_def_*` restate them, all but `addQuiet` and the traversal): `EC.applyOp`, `EC.opArgs`, `World.mass`,
  `World.live`, `World.unattached`, `World.raises`/`raiseCount`, `World.addQuiet`,
  `World.attachedAll`, and the monitored render traversal `invokeC` … `invokeRenderCallbacksC`.
-/
import Tabmodel.Proofs.C11
namespace Tab
open World

/-! ## Spec definitions, restated -/

theorem c11_def_ops (c : EC) (e : Option Nat) (l : List (Option Nat)) :
    EC.applyOp c (.inl e) = c.addError e ∧ EC.applyOp c (.inr l) = c.addErrorList l ∧
    EC.opArgs (.inl e) = e.toList ∧ EC.opArgs (.inr l) = l.filterMap id := ⟨rfl, rfl, rfl, rfl⟩

/-- error mass: occurrences of `e` in all table lists plus all *own* row containers -/
theorem c11_def_mass (w : World) (e : Nat) :
    mass w e = (w.tables.map (fun tb => tb.errs.count e)).sum
      + (w.rows.map (fun rw => match rw.ec with | .own es => es.count e | _ => 0)).sum := rfl

/-- live takers (the `.drop` taker is never live) -/
theorem c11_def_live (w : World) (t r : Nat) :
    (live w .drop ↔ False) ∧
    (live w (.table t) ↔ t < w.tables.length) ∧
    (live w (.rowOwn r) ↔ ∃ es, (w.row r).ec = .own es) ∧
    (live w (.rowLazy r) ↔ r < w.rows.length ∧ ∀ t, (w.row r).ec = .table t → t < w.tables.length) := by
  refine ⟨Iff.rfl, Iff.rfl, ?_, ?_⟩
  · simp only [live]; cases (w.row r).ec <;> simp
  · simp only [live]; cases (w.row r).ec <;> simp

theorem c11_def_unattached (w : World) (r : Nat) :
    unattached w r ↔ ((w.row r).ec = .none ∨ ∃ es, (w.row r).ec = .own es) := Iff.rfl

/-- the error a callback returns on a target -/
theorem c11_def_raises (tgt : Target) (id e : Nat) (k : Key) (v : Option Val) :
    raises tgt (.log id) = none ∧ raises tgt (.setProp id k v) = none ∧
    raises tgt (.fail id e) = some e ∧
    raises tgt .dimSetter = (match tgt with | .cell _ _ => none | _ => some errTTNotCell) ∧
    raises tgt .widthSetter = (match tgt with | .cell _ _ => none | _ => some errMDNotCell) :=
  ⟨rfl, rfl, rfl, rfl, rfl⟩

theorem c11_def_raiseCount (tgt : Target) (e : Nat) (cbs : List Cb) :
    raiseCount tgt e cbs = (cbs.filter (fun cb => raises tgt cb == some e)).length := rfl

theorem c11_def_attachedAll (w : World) (t : Nat) :
    attachedAll w t ↔ (t < w.tables.length ∧
      (∀ r ∈ (w.table t).rows, (w.row r).ec = .table t) ∧
      (∀ hr ∈ (w.table t).header, (w.row hr).ec = .table t)) := Iff.rfl

/-- number of `.fail _ e` entries of a callback list -/
def failCount (e : Nat) (cbs : List Cb) : Nat :=
  (cbs.filter (fun cb => match cb with | .fail _ e' => e' == e | _ => false)).length

/-! ## Container level (`error_containers.go`) -/

/-- Any sequence of `AddError` / `AddErrorList` calls on a container holding `es₀` (constructed
    or zero value: `es₀ = []`) leaves it holding `es₀` followed by exactly the non-nil arguments,
    in order; on a nil container every call is a no-op. -/
theorem c11_container (c : EC) (ops : List ECOp) :
    (∀ es₀, c = some es₀ → ops.foldl EC.applyOp c = some (es₀ ++ ops.flatMap EC.opArgs)) ∧
    (c = none → ops.foldl EC.applyOp c = none) := by
  constructor
  · intro es₀ hc
    subst hc
    induction ops generalizing es₀ with
    | nil => simp
    | cons op ops ih =>
      have h1 : EC.applyOp (some es₀) op = some (es₀ ++ EC.opArgs op) := by
        cases op with
        | inl e => cases e <;> simp [EC.applyOp, EC.opArgs, EC.addError]
        | inr l => simp [EC.applyOp, EC.opArgs, EC.addErrorList]
      simp only [List.foldl_cons, h1, ih, List.flatMap_cons, List.append_assoc]
  · intro hc
    subst hc
    induction ops with
    | nil => rfl
    | cons op ops ih =>
      have h1 : EC.applyOp none op = none := by
        cases op with
        | inl e => cases e <;> rfl
        | inr l => rfl
      simp only [List.foldl_cons, h1, ih]

/-- `Errors()` is nil or a non-empty list, never an empty non-nil list; it is nil exactly when
    the container is nil or holds nothing; otherwise it is the content.  Entries are plain ids:
    the list type `List Nat` has no nil entry. -/
theorem c11_errors_view (c : EC) :
    (EC.errors c = none ∨ ∃ l, EC.errors c = some l ∧ l ≠ []) ∧
    EC.errors c ≠ some [] ∧
    (EC.errors c = none ↔ (c = none ∨ c = some [])) ∧
    (∀ l, EC.errors c = some l → c = some l) := by
  cases c with
  | none => simp [EC.errors]
  | some es => cases es <;> simp [EC.errors]

/-- the two together: what `Errors()` shows after any history on a non-nil container -/
theorem c11_container_view (es₀ : List Nat) (ops : List ECOp) :
    EC.errors (ops.foldl EC.applyOp (some es₀)) =
      if es₀ ++ ops.flatMap EC.opArgs = [] then none else some (es₀ ++ ops.flatMap EC.opArgs) := by
  rw [(c11_container (some es₀) ops).1 es₀ rfl]
  generalize es₀ ++ ops.flatMap EC.opArgs = l
  cases l <;> simp [EC.errors]

/-! ## Table level: conservation of error mass -/

/-- An `AddError` through a live taker adds exactly one occurrence of `e` to the world and
    leaves every other id's mass unchanged. -/
theorem c11_raise_once (w : World) (tk : Taker) (e : Nat) (h : live w tk) :
    mass (addErrTo w tk e) e = mass w e + 1 ∧
    ∀ e', e' ≠ e → mass (addErrTo w tk e) e' = mass w e' := by
  constructor
  · simpa using mass_addErrTo w tk e e h
  · intro e' hne; simpa [hne] using mass_addErrTo w tk e e' h

/-- The typed-nil container: `.drop` loses the error.  Among the model's call sites a `.drop`
    taker can only come from `rowECTaker`, and only for a row with no container at all; for a
    row sharing a valid table's container, or owning one, `rowECTaker` is live. -/
theorem c11_raise_drop (w : World) (r : Nat) (e : Nat) :
    addErrTo w .drop e = w ∧
    (rowECTaker w r = .drop ↔ (w.row r).ec = .none) ∧
    (∀ t, (w.row r).ec = .table t → t < w.tables.length → live w (rowECTaker w r)) ∧
    (∀ es, (w.row r).ec = .own es → live w (rowECTaker w r)) := by
  refine ⟨rfl, ?_, ?_, ?_⟩
  · simp only [rowECTaker]; cases (w.row r).ec <;> simp
  · intro t h ht; simp only [rowECTaker, h]; exact ht
  · intro es h; simp only [rowECTaker, h, live]

/-- Attached rows share the table's container: after `addRow` (whatever the callbacks do),
    `addSeparator` and `addHeaders` the row / separator / header row has `ec = .table t`. -/
theorem c11_attached_ec (dw : Measure) (w : World) (t r : Nat) (items : List Nat) :
    (r < w.rows.length → ((addRow dw w t r).row r).ec = .table t) ∧
    ((addSeparator w t).row w.rows.length).ec = .table t ∧
    ((addSeparator w t).row w.rows.length).cells = none ∧
    ((addHeaders dw w t items).row w.rows.length).ec = .table t := by
  refine ⟨?_, ?_, ?_, ?_⟩
  · intro hr
    rw [addRow_eq]
    exact ((addRowCbs_stable dw _ t r).ecT r t).mp (addRowCore_ec w t r hr)
  · exact addSeparator_ec w t
  · simp only [addSeparator, newRow]
    rw [row_modRow_self _ _ _ (by simp)]
    simp only [row_modTable]
    exact congrArg Row.cells (getD_append_length w.rows _ _)
  · refine ((Stable.trans (invoke_stable dw _ _ _ _) (addTimeCells_stable dw t _ _ _ _ _)).ecT _ t).mp ?_
    exact rowAddMany_newRow_ec dw (w.modTable t (fun tb => resizeColumnsAtLeast tb items.length))
      { ec := .table t } items t rfl

/-- `addRow` of a not yet attached row, when every add-time callback only logs (or there are
    none): the row's own errors move to the table exactly once — every id's mass is unchanged —
    the table's list is its old list followed by the row's own errors in order, the row now
    shares the table's container and reports the table's list. -/
theorem c11_attach_conserves (dw : Measure) (w : World) (t r : Nat)
    (ht : t < w.tables.length) (hr : r < w.rows.length) (hu : unattached w r)
    (hq : addQuiet w t r = true) :
    (∀ e, mass (addRow dw w t r) e = mass w e) ∧
    ((addRow dw w t r).table t).errs = (w.table t).errs ++ rowErrors w r ∧
    ((addRow dw w t r).row r).ec = .table t ∧
    rowErrors (addRow dw w t r) r = ((addRow dw w t r).table t).errs ∧
    (∀ t', t' ≠ t → ((addRow dw w t r).table t').errs = (w.table t').errs) ∧
    (∀ r', r' ≠ r → ((addRow dw w t r).row r').ec = (w.row r').ec) := by
  obtain ⟨evs, hev⟩ := addRow_quiet dw w t r hq
  have hec : ((addRow dw w t r).row r).ec = .table t := by
    rw [hev, row_events]; exact addRowCore_ec w t r hr
  refine ⟨?_, ?_, hec, ?_, ?_, ?_⟩
  · intro e; rw [hev, mass_events]; exact addRowCore_mass w t r ht hr hu e
  · rw [hev, table_events]; exact addRowCore_errs w t r ht
  · simp only [rowErrors, hec]
  · intro t' hne; rw [hev, table_events]; exact addRowCore_errs_ne w t r t' (Ne.symm hne)
  · intro r' hne; rw [hev, row_events]; exact addRowCore_ec_ne w t r r' (Ne.symm hne)

/-- `addRow` with arbitrary callbacks: nothing is lost (the mass of every id is at least what it
    was), the table's list starts with its old list followed by the row's own errors in order
    (whatever the callbacks raise comes after), and the row shares the table's container. -/
theorem c11_attach_no_loss (dw : Measure) (w : World) (t r : Nat)
    (ht : t < w.tables.length) (hr : r < w.rows.length) (hu : unattached w r) :
    (∀ e, mass w e ≤ mass (addRow dw w t r) e) ∧
    (∃ l, ((addRow dw w t r).table t).errs = (w.table t).errs ++ rowErrors w r ++ l) ∧
    ((addRow dw w t r).row r).ec = .table t := by
  refine ⟨?_, ?_, (c11_attached_ec dw w t r []).1 hr⟩
  · intro e
    rw [addRow_eq, ← addRowCore_mass w t r ht hr hu e]
    exact mass_le_of_stable (addRowCbs_stable dw _ t r) e
  · rw [addRow_eq]
    obtain ⟨l, hl⟩ := (addRowCbs_stable dw (addRowCore w t r) t r).terrs t
    exact ⟨l, by rw [hl, addRowCore_errs w t r ht]⟩

/-! ## Callbacks -/

/-- A failing callback invoked with a live taker logs one event and adds exactly one `e`;
    a logging callback logs one event and adds nothing. -/
theorem c11_fail_callback (dw : Measure) (w : World) (id e : Nat) (tgt : Target) (tk : Taker)
    (h : live w tk) :
    (mass (invokeOne dw w (.fail id e) tgt tk) e = mass w e + 1 ∧
     (∀ e', e' ≠ e → mass (invokeOne dw w (.fail id e) tgt tk) e' = mass w e') ∧
     (invokeOne dw w (.fail id e) tgt tk).events = w.events ++ [⟨id, tgt⟩]) ∧
    ((∀ e', mass (invokeOne dw w (.log id) tgt tk) e' = mass w e') ∧
     (invokeOne dw w (.log id) tgt tk).events = w.events ++ [⟨id, tgt⟩]) := by
  refine ⟨⟨?_, ?_, ?_⟩, ?_, rfl⟩
  · simpa [raises] using mass_invokeOne dw w (.fail id e) tgt tk e h
  · intro e' hne
    have := mass_invokeOne dw w (.fail id e) tgt tk e' h
    simpa [raises, Ne.symm hne] using this
  · simp only [invokeOne]
    cases tk with
    | drop => rfl
    | table t => rfl
    | rowOwn r => rfl
    | rowLazy r => simp only [addErrTo]; split <;> rfl
  · intro e'; simpa [raises] using mass_invokeOne dw w (.log id) tgt tk e' h

/-- `invokePropertyCallbacks` with a live taker: the mass of `e` grows by exactly the number of
    callbacks of the list that return `e` on this target (all five kinds of callback). -/
theorem c11_invoke_mass (dw : Measure) (w : World) (cbs : List Cb) (tgt : Target) (tk : Taker)
    (e : Nat) (h : live w tk) :
    mass (invoke dw w cbs tgt tk) e = mass w e + raiseCount tgt e cbs :=
  mass_invoke dw w cbs tgt tk e h

/-- … in particular, for user callbacks that log or fail, by the number of `.fail _ e` entries. -/
theorem c11_invoke_mass_fail (dw : Measure) (w : World) (cbs : List Cb) (tgt : Target) (tk : Taker)
    (e : Nat) (h : live w tk)
    (hcbs : cbs.all (fun cb => match cb with | .log _ => true | .fail _ _ => true | _ => false) = true) :
    mass (invoke dw w cbs tgt tk) e = mass w e + failCount e cbs := by
  rw [c11_invoke_mass dw w cbs tgt tk e h]
  have key : ∀ cb : Cb,
      (match cb with | .log _ => true | .fail _ _ => true | _ => false) = true →
      (raises tgt cb == some e) = (match cb with | .fail _ e' => e' == e | _ => false) := by
    intro cb hcb
    cases cb <;> simp [raises] at hcb ⊢
  simp only [raiseCount, failCount]
  congr 2
  apply List.filter_congr
  intro cb hmem
  exact key cb (List.all_eq_true.mp hcbs cb hmem)

/-- A taker that is live when `invoke` starts is live at every callback of the list. -/
theorem c11_live_invoke (dw : Measure) (w : World) (cbs : List Cb) (tgt : Target) (tk : Taker)
    (h : live w tk) (k : Nat) : live (invoke dw w (cbs.take k) tgt tk) tk :=
  live_of_stable (invoke_stable dw w _ tgt tk) tk h

/-- `Row.Add(cell)` on a cell row, attached or not: the row's add-time cell callbacks run with
    the row itself as taker (lazily allocating), so the mass of `e` grows by exactly the number
    of callbacks that return `e` — none is dropped before the row joins a table. -/
theorem c11_add_cell_mass (dw : Measure) (w : World) (r : Nat) (ce : Cell) (cs : List Cell)
    (hc : (w.row r).cells = some cs) (hl : live w (.rowLazy r)) (e : Nat) :
    mass (rowAddCell dw w r ce) e
      = mass w e + raiseCount (.cell r cs.length) e ((w.row r).cellCbs.at .add) := by
  rw [rowAddCell_some dw w r ce cs hc,
    mass_invoke _ _ _ _ _ _ (live_of_stable (rowAddCellPre_stable w r ce cs) _ hl),
    rowAddCellPre_mass, rowAddCellPre_cellCbs]

/-- Every error list is only ever appended to by callback invocations and by `Row.Add`
    (so errors of one source keep their order of occurrence, and nothing recorded is removed
    or duplicated later): table lists and own row containers alike. -/
theorem c11_append_only (dw : Measure) (w : World) (cbs : List Cb) (tgt : Target) (tk : Taker)
    (r : Nat) (ce : Cell) :
    (∀ t', ∃ l, ((invoke dw w cbs tgt tk).table t').errs = (w.table t').errs ++ l) ∧
    (∀ r' es, (w.row r').ec = .own es → ∃ l, ((invoke dw w cbs tgt tk).row r').ec = .own (es ++ l)) ∧
    (∀ t', ∃ l, ((rowAddCell dw w r ce).table t').errs = (w.table t').errs ++ l) ∧
    (∀ r' es, (w.row r').ec = .own es → ∃ l, ((rowAddCell dw w r ce).row r').ec = .own (es ++ l)) :=
  ⟨(invoke_stable dw w cbs tgt tk).terrs, (invoke_stable dw w cbs tgt tk).ecO,
   (rowAddCell_stable dw w r ce).terrs, (rowAddCell_stable dw w r ce).ecO⟩

/-! ## Misuse: adding a cell to a separator / zero-value row -/

/-- `Row.Add` on a row without a cell slice leaves all cells untouched and raises exactly one
    `errNonCellRow` through the row itself. -/
theorem c11_misuse (dw : Measure) (w : World) (r : Nat) (ce : Cell)
    (hc : (w.row r).cells = none) :
    rowAddCell dw w r ce = addErrTo w (.rowLazy r) errNonCellRow ∧
    (∀ r', ((rowAddCell dw w r ce).row r').cells = (w.row r').cells) ∧
    (live w (.rowLazy r) →
      mass (rowAddCell dw w r ce) errNonCellRow = mass w errNonCellRow + 1 ∧
      ∀ e', e' ≠ errNonCellRow → mass (rowAddCell dw w r ce) e' = mass w e') := by
  have h0 : rowAddCell dw w r ce = addErrTo w (.rowLazy r) errNonCellRow := by
    simp only [rowAddCell, hc]
  refine ⟨h0, ?_, ?_⟩
  · intro r'
    rw [h0]
    simp only [addErrTo]
    split
    · refine row_modRow_proj _ _ _ (·.cells) ?_ _; intro _; rfl
    · refine row_modRow_proj _ _ _ (·.cells) ?_ _; intro _; rfl
    · rfl
  · intro hl; rw [h0]; exact c11_raise_once w _ _ hl

/-- … on an attached row (separators carry the table's container) it lands at the end of the
    table's list, which is also what the row reports. -/
theorem c11_misuse_attached (dw : Measure) (w : World) (r t : Nat) (ce : Cell)
    (hc : (w.row r).cells = none) (hec : (w.row r).ec = .table t) (ht : t < w.tables.length) :
    ((rowAddCell dw w r ce).table t).errs = (w.table t).errs ++ [errNonCellRow] ∧
    rowErrors (rowAddCell dw w r ce) r = rowErrors w r ++ [errNonCellRow] ∧
    ((rowAddCell dw w r ce).row r).ec = .table t := by
  have h0 := (c11_misuse dw w r ce hc).1
  have h1 : rowAddCell dw w r ce
      = w.modTable t (fun tb => { tb with errs := tb.errs ++ [errNonCellRow] }) := by
    rw [h0]; simp only [addErrTo, hec]
  have h2 : ((rowAddCell dw w r ce).table t).errs = (w.table t).errs ++ [errNonCellRow] := by
    rw [h1, table_modTable_self _ _ _ ht]
  have h3 : ((rowAddCell dw w r ce).row r).ec = .table t := by rw [h1]; exact hec
  refine ⟨h2, ?_, h3⟩
  simp only [rowErrors, h3, hec, h2]

/-- … on an unattached row it lands in the row's own (lazily created) container, and no
    table's list changes. -/
theorem c11_misuse_unattached (dw : Measure) (w : World) (r : Nat) (ce : Cell)
    (hc : (w.row r).cells = none) (hu : unattached w r) (hr : r < w.rows.length) :
    rowErrors (rowAddCell dw w r ce) r = rowErrors w r ++ [errNonCellRow] ∧
    unattached (rowAddCell dw w r ce) r ∧
    (∀ t, ((rowAddCell dw w r ce).table t).errs = (w.table t).errs) := by
  rw [(c11_misuse dw w r ce hc).1, addErrTo_rowLazy_unattached w r _ hu]
  have h2 := congrArg Row.ec
    (row_modRow_self w r (fun rw => { rw with ec := .own (rowErrors w r ++ [errNonCellRow]) }) hr)
  exact ⟨rowErrors_of_own h2, Or.inr ⟨_, h2⟩, fun _ => rfl⟩

/-- End to end: a cell added to a freshly added separator of a valid table is reported by the
    table, once, at the end of its list. -/
theorem c11_separator_misuse (dw : Measure) (w : World) (t : Nat) (ce : Cell)
    (ht : t < w.tables.length) :
    ((rowAddCell dw (addSeparator w t) w.rows.length ce).table t).errs
      = (w.table t).errs ++ [errNonCellRow] := by
  have h := c11_attached_ec dw w t 0 []
  have ht' : t < (addSeparator w t).tables.length := by
    simp only [addSeparator, newRow, modRow_tables, modTable_tables_length]; exact ht
  rw [(c11_misuse_attached dw (addSeparator w t) w.rows.length t ce h.2.2.1 h.2.1 ht').1]
  congr 1
  simp only [addSeparator, newRow, table_modRow]
  refine table_modTable_proj _ _ _ (·.errs) ?_ _
  intro _; rfl

/-! ## What a row reports -/

/-- An unattached row reports exactly its own errors, and an `AddError` through any taker other
    than this row's own leaves its report unchanged. -/
theorem c11_row_view (w : World) (r : Nat) (hu : unattached w r) :
    (∀ es, (w.row r).ec = .own es → rowErrors w r = es) ∧
    ((w.row r).ec = .none → rowErrors w r = []) ∧
    (∀ tk e, tk ≠ .rowOwn r → tk ≠ .rowLazy r → rowErrors (addErrTo w tk e) r = rowErrors w r) ∧
    (∀ e, r < w.rows.length →
      rowErrors (addErrTo w (.rowLazy r) e) r = rowErrors w r ++ [e]) := by
  refine ⟨?_, ?_, ?_, ?_⟩
  · exact fun es h => rowErrors_of_own h
  · intro h; simp only [rowErrors, h]
  · intro tk e h1 h2
    exact rowErrors_of_ec _ _ _ (addErrTo_ec_ne w tk e r h1 h2) hu
  · intro e hr
    rw [addErrTo_rowLazy_unattached w r e hu]
    exact rowErrors_of_own (congrArg Row.ec (row_modRow_self _ _ _ hr))

/-- … and so does a whole `invoke` whose taker is not this row (callbacks may set properties
    anywhere, including on this row). -/
theorem c11_row_view_invoke (dw : Measure) (w : World) (r : Nat) (hu : unattached w r)
    (cbs : List Cb) (tgt : Target) (tk : Taker) (h1 : tk ≠ .rowOwn r) (h2 : tk ≠ .rowLazy r) :
    rowErrors (invoke dw w cbs tgt tk) r = rowErrors w r ∧ unattached (invoke dw w cbs tgt tk) r := by
  have hec := invoke_ec_ne dw w cbs tgt tk r h1 h2
  exact ⟨rowErrors_of_ec _ _ _ hec hu, unattached_of_ec hec hu⟩

/-! ## Render time: no failing callback's error is lost -/

/-- The monitored traversal is the model's traversal (first component), and its second
    component is the conjunction of `live` for the taker of every `invoke` call made. -/
theorem c11_monitor_faithful (dw : Measure) (c : Chk) (t r n i : Nat)
    (cbs : World → List Cb) (tgt : Target) (tk : World → Taker) :
    (invokeC dw c cbs tgt tk).1 = invoke dw c.1 (cbs c.1) tgt (tk c.1) ∧
    ((invokeC dw c cbs tgt tk).2 ↔ (c.2 ∧ live c.1 (tk c.1))) ∧
    (renderCellsC dw t r n i c).1 = renderCells dw t r n i c.1 ∧
    (renderRowC dw t c r).1 = renderRow dw t c.1 r ∧
    (invokeRenderCallbacksC dw c t).1 = invokeRenderCallbacks dw c.1 t :=
  ⟨rfl, Iff.rfl, renderCellsC_fst dw t r n i c, renderRowC_fst dw t c r,
   invokeRenderCallbacksC_fst dw c t⟩

/-- `InvokeRenderCallbacks` on a table all of whose rows (and header row) share its container:
    every `invoke` call of the whole traversal is given a live taker — the `.drop` taker never
    occurs — and the hypothesis still holds afterwards. -/
theorem c11_no_loss_render (dw : Measure) (w : World) (t : Nat) (h : attachedAll w t) :
    (invokeRenderCallbacksC dw (w, True) t).2 ∧ attachedAll (invokeRenderCallbacks dw w t) t := by
  have := invokeRenderCallbacksC_ok dw t (w, True) ⟨trivial, h⟩
  exact ⟨this.1, invokeRenderCallbacksC_fst dw (w, True) t ▸ this.2⟩

/-- the same for one row (`renderRow`) and for its cells (`renderCells`), needing only that this
    row shares the container of a valid table -/
theorem c11_no_loss_render_row (dw : Measure) (w : World) (t r n i : Nat)
    (ht : t < w.tables.length) (hec : (w.row r).ec = .table t) :
    (renderRowC dw t (w, True) r).2 ∧ (renderCellsC dw t r n i (w, True)).2 :=
  ⟨(renderRowC_okR dw t r (w, True) ⟨trivial, ht, hec⟩).1,
   (renderCellsC_okR dw t r n i (w, True) ⟨trivial, ht, hec⟩).1⟩

/-- Render callbacks only ever append: every table's list after the traversal is its list
    before followed by what was raised (so earlier errors keep their order and multiplicity),
    and which rows share which table's container does not change. -/
theorem c11_render_appends (dw : Measure) (w : World) (t : Nat) :
    (∀ t', ∃ l, ((invokeRenderCallbacks dw w t).table t').errs = (w.table t').errs ++ l) ∧
    (∀ r t', (w.row r).ec = .table t' ↔ ((invokeRenderCallbacks dw w t).row r).ec = .table t') :=
  ⟨(invokeRenderCallbacks_stable dw w t).terrs, (invokeRenderCallbacks_stable dw w t).ecT⟩

/-- The hypothesis of `c11_no_loss_render` is an invariant of the building API: a fresh table
    satisfies it, and `addRow` of an unattached row, `addSeparator`, `addHeaders`, `newRow`,
    `rowAddCell`, callback registration and every callback invocation preserve it (for every
    table `t'` of the world, not only the one operated on). -/
theorem c11_attached_invariant (dw : Measure) (w : World) (t t' r : Nat) (h : attachedAll w t') :
    (attachedAll w.newTable.1 t' ∧ attachedAll w.newTable.1 w.tables.length) ∧
    (∀ rw, attachedAll (w.newRow rw).1 t') ∧
    (t < w.tables.length → r < w.rows.length → unattached w r → attachedAll (addRow dw w t r) t') ∧
    (t < w.tables.length → attachedAll (addSeparator w t) t') ∧
    (∀ items, attachedAll (addHeaders dw w t items) t') ∧
    (∀ ce, attachedAll (rowAddCell dw w r ce) t') ∧
    (∀ owner tm tg cb w', registerCb w owner tm tg cb = some w' → attachedAll w' t') ∧
    (∀ cbs tgt tk, attachedAll (invoke dw w cbs tgt tk) t') :=
  ⟨attachedAll_newTable w t' h,
   fun rw => attachedAll_newRow w rw t' h,
   fun ht hr hu => attachedAll_addRow dw w t r t' ht hr hu h,
   fun _ => attachedAll_addSeparator w t t' h,
   fun items => attachedAll_addHeaders dw w t t' items h,
   fun ce => attachedAll_stable (rowAddCell_stable dw w r ce) t' h,
   fun owner tm tg cb w' hreg => attachedAll_stable (registerCb_stable w w' owner tm tg cb hreg) t' h,
   fun cbs tgt tk => attachedAll_stable (invoke_stable dw w cbs tgt tk) t' h⟩

/-- When no row holds a container of its own (every row is attached, or has never had an
    error), all of the mass is in the tables' lists: the conservation laws above then speak
    about what `Table.Errors()` reports. -/
theorem c11_mass_all_attached (w : World) (e : Nat)
    (h : (w.rows.all fun rw => match rw.ec with | .own _ => false | _ => true) = true) :
    mass w e = (w.tables.map (fun tb => tb.errs.count e)).sum := by
  have : (w.rows.map (ownCount e)).sum = 0 := by
    refine List.sum_eq_zero_iff_forall_eq_nat.mpr (fun x hx => ?_)
    obtain ⟨rw, hrw, rfl⟩ := List.mem_map.mp hx
    have hrw := List.all_eq_true.mp h rw hrw
    cases hec : rw.ec with
    | own es => rw [hec] at hrw; exact absurd hrw Bool.false_ne_true
    | _ => simp only [ownCount, hec]
  simp only [mass, this, Nat.add_zero]

/-! ## Non-vacuity: a concrete history, evaluated by `decide` -/

namespace C11Ex
def dw : Measure := fun b => b.length
def item : Item :=
  { kind := .str [104, 105], mString := none, mGoString := none, mError := none,
    fmtV := [104, 105], mHeight := none, mWidth := none, json := none }
/-- table 0 and an unattached row 0 -/
def w1 : World := (({ items := [item] } : World).newTable.1.newRow {}).1
/-- a failing add-time cell callback on the row, then `Row.AddError(7)`, both before attach -/
def w2 : World := addErrTo ((registerCb w1 (.row 0) .add .cell (.fail 2 8)).getD w1) (.rowLazy 0) 7
/-- `row.Add(cell)`: the callback fails (error 8) into the row's own container -/
def w3 : World := rowAdd dw w2 0 0
/-- attach (all add-time callbacks reachable from `addRow` are absent) -/
def w4 : World := addRow dw w3 0 0
/-- a separator (row 1) and the misuse `sep.Add(cell)` -/
def w5 : World := addSeparator w4 0
def w6 : World := rowAddCell dw w5 1 (newCell dw 0 item)
/-- failing render-time callbacks: on the table itself (taker: the table) and on the cells of
    column 1 (taker: the row's container, i.e. `rowECTaker`) -/
def w7 : World :=
  ((registerCb w6 (.table 0) .pre .itself (.fail 1 42)).bind
    (fun w => registerCb w (.column 0 1) .post .cell (.fail 3 43))).getD w6
def w8 : World := invokeRenderCallbacks dw w7 0
/-- a table-level add-time row callback that fails, for the general attach theorem -/
def w3f : World := (registerCb w3 (.table 0) .add .row (.fail 4 9)).getD w3
/-- a zero-value row (no cell slice), unattached: row 2 of `w6` -/
def wz : World := (w6.newRow { cells := none }).1
end C11Ex
open C11Ex

-- the history: errors appear once each, in order of occurrence per source
example : rowErrors w3 0 = [7, 8] ∧ (w3.table 0).errs = [] := by decide
example : (w4.table 0).errs = [7, 8] ∧ rowErrors w4 0 = [7, 8] ∧ (w4.row 0).ec = .table 0 := by decide
example : (w6.table 0).errs = [7, 8, errNonCellRow] := by decide
example : (w8.table 0).errs = [7, 8, errNonCellRow, 42, 43] := by decide
example : mass w3 7 = 1 ∧ mass w4 7 = 1 ∧ mass w8 7 = 1 ∧ mass w8 43 = 1 ∧ mass w7 43 = 0 := by decide
example : (addRow dw w3f 0 0 |>.table 0).errs = [7, 8, 9] := by decide

-- container level
example : [Sum.inl (some 1), .inr [none, some 2, none], .inl none, .inr []].foldl EC.applyOp (some [])
    = some [1, 2] := by decide
example : EC.errors ([Sum.inr [none, none], .inl none].foldl EC.applyOp (some [])) = none := by decide
example : [Sum.inl (some 1), .inr [some 2]].foldl EC.applyOp none = none := by decide

-- hypotheses of the theorems are satisfiable (and the theorems apply to the history)
example : live w1 (.table 0) ∧ live w1 (.rowLazy 0) ∧ live w3 (.rowOwn 0) ∧ live w5 (.rowLazy 1) ∧
    ¬ live w1 (.rowOwn 0) ∧ ¬ live w1 .drop := by decide
example := c11_raise_once w1 (.rowLazy 0) 7 (by decide)
example := c11_attach_conserves dw w3 0 0 (by decide) (by decide) (by decide) (by decide)
example := c11_attach_no_loss dw w3f 0 0 (by decide) (by decide) (by decide)
example : addQuiet w3f 0 0 = false := by decide
example := c11_fail_callback dw w7 1 42 (.table 0) (.table 0) (by decide)
example := c11_invoke_mass_fail dw w7 [.fail 1 42, .log 5, .fail 6 42] (.table 0) (.table 0) 42
  (by decide) (by decide)
example := c11_add_cell_mass dw w2 0 (newCell dw 0 item) [] (by decide) (by decide) 8
example : raiseCount (.cell 0 0) 8 ((w2.row 0).cellCbs.at .add) = 1 := by decide
example := c11_misuse_attached dw w5 1 0 (newCell dw 0 item) (by decide) (by decide) (by decide)
example := c11_misuse_unattached dw wz 2 (newCell dw 0 item) (by decide) (by decide) (by decide)
example := (c11_misuse dw wz 2 (newCell dw 0 item) (by decide)).2.2 (by decide)
example := c11_separator_misuse dw w4 0 (newCell dw 0 item) (by decide)
example := c11_row_view w3 0 (by decide)
example := c11_row_view_invoke dw w3 0 (by decide) [.fail 1 5] (.table 0) (.table 0) (by decide) (by decide)
example : attachedAll w7 0 := by decide
example := c11_no_loss_render dw w7 0 (by decide)
example := c11_no_loss_render_row dw w7 0 0 1 0 (by decide) (by decide)
example := c11_attached_invariant dw w7 0 0 0 (by decide)
example := c11_mass_all_attached w8 42 (by decide)
-- `unattached` is necessary in `c11_attach_conserves`: adding an attached row again absorbs the
-- table's own list a second time (the Go code does the same: `t.AddRow(r); t.AddRow(r)`)
example : ¬ unattached w4 0 ∧ ((addRow dw w4 0 0).table 0).errs = [7, 8, 7, 8] ∧
    mass (addRow dw w4 0 0) 7 = 2 := by decide
-- an unattached row with no container does drop a callback error routed through `rowECTaker`
example : rowECTaker w1 0 = .drop ∧ ¬ attachedAll ((w1.modTable 0 fun tb => { tb with rows := [0] })) 0 := by
  decide

end Tab
