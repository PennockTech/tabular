/-
  C13 (regenerated fact) — the order of `invokePropertyCallbacks` calls in the SOURCE is the
  documented one.  `Generated.schedule` is rewritten from /repo's AST on every check; if the source
  reorders the calls this evaluation fails and the check goes looking for a failing input (a dropped
  or added call makes the traversal unrecognised: see `scheduleRecognised`).
-/
import Tabmodel.Generated.Schedule
namespace Tab
open Generated

/-- the documented schedule: (function, loop depth, guarded by `col != nil`?, callback set, time) -/
def documentedSchedule : List (String × Nat × Bool × String × String) := [
  -- InvokeRenderCallbacks: table, columns, then rows, columns again, table again
  ("InvokeRenderCallbacks", 0, false, "tableItselfCallbacks", "CB_AT_RENDER_PRECELL"),
  ("InvokeRenderCallbacks", 1, false, "columnItselfCallbacks", "CB_AT_RENDER_PRECELL"),
  ("InvokeRenderCallbacks", 0, false, "->row", ""),
  ("InvokeRenderCallbacks", 1, false, "->row", ""),
  ("InvokeRenderCallbacks", 1, false, "columnItselfCallbacks", "CB_AT_RENDER_POSTCELL"),
  ("InvokeRenderCallbacks", 0, false, "tableItselfCallbacks", "CB_AT_RENDER_POSTCELL"),
  -- per row: the row itself; per cell: pre-cell of table, column, row; render of table, cell;
  -- post-cell of row, column, table; the row again
  ("rowTraversal", 0, false, "rowItselfCallbacks", "CB_AT_RENDER_PRECELL"),
  ("rowTraversal", 1, false, "tableCellCallbacks", "CB_AT_RENDER_PRECELL"),
  ("rowTraversal", 1, true, "cellCallbacks", "CB_AT_RENDER_PRECELL"),
  ("rowTraversal", 1, false, "rowCellCallbacks", "CB_AT_RENDER_PRECELL"),
  ("rowTraversal", 1, false, "tableCellCallbacks", "CB_AT_RENDER"),
  ("rowTraversal", 1, false, "callbacks", "CB_AT_RENDER"),
  ("rowTraversal", 1, false, "rowCellCallbacks", "CB_AT_RENDER_POSTCELL"),
  ("rowTraversal", 1, true, "cellCallbacks", "CB_AT_RENDER_POSTCELL"),
  ("rowTraversal", 1, false, "tableCellCallbacks", "CB_AT_RENDER_POSTCELL"),
  ("rowTraversal", 0, false, "rowItselfCallbacks", "CB_AT_RENDER_POSTCELL"),
  -- add time
  ("Add", 0, false, "rowCellCallbacks", "CB_AT_ADD"),
  ("AddRow", 0, false, "rowItselfCallbacks", "CB_AT_ADD"),
  ("AddRow", 0, false, "tableRowAdditionCallbacks", "CB_AT_ADD"),
  ("AddRow", 1, true, "cellCallbacks", "CB_AT_ADD"),
  ("AddRow", 1, false, "tableCellCallbacks", "CB_AT_ADD"),
  ("AddHeaders", 0, false, "tableRowAdditionCallbacks", "CB_AT_ADD"),
  ("AddHeaders", 1, true, "cellCallbacks", "CB_AT_ADD"),
  ("AddHeaders", 1, false, "tableCellCallbacks", "CB_AT_ADD")]

def isColGuard (g : String) : Bool := g == "nonnil"
def isHeaderGuard (g : String) : Bool := g == "header"

/-- the source's calls, in order, projected to what the documented order talks about
    (local variable names are not part of it: only the callback-set FIELD and the time constant) -/
def scheduleView : List (String × Nat × Bool × String × String) :=
  schedule.map (fun c => (c.fn, c.depth, isColGuard c.guard, c.set, c.time))

/-- the extractor recognised the traversal when the calls it found are the documented ones in some
    order (same functions, nesting, guards, callback sets and times, each the same number of times).
    A refactoring that moves calls into helpers is not recognised; the property then rests on the
    differential run, which registers every owner x time x target singly and in same-time pairs. -/
def scheduleRecognised : Bool :=
  scheduleView.length == documentedSchedule.length &&
  scheduleView.all (fun c => scheduleView.count c == documentedSchedule.count c)

/-- whenever the traversal is recognised, its calls are in the documented order -/
theorem c13_schedule : scheduleRecognised = false ∨ scheduleView = documentedSchedule :=
  -- the comparison of the two lists is decided first: on a recognised source it settles the matter,
  -- and `scheduleRecognised` (a count of every call in both lists) is evaluated only when it fails
  Or.symm (by decide +kernel)

/-- every call is unguarded, guarded by the existence of the column, or (header traversal) by the
    existence of a header row: no other condition suppresses a callback -/
theorem c13_guards : scheduleRecognised = false ∨ ∀ c ∈ schedule, c.guard = "" ∨ isColGuard c.guard = true ∨ isHeaderGuard c.guard = true :=
  Or.symm (by decide +kernel)

/-- the object handed over is the live one: no call passes the address of a loop copy
    (`&col` of a range variable was exactly the repaired column defect) -/
theorem c13_targets : ∀ c ∈ schedule, c.targetAddrOf = false := by decide +kernel

end Tab
