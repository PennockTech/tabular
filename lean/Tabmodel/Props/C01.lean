/-
  C01 — A cell's text is the documented text form of the item stored in it.
  `textForm` (Model/Item.lean) is written from the property statement; `Cell.update` mirrors the
  Go type switch arm by arm.  The arm order of the SOURCE is the regenerated fact
  `Generated.typeSwitchArms`.
-/
import Tabmodel.Model.World
import Tabmodel.Generated.TypeSwitch
namespace Tab

theorem switchText_eq_textForm (it : Item)
    (hnil : it.kind ≠ .nil) (hcell : ∀ s w h e, it.kind ≠ .cell s w h e) :
    it.switchText = textForm it := by
  unfold Item.switchText textForm
  cases hk : it.kind with
  | nil => exact absurd hk hnil
  | cell s w h e => exact absurd hk (hcell s w h e)
  | str s => rfl
  | rune r => rfl
  | other => rfl

/-- `Update` re-reads the (possibly mutated) item: afterwards the text is the documented form of
    the item's CURRENT state -/
theorem c01_update (dw : Measure) (it' : Item) (c : Cell) : (c.update dw it').str = textForm it' := by
  unfold Cell.update
  split
  · next h => simp [textForm, h]
  · next s w h e hk => simp [textForm, hk]
  · next k hn hc => exact switchText_eq_textForm it' hn hc

/-- the cell's text is the documented text form of the item: for every item of every dynamic type
    and every combination of String/GoString/Error/Height/TerminalCellWidth -/
theorem c01_text (dw : Measure) (i : Nat) (it : Item) : (newCell dw i it).str = textForm it :=
  c01_update dw it { item := i }

/-- nested-cell items come from real cells: an inner cell flagged empty has empty text
    (true of every cell built by `newCell`/`update`, see `c01_wf`, and of the zero-value `Cell{}`) -/
def ItemWF (it : Item) : Prop := ∀ s w h e, it.kind = .cell s w h e → e = true → s = []

theorem update_emptyFlag (dw : Measure) (it : Item) (c : Cell) (hwf : ItemWF it) :
    (c.update dw it).empty = ((c.update dw it).str == []) := by
  unfold Cell.update
  split
  · rfl
  · next s w h e hk =>
    cases e with
    | false => exact Bool.false_or _
    | true => simp [hwf s w h true hk rfl]
  · rfl

/-- the cell reports itself empty exactly when its text is empty -/
theorem c01_empty (dw : Measure) (i : Nat) (it : Item) (hwf : ItemWF it) :
    (newCell dw i it).empty = (textForm it == []) := by
  rw [newCell, update_emptyFlag dw it _ hwf, c01_update]

/-- every cell produced by `update` is itself well-formed as a nested item: by induction on the
    nesting depth, `empty ↔ text = []` holds for cells of cells of cells … -/
theorem c01_wf (dw : Measure) (it : Item) (c : Cell) (hwf : ItemWF it) :
    ((c.update dw it).empty = true → (c.update dw it).str = []) := by
  rw [update_emptyFlag dw it c hwf]
  exact eq_of_beq

/-- the zero-value `tabular.Cell{}` used as an item is well-formed too -/
theorem c01_zero_cell_wf (it : Item) (h : it.kind = .cell [] 0 0 false) : ItemWF it := by
  intro s w h' e hk he
  rw [h] at hk
  cases hk
  rfl

/-- the stored item is handed back unchanged (the cell keeps the item's identity) -/
theorem c01_item (dw : Measure) (i : Nat) (it : Item) : (newCell dw i it).item = i := by
  unfold newCell Cell.update
  split <;> rfl

/-- … and only then: mutating the item store leaves every cell of every row as it was
    (a cell is a value computed at `NewCell`/`Update` time; nothing else reads the item) -/
theorem c01_stale (w : World) (items' : List Item) (r c : Nat) :
    ({ w with items := items' } : World).cell? r c = w.cell? r c := rfl

/-- precedence, stated outright: String() wins over GoString() wins over Error() wins over %v -/
theorem c01_precedence (it : Item) (hk : it.kind = .other) :
    textForm it =
      match it.mString, it.mGoString, it.mError with
      | some s, _, _ => s
      | none, some g, _ => g
      | none, none, some e => e
      | none, none, none => it.fmtV := by
  unfold textForm
  rw [hk]
  cases it.mString <;> cases it.mGoString <;> cases it.mError <;> rfl

/-- a string is itself, a rune is that character, nil is empty, a nested cell gives the inner text:
    these kinds take precedence over any method the dynamic type may also have -/
theorem c01_kinds (it : Item) :
    (∀ s, it.kind = .str s → textForm it = s) ∧
    (∀ r, it.kind = .rune r → textForm it = encodeRune r) ∧
    (it.kind = .nil → textForm it = []) ∧
    (∀ s w h e, it.kind = .cell s w h e → textForm it = s) := by
  refine ⟨?_, ?_, ?_, ?_⟩ <;> intros <;> simp_all [textForm]

/-- the documented arms: (case type, what becomes the text), in precedence order -/
def documentedArms : List (String × String) :=
  [("nil", "\"\""), ("Cell", "o.str"), ("string", "o"), ("rune", "string(o)"),
   ("Stringer", "o.String()"), ("GoStringer", "o.GoString()"), ("error", "o.Error()"),
   ("default", "fmt.Sprintf(\"%v\", o)")]

/-- the extractor recognised the switch when it found one whose case TYPES are exactly the
    documented ones in some order (a refactoring that splits or moves the switch is not recognised;
    the property then rests on the exhaustive differential run over all interface combinations) -/
def typeSwitchRecognised : Bool :=
  Generated.typeSwitchFound &&
  (Generated.typeSwitchArms.map (·.1)).all (fun t => (documentedArms.map (·.1)).contains t) &&
  (documentedArms.map (·.1)).all (fun t => (Generated.typeSwitchArms.map (·.1)).contains t) &&
  Generated.typeSwitchArms.length == documentedArms.length

/-- the arms of the type switch in the SOURCE, in order, with what each assigns (regenerated):
    whenever the switch is recognised, its precedence order and assignments are the documented ones -/
theorem c01_switch_arms : typeSwitchRecognised = false ∨ Generated.typeSwitchArms = documentedArms := by
  decide +kernel

/- non-vacuity -/
example : ItemWF { kind := .cell [] 0 0 false, mString := none, mGoString := none, mError := none,
                   fmtV := [], mHeight := none, mWidth := none, json := none } :=
  c01_zero_cell_wf _ rfl
example : textForm { kind := .other, mString := none, mGoString := some [103], mError := some [101],
                     fmtV := [118], mHeight := none, mWidth := none, json := none } = [103] := by decide
example : textForm { kind := .rune 0x4e16, mString := some [1], mGoString := none, mError := none,
                     fmtV := [118], mHeight := none, mWidth := none, json := none } = [0xe4, 0xb8, 0x96] := by decide
example : encodeRune 0xD800 = [0xEF, 0xBF, 0xBD] := by decide

end Tab
