/-
  Observations the correspondence driver prints (the `rc=` call list, `chainlen`) are definitions of
  the model (`rowClassCalls` in Model/Html.lean, `World.ownerChain`/`World.chainLen` in
  Model/World.lean); this file ties them to the objects the property theorems speak about, so the
  value diffed against the library is provably the value the C06 / C12 theorems characterise.
-/
import Tabmodel.Props.C06
import Tabmodel.Props.C12
import Tabmodel.Proofs.C06eGen
import Tabmodel.Proofs.Store
namespace Tab

/-- the `rc=` list the driver prints is exactly the argument list of the C06 theorems -/
theorem rowClassCalls_eq_args (v : RTable) : rowClassCalls v = rowClassArgs v := by
  unfold rowClassCalls rowClassArgs
  congr 2
  funext ⟨r, i⟩
  cases r <;> rfl

/-- the generator is never called twice with one row number -/
theorem rowClassCalls_nodup (v : RTable) : (rowClassCalls v).Nodup := by
  rw [rowClassCalls_eq_args]; exact C06e.rowClassArgs_nodup v

/-- the header call comes first -/
theorem rowClassCalls_head (v : RTable) : (rowClassCalls v).head? = some 0 := rfl

/-- every row number handed to the generator is 0 (header) or the 1-based position of a
    non-separator row of the view, and every such position is handed over -/
theorem rowClassCalls_mem (v : RTable) (n : Nat) :
    n ∈ rowClassCalls v ↔ n = 0 ∨ ∃ i cells, v.rows[i]? = some (some cells) ∧ n = i + 1 := by
  unfold rowClassCalls
  simp only [List.mem_cons, List.mem_filterMap, Prod.exists, List.mem_zipIdx_iff_getElem?]
  constructor
  · rintro (h | ⟨r, i, hget, hr⟩)
    · exact .inl h
    · cases r with
      | none => simp at hr
      | some cells => simp at hr; exact .inr ⟨i, cells, hget, hr.symm⟩
  · rintro (h | ⟨i, cells, hget, hn⟩)
    · exact .inl h
    · exact .inr ⟨some cells, i, hget, by simp [hn]⟩

/-- no call goes past the last row -/
theorem rowClassCalls_le (v : RTable) (n : Nat) (h : n ∈ rowClassCalls v) : n ≤ v.rows.length := by
  rcases (rowClassCalls_mem v n).1 h with h | ⟨i, cells, hget, hn⟩
  · omega
  · have : i < v.rows.length := by
      rcases List.getElem?_eq_some_iff.1 hget with ⟨hi, _⟩; exact hi
    omega

/-- non-vacuity: header, row, separator, row → calls 0, 1, 3 -/
example : rowClassCalls ⟨0, none, [some [], none, some []], [], []⟩ = [0, 1, 3] := by decide

/-! ### `chainlen` -/

/-- `getProp` reads the chain `ownerChain` names -/
theorem getProp_eq_ownerChain (w : World) (o : Target) (k : Key) :
    w.getProp o k = (w.ownerChain o).get k := by
  cases o with
  | table t => rfl
  | row r => rfl
  | column t n =>
    simp only [World.getProp, World.ownerChain]
    cases w.column? t n <;> simp
  | cell r c =>
    simp only [World.getProp, World.ownerChain]
    cases w.cell? r c <;> simp
  | copy n =>
    simp only [World.getProp, World.ownerChain]
    cases w.copies[n]? <;> simp

/-- the number compared with the library's link count is the number of keys stored -/
theorem chainLen_eq_keys (w : World) (o : Target) : w.chainLen o = (w.ownerChain o).keys.length :=
  c12_length_eq_keys _

/-- a key that reads back a value is stored, so the chain is non-empty -/
theorem chainLen_pos_of_get (w : World) (o : Target) (k : Key) (v : Val) (h : w.getProp o k = some v) :
    0 < w.chainLen o := by
  rw [getProp_eq_ownerChain] at h
  unfold World.chainLen
  cases hc : w.ownerChain o with
  | nil => rw [hc] at h; simp [Chain.get] at h
  | cons _ _ => simp

/-- setting a property on a table stores the result of `Chain.set` on that table's own chain … -/
theorem ownerChain_setProp_table (w : World) (t : Nat) (ht : t < w.tables.length) (k : Key) (v : Option Val) :
    (w.setProp (.table t) k v).ownerChain (.table t) = (w.ownerChain (.table t)).set k v := by
  exact congrArg (·.props) (World.table_modTable_self w t _ ht)

/-- … so one `SetProperty` grows the link count by at most one, and not at all when the key is
    already stored: what the harness's `chainlen` bound asks of the library after repeated sets -/
theorem chainLen_setProp_table (w : World) (t : Nat) (ht : t < w.tables.length) (k : Key) (v : Option Val) :
    (w.setProp (.table t) k v).chainLen (.table t) ≤ w.chainLen (.table t) + 1 ∧
    (k ∈ (w.ownerChain (.table t)).keys →
      (w.setProp (.table t) k v).chainLen (.table t) ≤ w.chainLen (.table t)) := by
  unfold World.chainLen
  rw [ownerChain_setProp_table w t ht]
  exact c12_bounded _ k v

/-- the same for a row -/
theorem ownerChain_setProp_row (w : World) (r : Nat) (hr : r < w.rows.length) (k : Key) (v : Option Val) :
    (w.setProp (.row r) k v).ownerChain (.row r) = (w.ownerChain (.row r)).set k v := by
  exact congrArg (·.props) (World.row_modRow_self w r _ hr)

theorem chainLen_setProp_row (w : World) (r : Nat) (hr : r < w.rows.length) (k : Key) (v : Option Val) :
    (w.setProp (.row r) k v).chainLen (.row r) ≤ w.chainLen (.row r) + 1 ∧
    (k ∈ (w.ownerChain (.row r)).keys →
      (w.setProp (.row r) k v).chainLen (.row r) ≤ w.chainLen (.row r)) := by
  unfold World.chainLen
  rw [ownerChain_setProp_row w r hr]
  exact c12_bounded _ k v

end Tab
