/-
  C03 — A rendered text table is a rectangle whose columns fit their widest cell.

  Objects: `renderTextBody d v : Emit Unit` (Model/Text.lean, = `TextTable.RenderTo` after the
  callbacks pass) writes one chunk per line.  Spec-side definitions (segments, `specChunks`,
  `colWidth`, `CellOK`, `GlyphOK`, …) are in `Tabmodel/Spec/Text.lean`; `WFShape` in
  `Tabmodel/Spec/Shape.lean`.  All widths are SEGMENT SUMS (`segWidth`): `dw` is applied to single
  glyphs only, never to a concatenation, except in `c03_whole_line*`, which carry the explicit
  additivity hypothesis `AdditiveOn` (false for go-runewidth on some inputs: known finding D20).
-/
import Tabmodel.Proofs.TextExample
namespace Tab
open Emit

/-! ### the render succeeds and writes exactly the specified chunk list -/

/-- No error, no panic: under the shape/alignment hypotheses and a complete (or boxless) decoration
    the render returns `.ok ()`.  (`CellOK` is used only for "every laid-out width is ≥ 0".) -/
theorem c03_ok (dw : Measure) (d : Decoration) (v : RTable)
    (hn : 1 ≤ v.ncols) (hs : WFShape v) (ha : AlignOK v) (hd : DecoOK dw d)
    (hv : ∀ c ∈ v.allCells, CellOK dw c) :
    (renderTextBody d v).res = .ok () :=
  (renderTextBody_eq d v hn hs ha hd.divs_header hd.divs_body (fun c hc => (hv c hc).nonneg)).1

/-- Line structure: the chunk list is `specChunks d v`, i.e. top rule; if a header is present its
    content lines then the header rule; per body row one rule if separator, else its content lines;
    bottom rule — computed with the spec column widths and effective alignments. -/
theorem c03_line_structure (dw : Measure) (d : Decoration) (v : RTable)
    (hn : 1 ≤ v.ncols) (hs : WFShape v) (ha : AlignOK v) (hd : DecoOK dw d)
    (hv : ∀ c ∈ v.allCells, CellOK dw c) :
    (renderTextBody d v).chunks =
      (match v.header with
       | some hs => lineHeaderTop d v.colWidths ::
           (rowChunks d.vHeader d.vHeader d.vHeader v.colWidths v.effAligns hs v.ncols
             ++ [lineHeaderBodySep d v.colWidths])
       | none => [lineBodyTop d v.colWidths]) ++
      v.rows.flatMap (fun r => match r with
        | none => [lineSeparator d v.colWidths]
        | some cells =>
          rowChunks d.vBodyBorder d.vBodyInner d.vBodyBorder v.colWidths v.effAligns cells v.ncols) ++
      [lineBottom d v.colWidths] :=
  (renderTextBody_eq d v hn hs ha hd.divs_header hd.divs_body (fun c hc => (hv c hc).nonneg)).2

/-- A row contributes `max 1 (max over its first ncols cells of lws.length)` content lines, and
    line `k` of the row is the content line built from the row's `k`-th slots. -/
theorem c03_row_line_count (L I R : Bytes) (cw al : List Nat) (cells : List RCell) (n : Nat) :
    (rowChunks L I R cw al cells n).length
        = max 1 (maxNat ((cells.take n).map (fun c => c.lws.length))) ∧
    ∀ k, k < (rowChunks L I R cw al cells n).length →
      (rowChunks L I R cw al cells n)[k]? = some (contentLine L I R (rowSlots cw al cells k)) := by
  refine ⟨by rw [rowChunks_length, rowLineCount_eq], ?_⟩
  intro k hk
  rw [rowChunks_length] at hk
  exact rowChunks_getElem? L I R cw al cells n k hk

/-- For a boxless decoration every rule chunk is empty, so only content lines reach the output. -/
theorem c03_boxless_rules_empty (d : Decoration) (hb : d.isBoxless = true) (cw : List Nat) :
    lineHeaderTop d cw = [] ∧ lineHeaderBodySep d cw = [] ∧ lineBodyTop d cw = [] ∧
    lineBottom d cw = [] ∧ lineSeparator d cw = [] :=
  ⟨templateLine_boxless d cw _ _ _ _ hb, templateLine_boxless d cw _ _ _ _ hb,
   templateLine_boxless d cw _ _ _ _ hb, templateLine_boxless d cw _ _ _ _ hb,
   templateLine_boxless d cw _ _ _ _ hb⟩

/-! ### column widths -/

/-- The widths the renderer computes (`ttColumnWidths`, no panic) are, after the `toNat` the emitter
    applies, exactly `colWidth v i` for `i < ncols`: the maximum of 0 and the `cellWidth` of every
    header / body cell of column `i` — an upper bound of all of them that is attained (or is 0). -/
theorem c03_column_widths (v : RTable) (hs : WFShape v) :
    (∃ wsI, ttColumnWidths v = .ok wsI ∧ wsI.map Int.toNat = (List.range v.ncols).map v.colWidth) ∧
    (∀ i, ∀ c ∈ v.colCells i, c.cellWidth ≤ (v.colWidth i : Int)) ∧
    (∀ i, v.colWidth i = 0 ∨ ∃ c ∈ v.colCells i, c.cellWidth = (v.colWidth i : Int)) :=
  ⟨ttColumnWidths_eq v hs, fun i c hc => colWidth_ge v i c hc, fun i => colWidth_attained v i⟩

/-- With measured cells (`cellWidth = longestLine dw text`, what `dimProps` stores for items that
    declare no width) the column width is exactly the widest text line of the column. -/
theorem c03_column_widths_text (dw : Measure) (v : RTable) (i : Nat)
    (hm : ∀ c ∈ v.colCells i, c.cellWidth = (longestLine dw c.text : Nat)) :
    v.colWidth i = maxNat ((v.colCells i).flatMap (fun c => (lines c.text).map dw)) := by
  rw [maxNat_flatMap]
  unfold RTable.colWidth
  congr 1
  apply List.map_congr_left
  intro c hc
  rw [hm c hc, longestLine_eq]
  simp

/-! ### shapes of the lines -/

/-- Each non-boxless rule line is `left ++ (horiz × (cwᵢ + 2), separated by cross) ++ right ++ LF`;
    its segment-sum width is `1 + Σ (cwᵢ + 3)` and its dividers sit at `[0, cw₀+3, cw₀+cw₁+6, …]`. -/
theorem c03_rule_shape (dw : Measure) (d : Decoration) (cw : List Nat) (hg : GlyphOK dw d) (hcw : cw ≠ [])
    (l h x r : Bytes) (hm : (l, h, x, r) ∈ ruleGlyphs d) :
    templateLine d cw l h x r = segBytes (ruleSegs l h x r cw) ++ [LF] ∧
    segWidth dw (ruleSegs l h x r cw) = 1 + (cw.map (· + 3)).sum ∧
    divOffsets dw 0 (ruleSegs l h x r cw) = colOffsets 0 cw := by
  obtain ⟨h1, h2, h3, h4⟩ := hg.rule_one _ hm
  exact ⟨templateLine_boxed d cw l h x r hg.boxed, ruleSegs_width dw l h x r cw hcw h1 h2 h3 h4,
    ruleSegs_offsets dw l h x r cw hcw 0 h1 h2 h3⟩

/-- The five rule lines of the renderer are the `templateLine`s of `ruleGlyphs`. -/
theorem c03_rule_lines (d : Decoration) (cw : List Nat) :
    [lineHeaderTop d cw, lineHeaderBodySep d cw, lineBodyTop d cw, lineBottom d cw, lineSeparator d cw]
      = (ruleGlyphs d).map (fun q => templateLine d cw q.1 q.2.1 q.2.2.1 q.2.2.2) := rfl

/-- Each boxed content line (row `cells`, header or body, line `k`) is
    `joinSP (left :: slot₀ :: inner :: slot₁ :: … :: slotₙ₋₁ :: [right]) ++ LF`; every slot is exactly
    its column wide, so the segment-sum width equals the rule's and the dividers sit at the same
    offsets as on the rule lines. -/
theorem c03_content_shape (dw : Measure) (v : RTable) (L I R : Bytes) (cells : List RCell) (k : Nat)
    (hn : 1 ≤ v.ncols) (hv : ViewOK dw v) (hrow : v.header = some cells ∨ some cells ∈ v.rows)
    (hL : L ≠ []) (h1 : dw L = 1) (h2 : dw I = 1) (h3 : dw R = 1) :
    let slots := rowSlots v.colWidths v.effAligns cells k
    contentLine L I R slots
        = joinSP (L :: ((slots.map SlotD.bytes).intersperse I ++ [R])) ++ [LF] ∧
    contentLine L I R slots = segBytes (boxedSegs L I R slots) ++ [LF] ∧
    slots.map SlotD.width = v.colWidths ∧
    segWidth dw (boxedSegs L I R slots) = 1 + (v.colWidths.map (· + 3)).sum ∧
    divOffsets dw 0 (boxedSegs L I R slots) = colOffsets 0 v.colWidths := by
  intro slots
  obtain ⟨e, w, o, _⟩ := rowLine_boxed dw v L I R cells k hn hv hrow hL h1 h2 h3
  exact ⟨by simp [contentLine, hL], e, rowSlots_widths dw v cells k hv hrow, w, o⟩

/-- Boxless content line: `joinSP [slot₀, …, slotₙ₋₁] ++ LF`, segment-sum width `Σ cwᵢ + (n − 1)`. -/
theorem c03_content_shape_boxless (dw : Measure) (v : RTable) (I R : Bytes) (cells : List RCell) (k : Nat)
    (hv : ViewOK dw v) (hrow : v.header = some cells ∨ some cells ∈ v.rows) :
    let slots := rowSlots v.colWidths v.effAligns cells k
    contentLine [] I R slots = joinSP (slots.map SlotD.bytes) ++ [LF] ∧
    contentLine [] I R slots = segBytes (boxlessSegs slots) ++ [LF] ∧
    slots.map SlotD.width = v.colWidths ∧
    segWidth dw (boxlessSegs slots) = v.colWidths.sum + (v.colWidths.length - 1) := by
  intro slots
  obtain ⟨e, w, o⟩ := rowLine_boxless dw v I R cells k hv hrow
  exact ⟨by simp [contentLine], e, w, o⟩

/-- The rectangle, assembled for the whole render (boxed decoration): EVERY chunk written is a line
    of segments (+ LF) whose segment-sum width is `1 + Σ (cwᵢ + 3)` and whose dividers sit at
    `[0, cw₀+3, cw₀+cw₁+6, …]`, with `cwᵢ = colWidth v i`. -/
theorem c03_rectangle (dw : Measure) (d : Decoration) (v : RTable)
    (hn : 1 ≤ v.ncols) (hs : WFShape v) (ha : AlignOK v) (hg : GlyphOK dw d) (hv : ViewOK dw v) :
    ∀ ch ∈ (renderTextBody d v).chunks, ∃ segs, ch = segBytes segs ++ [LF] ∧
      segWidth dw segs = 1 + (v.colWidths.map (· + 3)).sum ∧
      divOffsets dw 0 segs = colOffsets 0 v.colWidths := by
  intro ch hch
  obtain ⟨segs, h1, h2, h3, _⟩ :=
    lineKind_boxed dw d v ch hg hn hv (renderTextBody_kinds dw d v hn hs ha (Or.inl hg) hv ch hch)
  exact ⟨segs, h1, h2, h3⟩

/-- The rectangle for the boxless decoration: every chunk is empty (a rule) or a line of slots joined
    by single spaces, every slot its column wide, of segment-sum width `Σ cwᵢ + (n − 1)`. -/
theorem c03_rectangle_boxless (dw : Measure) (d : Decoration) (v : RTable)
    (hn : 1 ≤ v.ncols) (hs : WFShape v) (ha : AlignOK v) (hb : BoxlessOK d) (hv : ViewOK dw v) :
    ∀ ch ∈ (renderTextBody d v).chunks, ch = [] ∨ ∃ slots, ch = segBytes (boxlessSegs slots) ++ [LF] ∧
      slots.map SlotD.width = v.colWidths ∧
      segWidth dw (boxlessSegs slots) = v.colWidths.sum + (v.colWidths.length - 1) := by
  intro ch hch
  exact lineKind_boxless dw d v ch hb hv (renderTextBody_kinds dw d v hn hs ha (Or.inr hb) hv ch hch)

/-! ### whole-line width: CONDITIONAL on additivity of `dw` (false for go-runewidth, finding D20) -/

/-- CONDITIONAL.  If `dw` is additive over the atoms of this line (`AdditiveOn`, an explicit
    hypothesis that go-runewidth violates on some inputs — D20), spaces measure their count, and every
    slot's laid-out width is the measure of its text, then `dw` of the concatenated line equals the
    segment sum. -/
theorem c03_whole_line (dw : Measure) (segs : List Seg) (hadd : AdditiveOn dw segs)
    (hsp : ∀ k, dw (spaces k) = k)
    (hm : ∀ lp ws rp, Seg.slot lp ws rp ∈ segs → ws.w = ((dw ws.s : Nat) : Int)) :
    dw (segBytes segs) = segWidth dw segs :=
  dw_segBytes_of_additive dw segs hadd hsp hm

/-- CONDITIONAL, assembled: in a boxed render of a view whose cells are all measured by `dw`, every
    line has a segmentation such that, IF `dw` is additive on it, the line (without LF) measures
    `1 + Σ (cwᵢ + 3)`. -/
theorem c03_whole_line_render (dw : Measure) (d : Decoration) (v : RTable)
    (hn : 1 ≤ v.ncols) (hs : WFShape v) (ha : AlignOK v) (hg : GlyphOK dw d) (hv : ViewOK dw v)
    (hmeas : ∀ c ∈ v.allCells, CellMeasured dw c) (hsp : ∀ k, dw (spaces k) = k) :
    ∀ ch ∈ (renderTextBody d v).chunks, ∃ segs, ch = segBytes segs ++ [LF] ∧
      (AdditiveOn dw segs → dw (segBytes segs) = 1 + (v.colWidths.map (· + 3)).sum) := by
  intro ch hch
  obtain ⟨segs, h1, h2, _, h4⟩ :=
    lineKind_boxed dw d v ch hg hn hv (renderTextBody_kinds dw d v hn hs ha (Or.inl hg) hv ch hch)
  refine ⟨segs, h1, fun hadd => ?_⟩
  have h2' : segWidth dw segs = 1 + (v.colWidths.map (· + 3)).sum := h2
  rw [← h2']
  apply dw_segBytes_of_additive dw segs hadd hsp
  exact fun lp ws rp hmem => slot_measured_of_src dw v (hsp 0) hmeas ws (h4 lp ws rp hmem)

/-! ### Populate completes any decoration -/

/-- For ANY decoration, after `Populate` every glyph field the renderer uses is non-empty (the three
    base glyphs default to "H", "V", "X"); the boxless flag is untouched. -/
theorem c03_populate (d : Decoration) :
    (∀ g ∈ [d.populate.topLeft, d.populate.hOuter, d.populate.hTopDown, d.populate.topRight,
      d.populate.hBLeft, d.populate.hBCross, d.populate.hBRight, d.populate.bTopDown,
      d.populate.bottomLeft, d.populate.bBottomUp, d.populate.bottomRight, d.populate.leftBodyRule,
      d.populate.hRule, d.populate.crossPiece, d.populate.rightBodyRule, d.populate.vHeader,
      d.populate.vBodyBorder, d.populate.vBodyInner], g ≠ []) ∧
    d.populate.isBoxless = d.isBoxless ∧
    (emptyDecoration.populate.horizontal = [72] ∧ emptyDecoration.populate.vertical = [86] ∧
     emptyDecoration.populate.crossPiece = [88]) :=
  ⟨populate_glyphs_ne d, rfl, by decide⟩

/-- `dimProps` (the measuring callback) establishes `CellOK` for the view cell it fills; see also
    `dimSetter_cellOK` (Proofs/TextDims.lean) for the statement inside the world. -/
theorem c03_dimProps_cellOK (dw : Measure) (w : World) (it : Item) (c : Cell)
    (h1 : c.props.get .ttDims = some (World.dimProps dw it c).1)
    (h2 : c.props.get .ttLines = some (World.dimProps dw it c).2) :
    CellOK dw (w.rcell c) ∧
    ((it.mWidth = none ∧ c.width = (longestLine dw c.str : Nat)) ∨
     (it.mWidth.isSome = true ∧ c.lines.length = 1) → CellFits (w.rcell c)) := by
  refine ⟨rcell_cellOK dw w it c h1 h2, ?_⟩
  obtain ⟨e1, e2⟩ := rcell_dims_lws dw w it c h1 h2
  rintro (⟨_, hb⟩ | ⟨ha, hb⟩)
  · exact dimProps_fits_measured dw it c _ _ e1 e2 hb
  · exact dimProps_fits_single_declared dw it c _ _ e1 e2 ha hb

/-- For an item that declares no width and is not itself a `tabular.Cell`, the cell width `dimProps`
    reports is exactly the widest text line (the premise of `c03_column_widths_text`). -/
theorem c03_dimProps_measured_width (dw : Measure) (it : Item) (c0 : Cell)
    (h1 : ∀ s w h e, it.kind ≠ .cell s w h e) (hd : it.mWidth = none) :
    let c := Cell.update dw it c0
    (World.dimProps dw it c).1 = .dims ((longestLine dw c.str : Nat) : Int) c.hgt := by
  intro c
  have hw : c.width = (longestLine dw c.str : Nat) := update_width_measured dw it c0 h1 hd
  rw [dimProps_eq]
  rw [termWidth_eq, hw, Int.max_eq_left (Int.natCast_nonneg _)]

/-- Inside the world: running the measuring callback (`dimensionSetter`) on cell `(r, i)` leaves the
    cell's text and sizes unchanged and makes its view cell `CellOK` (in whatever world the view is
    later read: `rcell` reads only the cell's own properties). -/
theorem c03_dimSetter_cellOK (dw : Measure) (w : World) (r i : Nat) (tk : Taker) (ce : Cell)
    (h : w.cell? r i = some ce) :
    ∃ ce', (World.invokeOne dw w .dimSetter (.cell r i) tk).cell? r i = some ce' ∧
      ce'.str = ce.str ∧ ce'.width = ce.width ∧ ce'.height = ce.height ∧
      ∀ w', CellOK dw (World.rcell w' ce') :=
  dimSetter_cellOK dw w r i tk ce h

/-! ### non-vacuity: a concrete view under the ascii-simple and the boxless decoration, `dw := List.length` -/

namespace C03Example
open TextExample

example : (renderTextBody asciiSimple exView).res = .ok () :=
  c03_ok List.length _ _ hn hs ha (Or.inl hg) (fun c hc => (hall c hc).1)
example : (renderTextBody boxlessDeco exView).res = .ok () :=
  c03_ok List.length _ _ hn hs ha (Or.inr hb) (fun c hc => (hall c hc).1)
example : (renderTextBody asciiSimple exView).chunks.length = 8 := by
  rw [c03_line_structure List.length _ _ hn hs ha (Or.inl hg) (fun c hc => (hall c hc).1)]; decide
/-- the rendered table, for the record:
```
+-----+----+
|   a | bb |
+-----+----+
| ccc | e  |
|   d |    |
+-----+----+
|   f |    |
+-----+----+
``` -/
example : (renderTextBody asciiSimple exView).output =
    [43,45,45,45,45,45,43,45,45,45,45,43,10, 124,32,32,32,97,32,124,32,98,98,32,124,10,
     43,45,45,45,45,45,43,45,45,45,45,43,10, 124,32,99,99,99,32,124,32,101,32,32,124,10,
     124,32,32,32,100,32,124,32,32,32,32,124,10, 43,45,45,45,45,45,43,45,45,45,45,43,10,
     124,32,32,32,102,32,124,32,32,32,32,124,10, 43,45,45,45,45,45,43,45,45,45,45,43,10] := by decide
example : exView.colWidths = [3, 2] := by decide
example : ∃ wsI, ttColumnWidths exView = .ok wsI ∧ wsI.map Int.toNat = [3, 2] :=
  (c03_column_widths exView hs).1
example : exView.colWidth 0 = 3 := by
  rw [c03_column_widths_text List.length exView 0 (by
    intro c hc
    simp only [RTable.colCells, bodyColCells, exView] at hc
    simp at hc
    rcases hc with rfl | rfl | rfl <;> rfl)]
  decide
example : (asciiSimple.topLeft, asciiSimple.hOuter, asciiSimple.hTopDown, asciiSimple.topRight)
    ∈ ruleGlyphs asciiSimple := by simp [ruleGlyphs]
example := c03_rule_shape List.length asciiSimple exView.colWidths hg (by decide) _ _ _ _
  (show (asciiSimple.topLeft, asciiSimple.hOuter, asciiSimple.hTopDown, asciiSimple.topRight)
    ∈ ruleGlyphs asciiSimple by simp [ruleGlyphs])
example := c03_content_shape List.length exView asciiSimple.vBodyBorder asciiSimple.vBodyInner
  asciiSimple.vBodyBorder [measuredCell List.length [102]] 0 hn hv (Or.inr (by simp [exView]))
  (by decide) (by decide) (by decide) (by decide)
example := c03_content_shape_boxless List.length exView [] [] [measuredCell List.length [102]] 0 hv
  (Or.inr (by simp [exView]))
example : ∀ ch ∈ (renderTextBody asciiSimple exView).chunks, ∃ segs, ch = segBytes segs ++ [LF] ∧
    segWidth List.length segs = 12 ∧ divOffsets List.length 0 segs = [0, 6, 11] :=
  c03_rectangle List.length _ _ hn hs ha hg hv
example : ∀ ch ∈ (renderTextBody boxlessDeco exView).chunks, ch = [] ∨ ∃ slots,
    ch = segBytes (boxlessSegs slots) ++ [LF] ∧ slots.map SlotD.width = [3, 2] ∧
    segWidth List.length (boxlessSegs slots) = 6 :=
  c03_rectangle_boxless List.length _ _ hn hs ha hb hv
/-- with the (additive) measure `List.length` the conditional theorem fires: every line is 12 wide -/
example : ∀ ch ∈ (renderTextBody asciiSimple exView).chunks, ∃ segs, ch = segBytes segs ++ [LF] ∧
    (segBytes segs).length = 12 := by
  intro ch hch
  obtain ⟨segs, h1, h2⟩ := c03_whole_line_render List.length _ _ hn hs ha hg hv
    (fun c hc => (hall c hc).2.2) hsp ch hch
  exact ⟨segs, h1, h2 (hadd segs)⟩
example : ∀ g ∈ [asciiSimple.topLeft, asciiSimple.vBodyInner], g ≠ [] := by decide
example : List.length (segBytes [.div [124], .sp, .slot 1 ⟨[97], 1⟩ 0, .sp, .div [124]]) = 6 := by
  rw [c03_whole_line List.length _ (hadd _) hsp (by
    intro lp ws rp h
    simp at h
    obtain ⟨_, rfl, _⟩ := h
    rfl)]
  rfl
/-- a cell carrying the two properties written by the measuring callback -/
example : CellOK List.length ((default : World).rcell exCell) :=
  (c03_dimProps_cellOK List.length default exItem exCell rfl rfl).1
example : CellFits ((default : World).rcell exCell) :=
  (c03_dimProps_cellOK List.length default exItem exCell rfl rfl).2 (Or.inl ⟨rfl, by decide⟩)

example : (World.dimProps List.length exItem exCell0).1 = .dims 2 2 := by
  have := c03_dimProps_measured_width List.length exItem { item := 0 }
    (by intro s w h e hk; simp [exItem] at hk) rfl
  exact this
example := c03_dimSetter_cellOK List.length exWorld 0 0 .drop exCell0 rfl

end C03Example

end Tab
