/-
  C12, history level — Properties behave as an independent key-to-value map for each owner, along
  every history of API calls.

  Vocabulary: the histories of `Spec/World.lean` (`BuildOp`, `applyOp`, `run`), owners are
  `Target` values (`.table t`, `.column t n` incl. the defaults column 0, `.row r`, `.cell r c`,
  `.copy n` = a by-value copy of a cell held by the caller), `Cb.writes` of C13x, and the definitions
  of `Proofs/C12hDefs.lean` (definitions only).

  None of the theorems needs `Valid ops`: operations addressed to owners that do not exist are
  no-ops in the model and in `lastSetOn` alike, so the statements hold for every history.
  The traversals are handled with the induction principles of C13x (`invokeRenderCallbacks_any`,
  `addRow_any`, `rowAddCell_any`, ...).
-/
import Tabmodel.Proofs.C12hRun
import Tabmodel.Props.C12
namespace Tab
open World C13 C13x C12h

/-! ## Refinement: a get returns the last value set on exactly that owner -/

/-- For EVERY key `k` (user or private) that no callback of the history may write — `.setProp`
    callbacks on other keys, failing callbacks and the measuring callbacks (for a user `k`) are all
    allowed — and every owner `o`, existing or not: after the history, `o` reports for `k` the value
    last set on `o`.  So a set on one owner never changes another (tables, columns incl. the defaults
    column, rows, cells, copies and their originals); growing the table never disturbs a column;
    appending cells never disturbs existing cells; renders never disturb `k`. -/
theorem c12h_refine_key (dw : Measure) (ops : List BuildOp) (k : Key) (hq : QuietFor k ops) (hc : CellsOk ops)
    (o : Target) : (run dw ops).getProp o k = lastSetOn ops o k :=
  (refines_runFrom dw k ops {} {} (refines_empty k) (quiet_iff_cbsAll.mpr (cbsAll_empty _)) allNodup_empty hq hc).val o

/-- The user keys (`Key.user _`, `.align`, `.skipable`) in a history whose user callbacks only log or
    fail, measuring callbacks allowed. -/
theorem c12h_refine (dw : Measure) (ops : List BuildOp) (hs : NoSetCbs ops) (hc : CellsOk ops)
    (o : Target) (k : Key) (hk : k.isUser = true) : (run dw ops).getProp o k = lastSetOn ops o k :=
  c12h_refine_key dw ops k (quietFor_of_noSetCbs hs hk) hc o

/-- Every key, private ones included, when all callbacks only log or fail. -/
theorem c12h_refine_passive (dw : Measure) (ops : List BuildOp) (hp : Passive ops) (hc : CellsOk ops)
    (o : Target) (k : Key) : (run dw ops).getProp o k = lastSetOn ops o k :=
  c12h_refine_key dw ops k (quietFor_of_passive hp k) hc o

set_option linter.unusedVariables false in
/-- The world a history builds has no callback that may write `k`, if the history brought none. -/
theorem c12h_quiet_run (dw : Measure) (ops : List BuildOp) (k : Key) (hq : QuietFor k ops) (hc : CellsOk ops) :
    Quiet k (run dw ops) :=
  quiet_iff_cbsAll.mpr (cbsAll_run dw ops hq)

/-! ## `lastSetOn`, read backwards from the last operation -/

/-- a `setProp` on an existing owner is the last set for its (owner, key) and for nothing else -/
theorem c12h_last_set (ops : List BuildOp) (o : Target) (k : Key) (v : Option Val) (o' : Target) (k' : Key) :
    lastSetOn (ops ++ [.setProp o k v]) o' k' =
      if (Shape.runFrom {} ops).hasOwner (PState.after ops).ncopies o = true ∧ o' = o ∧ k' = k then v
      else lastSetOn ops o' k' := by
  rw [lastSetOn, after_snoc, step_val_setProp, after_shape]; rfl

/-- a copy of an existing cell starts with what the original has, for every key; nothing else changes -/
theorem c12h_last_copy (ops : List BuildOp) (r c : Nat) (o : Target) (k : Key) :
    lastSetOn (ops ++ [.copyCell r c]) o k =
      if c < (Shape.runFrom {} ops).width r ∧ o = .copy (PState.after ops).ncopies then lastSetOn ops (.cell r c) k
      else lastSetOn ops o k := by
  rw [lastSetOn, after_snoc, step_val_copyCell, after_shape]; rfl

/-- a ready-made cell value appended to an existing row with a cell slice of length `n` becomes cell
    `(r, n)` and starts with what the value carries; nothing else changes -/
theorem c12h_last_cell (ops : List BuildOp) (r : Nat) (ce : Cell) (o : Target) (k : Key) :
    lastSetOn (ops ++ [.rowAddCell r ce]) o k =
      match ((Shape.runFrom {} ops).row r).cells with
      | some cs =>
        if r < (Shape.runFrom {} ops).rows.length ∧ o = .cell r cs.length then ce.props.get k else lastSetOn ops o k
      | none => lastSetOn ops o k := by
  rw [lastSetOn, after_snoc, step_val_rowAddCell, after_shape]; rfl

/-- every other operation — all building calls, `Row.Add(NewCell(item))`, registration, renders, ... —
    changes no recorded value -/
theorem c12h_last_other (ops : List BuildOp) (op : BuildOp) (h1 : ∀ o k v, op ≠ .setProp o k v)
    (h2 : ∀ r c, op ≠ .copyCell r c) (h3 : ∀ r ce, op ≠ .rowAddCell r ce) (o : Target) (k : Key) :
    lastSetOn (ops ++ [op]) o k = lastSetOn ops o k := by
  simp only [lastSetOn, after_snoc]
  cases op with
  | setProp o k v => exact absurd rfl (h1 o k v)
  | copyCell r c => exact absurd rfl (h2 r c)
  | rowAddCell r ce => exact absurd rfl (h3 r ce)
  | _ => rfl

/-- nothing is set after the empty history -/
theorem c12h_last_nil (o : Target) (k : Key) : lastSetOn [] o k = none := rfl

/-- For an owner that never inherits (table, column, row; cell of a history without ready-made cell
    values), in a history that only addresses existing owners, `lastSetOn` is literally C12's
    `lastSet` of the sets addressed to that owner: the owner's chain is the map `c12_refine` describes,
    fed with exactly its own sets — whatever else happens in the history. -/
theorem c12h_last_eq_lastSet (ops : List BuildOp) (ha : Addressed ops) (o : Target) (hn : NoInherit ops o = true)
    (k : Key) : lastSetOn ops o k = lastSet (setsOn ops o) k := by
  have := foldl_val_sets o k ops {} ha hn
  unfold lastSetOn PState.after lastSet
  rw [this]
  rfl

/-- ... so, for such owners, a get after the history returns the last value set for that key on that
    owner (user keys; callbacks log, fail or measure). -/
theorem c12h_refine_lastSet (dw : Measure) (ops : List BuildOp) (hs : NoSetCbs ops) (hc : CellsOk ops)
    (ha : Addressed ops) (o : Target) (hn : NoInherit ops o = true) (k : Key) (hk : k.isUser = true) :
    (run dw ops).getProp o k = lastSet (setsOn ops o) k := by
  rw [c12h_refine dw ops hs hc o k hk, c12h_last_eq_lastSet ops ha o hn k]

/-! ## One step, in any world: what cannot change a property -/

/-- In ANY world none of whose callbacks may write `k`: every operation other than `setProp`,
    `copyCell` and `rowAddCell` (so: every table-building call incl. those that grow the table, `Row.Add`
    of a new cell on attached or unattached rows, registration of a callback that does not write `k`,
    `Cell.Update`, renders, ...) leaves `k` as it was on every owner. -/
theorem c12h_step_frame (dw : Measure) (w : World) (op : BuildOp) (k : Key) (hq : Quiet k w)
    (hop : op.cbsAll (fun cb => !cb.writes k) = true) (h1 : ∀ o k v, op ≠ .setProp o k v)
    (h2 : ∀ r c, op ≠ .copyCell r c) (h3 : ∀ r ce, op ≠ .rowAddCell r ce) (o : Target) :
    (applyOp dw w op).getProp o k = w.getProp o k ∧ Quiet k (applyOp dw w op) := by
  refine ⟨?_, quiet_applyOp dw hq op hop⟩
  cases op using plain_cases with
  | plain op hp => exact (keeps_applyOp dw k w op hp).val hq o
  | setProp o k v => exact absurd rfl (h1 o k v)
  | copyCell r c => exact absurd rfl (h2 r c)
  | rowAddCell r ce => exact absurd rfl (h3 r ce)
  | regCb o' tm tg cb => exact getProp_of_chain ((regCb_frame dw w o' tm tg cb).1 o) k

/-- `Row.Add` of a ready-made cell value changes `k` on no owner but the new cell. -/
theorem c12h_step_frame_cell (dw : Measure) (w : World) (r : Nat) (ce : Cell) (k : Key) (hq : Quiet k w)
    (hce : ce.cbs.all (fun cb => !cb.writes k) = true) (o : Target)
    (ho : ∀ cs, (w.row r).cells = some cs → o ≠ .cell r cs.length) :
    (applyOp dw w (.rowAddCell r ce)).getProp o k = w.getProp o k := by
  show (rowAddCell dw w r ce).getProp o k = _
  rcases rowAddCell_cases dw w r ce with ⟨hc, _⟩ | ⟨cs, hlt, hcs, ht⟩
  · exact getProp_of_chain (hc.chain o) k
  · rw [(keeps_of_any dw ht).val (quiet_rowAddLinked hq hlt hcs ce hce) o, getProp_rowAddLinked hlt hcs,
      if_neg (ho cs hcs)]

/-- A `setProp` appended to ANY history (any callbacks) changes nothing but its own (owner, key):
    `c12_copy_frame`, `c12_copy_frame_rev`, `c12_frame_*` lifted to histories. -/
theorem c12h_set_frame (dw : Measure) (ops : List BuildOp) (o : Target) (k : Key) (v : Option Val) (o' : Target)
    (k' : Key) (h : o ≠ o' ∨ k ≠ k') :
    (run dw (ops ++ [.setProp o k v])).getProp o' k' = (run dw ops).getProp o' k' := by
  rw [run_snoc]; exact getProp_setProp_frame _ o k v o' k' h

/-- a set on a copy never changes its original, nor the reverse, after any history -/
theorem c12h_copy_frame (dw : Measure) (ops : List BuildOp) (n r c : Nat) (k k' : Key) (v : Option Val) :
    (run dw (ops ++ [.setProp (.copy n) k v])).getProp (.cell r c) k' = (run dw ops).getProp (.cell r c) k' ∧
    (run dw (ops ++ [.setProp (.cell r c) k v])).getProp (.copy n) k' = (run dw ops).getProp (.copy n) k' :=
  ⟨c12h_set_frame dw ops _ k v _ k' (.inl (by simp)), c12h_set_frame dw ops _ k v _ k' (.inl (by simp))⟩

/-- copying an existing cell after any history: the new copy reads like the original on every key, and
    every other owner (the original included) reads as before -/
theorem c12h_copy_snapshot (dw : Measure) (ops : List BuildOp) (r c : Nat)
    (h : (run dw ops).hasObj (.cell r c)) (o : Target) (k : Key) :
    (run dw (ops ++ [.copyCell r c])).getProp o k =
      if o = .copy (run dw ops).copies.length then (run dw ops).getProp (.cell r c) k
      else (run dw ops).getProp o k := by
  rw [run_snoc, getProp_copyCell]
  simp only [h, true_and]

/-! ## One link per key; repeated sets do not grow state -/

/-- After any history, with any callbacks, every owner's chain holds at most one link per key. -/
theorem c12h_nodup (dw : Measure) (ops : List BuildOp) (hc : CellsOk ops) (o : Target) :
    ((run dw ops).chainOf o).keys.Nodup :=
  allNodup_runFrom dw ops {} allNodup_empty hc o

/-- Among the keys selected by `P`, none of which a callback may write: the owner's chain holds no
    more links than there are distinct keys currently set on it. -/
theorem c12h_bounded_keys (dw : Measure) (ops : List BuildOp) (P : Key → Bool)
    (hq : ∀ k, P k = true → QuietFor k ops) (hc : CellsOk ops) (o : Target) :
    (((run dw ops).chainOf o).filter (fun l => P l.1)).length ≤ (keysSetOn ops o).length := by
  refine filter_links_le _ P _ (c12h_nodup dw ops hc o) ?_
  intro k hk hg
  rw [← getProp_eq_get, c12h_refine_key dw ops k (hq k hk) hc o] at hg
  unfold keysSetOn histKeys
  rw [List.mem_filter, List.mem_eraseDups]
  refine ⟨lastSetOn_keys ops o k hg, ?_⟩
  cases h : lastSetOn ops o k with
  | none => exact absurd h hg
  | some v => rfl

/-- User callbacks only log or fail: the links with user keys are no more than the distinct user-settable
    keys currently set on the owner — however often each was set, reset or removed. -/
theorem c12h_bounded (dw : Measure) (ops : List BuildOp) (hs : NoSetCbs ops) (hc : CellsOk ops) (o : Target) :
    (((run dw ops).chainOf o).filter (fun l => l.1.isUser)).length ≤ (keysSetOn ops o).length :=
  c12h_bounded_keys dw ops Key.isUser (fun _ hk => quietFor_of_noSetCbs hs hk) hc o

/-- No callback writes any key (e.g. all callbacks log or fail): the whole chain is bounded. -/
theorem c12h_bounded_all (dw : Measure) (ops : List BuildOp) (hq : ∀ k, QuietFor k ops) (hc : CellsOk ops)
    (o : Target) : ((run dw ops).chainOf o).length ≤ (keysSetOn ops o).length := by
  have := c12h_bounded_keys dw ops (fun _ => true) (fun k _ => hq k) hc o
  rwa [List.filter_eq_self.mpr (fun _ _ => rfl)] at this

/-- ... and that is at most the number of distinct keys the history mentions at all. -/
theorem c12h_keysSetOn_le (ops : List BuildOp) (o : Target) : (keysSetOn ops o).length ≤ (histKeys ops).length :=
  List.length_filter_le _ _

/-! ## Callbacks that write the key: every invocation acts as a set on its target -/

/-- With `.setProp id k v` callbacks allowed (registered anywhere, at any time, also carried by
    ready-made cells): after the history, owner `o` reports for `k` the value given last by a `setProp`
    operation, by inheritance, or by an invocation of a writer callback on `o` recorded in the event
    log, whichever came last. -/
theorem c12h_setprop_callbacks (dw : Measure) (ops : List BuildOp) (f : Nat → Option (Option Val)) (k : Key)
    (hw : WritersOk f k ops) (hc : CellsOk ops) (o : Target) :
    (run dw ops).getProp o k = lastSetOnCb f dw ops k o :=
  runW_refines f k dw ops {} (fun _ => none) (refines_empty k).val (cbsAll_empty _) allNodup_empty hw hc o

/-- `lastSetOnCb`, read backwards from the last operation: its direct effect on the values so far, then
    the invocations it logged, in log order. -/
theorem c12h_lastcb_snoc (dw : Measure) (ops : List BuildOp) (op : BuildOp) (f : Nat → Option (Option Val))
    (k : Key) (o : Target) :
    lastSetOnCb f dw (ops ++ [op]) k o =
      (((run dw (ops ++ [op])).events.drop (run dw ops).events.length).foldl
        (evApply f (run dw (ops ++ [op])).has) (directK k (run dw ops) (lastSetOnCb f dw ops k) op)) o := by
  rw [lastSetOnCb_snoc, stepW_snd, run_snoc]

/-- without writers it is `lastSetOn` -/
theorem c12h_lastcb_quiet (dw : Measure) (ops : List BuildOp) (k : Key) (hq : QuietFor k ops) (hc : CellsOk ops)
    (o : Target) : lastSetOnCb (fun _ => none) dw ops k o = lastSetOn ops o k := by
  rw [← c12h_setprop_callbacks dw ops _ k (writersOk_none k hq) hc o, c12h_refine_key dw ops k hq hc o]

/-- One step in any world whose callbacks fit the writer table and whose chains hold one link per key. -/
theorem c12h_setprop_callbacks_step (dw : Measure) (w : World) (op : BuildOp) (f : Nat → Option (Option Val))
    (k : Key) (hw : CbsAll (Cb.agrees f k) w) (hn : AllNodup w) (hop : op.cbsAll (Cb.agrees f k) = true)
    (hc : op.cellOk = true) (o : Target) :
    (applyOp dw w op).getProp o k =
      (((applyOp dw w op).events.drop w.events.length).foldl (evApply f (applyOp dw w op).has)
        (directK k w (fun o => w.getProp o k) op)) o :=
  stepW_refines f k dw hw hn op hop hc o

/-! ## Non-vacuity -/

/-- a ready-made cell value carrying two properties and a callback of its own -/
def c12hCell : Cell :=
  { item := 0, props := [(.user 5, .user 50), (.align, .align 3)], cbs := { render := [.log 9] } }

/-- One table with texttable's measuring callback, a logging and a failing callback; sets on the table,
    on the defaults column, on column 2 before and after the table grows from 3 to 12 and then 14
    columns, on the last column, on a row, on a cell and on a copy of that cell (both directions); a
    set to nil; a ready-made cell value; a render. -/
def c12hEx : List BuildOp :=
  [ .newTable,
    .regCb (.table 0) .render .cell .dimSetter,
    .regCb (.table 0) .pre .cell (.log 1),
    .regCb (.table 0) .add .row (.fail 2 77),
    .setProp (.table 0) (.user 1) (some (.user 10)),
    .setProp (.column 0 0) (.user 1) (some (.user 11)),            -- the defaults column
    .addHeaders 0 [0, 1, 2],                                       -- row 0; 3 columns
    .setProp (.column 0 2) (.user 1) (some (.user 12)),
    .addRowItems 0 [0, 1, 2, 3, 4, 5, 6, 7, 8, 9, 10, 11],         -- row 1; 12 columns
    .setProp (.column 0 2) .align (some (.align 2)),
    .setProp (.column 0 12) .skipable (some (.bool true)),
    .setProp (.row 1) (.user 1) (some (.user 13)),
    .setProp (.cell 1 3) (.user 1) (some (.user 14)),
    .copyCell 1 3,                                                 -- copy 0
    .setProp (.copy 0) (.user 1) (some (.user 15)),
    .setProp (.cell 1 3) (.user 2) (some (.user 16)),
    .setProp (.table 0) (.user 1) (some (.user 17)),
    .setProp (.table 0) (.user 1) none,
    .rowAdd 1 0,                                                   -- cell (1,12); 13 columns
    .rowAddCell 1 c12hCell,                                        -- cell (1,13); 14 columns
    .setProp (.cell 1 13) (.user 5) none,
    .render 0 ]

/-- the example meets the hypotheses of the theorems above -/
theorem c12hEx_ok : NoSetCbs c12hEx ∧ CellsOk c12hEx ∧ Addressed c12hEx := by decide +kernel
example : Valid c12hEx = true := by decide +kernel
example : NoSetCbs c12hEx := c12hEx_ok.1
example : CellsOk c12hEx := c12hEx_ok.2.1
example : Addressed c12hEx := c12hEx_ok.2.2
example : ¬ Passive c12hEx := by decide +kernel

/-- what the history has set, by evaluation of `lastSetOn` -/
theorem c12h_ex_last :
    lastSetOn c12hEx (.table 0) (.user 1) = none ∧
    lastSetOn c12hEx (.column 0 0) (.user 1) = some (.user 11) ∧
    lastSetOn c12hEx (.column 0 2) (.user 1) = some (.user 12) ∧
    lastSetOn c12hEx (.column 0 2) .align = some (.align 2) ∧
    lastSetOn c12hEx (.column 0 1) (.user 1) = none ∧
    lastSetOn c12hEx (.column 0 12) .skipable = some (.bool true) ∧
    lastSetOn c12hEx (.row 1) (.user 1) = some (.user 13) ∧
    lastSetOn c12hEx (.row 0) (.user 1) = none ∧
    lastSetOn c12hEx (.cell 1 3) (.user 1) = some (.user 14) ∧
    lastSetOn c12hEx (.cell 1 3) (.user 2) = some (.user 16) ∧
    lastSetOn c12hEx (.cell 1 2) (.user 1) = none ∧
    lastSetOn c12hEx (.copy 0) (.user 1) = some (.user 15) ∧
    lastSetOn c12hEx (.copy 0) (.user 2) = none ∧
    lastSetOn c12hEx (.cell 1 13) (.user 5) = none ∧
    lastSetOn c12hEx (.cell 1 13) .align = some (.align 3) := by decide +kernel

-- `c12h_refine` on the example, for every measure `dw`
example (dw : Measure) : (run dw c12hEx).getProp (.column 0 2) (.user 1) = some (.user 12) := by
  rw [c12h_refine dw c12hEx c12hEx_ok.1 c12hEx_ok.2.1 _ _ rfl]; exact c12h_ex_last.2.2.1
example (dw : Measure) : (run dw c12hEx).getProp (.copy 0) (.user 1) = some (.user 15) ∧
    (run dw c12hEx).getProp (.cell 1 3) (.user 1) = some (.user 14) ∧
    (run dw c12hEx).getProp (.copy 0) (.user 2) = none ∧
    (run dw c12hEx).getProp (.cell 1 3) (.user 2) = some (.user 16) ∧
    (run dw c12hEx).getProp (.table 0) (.user 1) = none ∧
    (run dw c12hEx).getProp (.cell 1 13) .align = some (.align 3) := by
  have h := fun o k hk => c12h_refine dw c12hEx c12hEx_ok.1 c12hEx_ok.2.1 o k hk
  obtain ⟨h1, -, -, -, -, -, -, -, h9, h10, -, h12, h13, -, h15⟩ := c12h_ex_last
  exact ⟨(h _ _ rfl).trans h12, (h _ _ rfl).trans h9, (h _ _ rfl).trans h13, (h _ _ rfl).trans h10,
    (h _ _ rfl).trans h1, (h _ _ rfl).trans h15⟩
/-- a concrete measure, to evaluate the model on the example directly -/
def c12hDw : Measure := fun b => b.length
/-- the world the example history builds under that measure, evaluated once -/
theorem c12h_ex_run :
    ((run c12hDw c12hEx).getProp (.column 0 2) (.user 1) = some (.user 12) ∧
      (run c12hDw c12hEx).getProp (.copy 0) (.user 1) = some (.user 15) ∧
      (run c12hDw c12hEx).getProp (.cell 1 3) (.user 1) = some (.user 14) ∧
      ((run c12hDw c12hEx).table 0).nColumns = 14) ∧
    (((run c12hDw c12hEx).chainOf (.cell 1 3)).length = 4 ∧
      ((run c12hDw c12hEx).getProp (.cell 1 3) .ttDims).isSome = true) ∧
    (run c12hDw c12hEx).hasObj (.cell 1 3) ∧ (run c12hDw c12hEx).copies.length = 1 := by decide +kernel
example : (run c12hDw c12hEx).getProp (.column 0 2) (.user 1) = some (.user 12) ∧
    (run c12hDw c12hEx).getProp (.copy 0) (.user 1) = some (.user 15) ∧
    (run c12hDw c12hEx).getProp (.cell 1 3) (.user 1) = some (.user 14) ∧
    ((run c12hDw c12hEx).table 0).nColumns = 14 := c12h_ex_run.1
/-- the measuring callback did write its private keys on the rendered cells: the chain of cell (1,3) has
    four links, two of them with user keys -/
example : ((run c12hDw c12hEx).chainOf (.cell 1 3)).length = 4 ∧
    ((run c12hDw c12hEx).getProp (.cell 1 3) .ttDims).isSome = true := c12h_ex_run.2.1

-- `c12h_refine_key`: a `.setProp` callback on another key is allowed
def c12hExB : List BuildOp :=
  [ .newTable, .regCb (.table 0) .render .cell (.setProp 3 (.user 7) (some (.user 70))),
    .addRowItems 0 [0, 1], .setProp (.cell 0 1) (.user 1) (some (.user 5)), .render 0 ]
example : ¬ NoSetCbs c12hExB := by decide +kernel
example (dw : Measure) : (run dw c12hExB).getProp (.cell 0 1) (.user 1) = some (.user 5) := by
  rw [c12h_refine_key dw c12hExB (.user 1) (by decide +kernel) (by decide +kernel)]; decide +kernel
example (dw : Measure) : Quiet (.user 1) (run dw c12hExB) :=
  c12h_quiet_run dw c12hExB (.user 1) (by decide +kernel) (by decide +kernel)

-- `c12h_refine_passive` / `c12h_bounded_all`: callbacks that log or fail, every key
def c12hExP : List BuildOp :=
  [ .newTable, .regCb (.table 0) .render .cell (.log 1), .regCb (.table 0) .pre .itself (.fail 2 5),
    .addRowItems 0 [0, 1], .setProp (.cell 0 1) .ttDims (some (.dims 3 1)),
    .setProp (.cell 0 1) .ttDims (some (.dims 4 1)), .setProp (.cell 0 1) (.user 1) (some (.user 5)),
    .setProp (.cell 0 1) (.user 1) none, .render 0 ]
example : Passive c12hExP := by decide +kernel
example (dw : Measure) : (run dw c12hExP).getProp (.cell 0 1) .ttDims = some (.dims 4 1) := by
  rw [c12h_refine_passive dw c12hExP (by decide +kernel) (by decide +kernel)]; decide +kernel
example (dw : Measure) : ((run dw c12hExP).chainOf (.cell 0 1)).length ≤ 1 := by
  have := c12h_bounded_all dw c12hExP (quietFor_of_passive (by decide +kernel)) (by decide +kernel) (.cell 0 1)
  have e : keysSetOn c12hExP (.cell 0 1) = [.ttDims] := by decide +kernel
  rwa [e] at this

-- `c12h_last_other`, `c12h_last_eq_lastSet`, `c12h_refine_lastSet`
example (o : Target) (k : Key) : lastSetOn (c12hEx ++ [.render 0]) o k = lastSetOn c12hEx o k :=
  c12h_last_other c12hEx (.render 0) (fun _ _ _ h => by cases h) (fun _ _ h => by cases h) (fun _ _ h => by cases h) o k
example : NoInherit c12hEx (.column 0 2) = true ∧ NoInherit c12hEx (.cell 1 3) = false := by decide +kernel
example : setsOn c12hEx (.table 0) = [(.user 1, some (.user 10)), (.user 1, some (.user 17)), (.user 1, none)] := by
  decide +kernel
example (k : Key) : lastSetOn c12hEx (.table 0) k = lastSet (setsOn c12hEx (.table 0)) k :=
  c12h_last_eq_lastSet c12hEx c12hEx_ok.2.2 (.table 0) rfl k
example (dw : Measure) : (run dw c12hEx).getProp (.column 0 2) .align = some (.align 2) := by
  rw [c12h_refine_lastSet dw c12hEx c12hEx_ok.1 c12hEx_ok.2.1 c12hEx_ok.2.2 _ rfl _ rfl]
  decide +kernel
/-- a set addressed to a column that does not exist yet is a no-op, in the model and in `lastSetOn` -/
def c12hExEarly : List BuildOp :=
  [ .newTable, .setProp (.column 0 2) (.user 1) (some (.user 99)), .addHeaders 0 [0, 1, 2] ]
example : ¬ Addressed c12hExEarly := by decide +kernel
example (dw : Measure) : (run dw c12hExEarly).getProp (.column 0 2) (.user 1) = none := by
  rw [c12h_refine dw c12hExEarly (by decide +kernel) (by decide +kernel) _ _ rfl]; decide +kernel

-- `c12h_step_frame`: growing the example table to 20 columns disturbs no user key on any owner
example (dw : Measure) (o : Target) :
    (applyOp dw (run dw c12hEx) (.addRowItems 0 (List.range 20))).getProp o (.user 1) =
      (run dw c12hEx).getProp o (.user 1) :=
  (c12h_step_frame dw (run dw c12hEx) (.addRowItems 0 (List.range 20)) (.user 1)
    (c12h_quiet_run dw c12hEx (.user 1) (by decide +kernel) c12hEx_ok.2.1) rfl
    (fun _ _ _ h => by cases h) (fun _ _ h => by cases h) (fun _ _ h => by cases h) o).1
-- `c12h_step_frame_cell`: a ready-made cell appended to row 1 leaves row 1 itself alone
example (dw : Measure) :
    (applyOp dw (run dw c12hEx) (.rowAddCell 1 c12hCell)).getProp (.row 1) (.user 1) =
      (run dw c12hEx).getProp (.row 1) (.user 1) :=
  c12h_step_frame_cell dw (run dw c12hEx) 1 c12hCell (.user 1)
    (c12h_quiet_run dw c12hEx (.user 1) (by decide +kernel) c12hEx_ok.2.1) (by decide +kernel) (.row 1)
    (fun _ _ h => by cases h)

-- `c12h_set_frame` / `c12h_copy_frame` / `c12h_copy_snapshot`
example (dw : Measure) : (run dw (c12hEx ++ [.setProp (.column 0 2) (.user 1) none])).getProp (.column 0 3) (.user 1) =
    (run dw c12hEx).getProp (.column 0 3) (.user 1) :=
  c12h_set_frame dw c12hEx _ _ _ _ _ (.inl (by simp))
example : (run c12hDw c12hEx).hasObj (.cell 1 3) := c12h_ex_run.2.2.1
example (k : Key) : (run c12hDw (c12hEx ++ [.copyCell 1 3])).getProp (.copy 1) k = (run c12hDw c12hEx).getProp (.cell 1 3) k := by
  rw [c12h_copy_snapshot c12hDw c12hEx 1 3 c12h_ex_run.2.2.1, c12h_ex_run.2.2.2, if_pos rfl]

-- `c12h_nodup` / `c12h_bounded` / `c12h_bounded_keys`
example (dw : Measure) : ((run dw c12hEx).chainOf (.cell 1 3)).keys.Nodup := c12h_nodup dw c12hEx c12hEx_ok.2.1 _
example : ¬ CellsOk [.newRow, .rowAddCell 0 { item := 0, props := [(.user 1, .user 1), (.user 1, .user 2)] }] := by
  decide +kernel
example (dw : Measure) : (((run dw c12hEx).chainOf (.table 0)).filter (fun l => l.1.isUser)).length = 0 := by
  have := c12h_bounded dw c12hEx c12hEx_ok.1 c12hEx_ok.2.1 (.table 0)
  have e : keysSetOn c12hEx (.table 0) = [] := by decide +kernel
  rw [e] at this
  exact Nat.le_zero.mp this
example (dw : Measure) : (((run dw c12hEx).chainOf (.cell 1 3)).filter (fun l => l.1.isUser)).length ≤ 2 := by
  have := c12h_bounded dw c12hEx c12hEx_ok.1 c12hEx_ok.2.1 (.cell 1 3)
  have e : keysSetOn c12hEx (.cell 1 3) = [.user 1, .user 2] := by decide +kernel
  rwa [e] at this
example (dw : Measure) : (((run dw c12hExB).chainOf (.cell 0 1)).filter (fun l => l.1 == .user 1)).length ≤ 1 := by
  have := c12h_bounded_keys dw c12hExB (fun k => k == .user 1)
    (fun k hk => by have : k = .user 1 := by simpa using hk
                    subst this; decide +kernel) (by decide +kernel) (.cell 0 1)
  have e : keysSetOn c12hExB (.cell 0 1) = [.user 1] := by decide +kernel
  rwa [e] at this
example : histKeys c12hEx = [.user 1, .align, .skipable, .user 2, .user 5] := by decide +kernel

-- `c12h_setprop_callbacks`: a table cell-callback at render time and a row-level add-time callback both
-- write user key 7; sets before and after the firings
def c12hExW : List BuildOp :=
  [ .newTable,
    .regCb (.table 0) .render .cell (.setProp 3 (.user 7) (some (.user 70))),
    .regCb (.table 0) .add .row (.setProp 4 (.user 7) none),
    .regCb (.table 0) .pre .cell (.log 5),
    .newRow, .rowAdd 0 0, .rowAdd 0 1,
    .setProp (.row 0) (.user 7) (some (.user 1)),          -- removed by callback 4 when the row is attached
    .addRow 0 0,
    .setProp (.cell 0 0) (.user 7) (some (.user 2)),       -- overwritten by callback 3 at the render
    .copyCell 0 0,                                         -- copy 0 keeps `user 2`
    .render 0,
    .setProp (.cell 0 1) (.user 7) (some (.user 3)) ]      -- set after the render: stays
def c12hF : Nat → Option (Option Val) := fun id => if id = 3 then some (some (.user 70)) else if id = 4 then some none else none
example : WritersOk c12hF (.user 7) c12hExW := by decide +kernel
example : ¬ QuietFor (.user 7) c12hExW := by decide +kernel
example : CellsOk c12hExW := by decide +kernel
example : lastSetOnCb c12hF c12hDw c12hExW (.user 7) (.row 0) = none ∧
    lastSetOnCb c12hF c12hDw c12hExW (.user 7) (.cell 0 0) = some (.user 70) ∧
    lastSetOnCb c12hF c12hDw c12hExW (.user 7) (.copy 0) = some (.user 2) ∧
    lastSetOnCb c12hF c12hDw c12hExW (.user 7) (.cell 0 1) = some (.user 3) := by decide +kernel
example : (run c12hDw c12hExW).getProp (.cell 0 0) (.user 7) = some (.user 70) := by
  rw [c12h_setprop_callbacks c12hDw c12hExW c12hF (.user 7) (by decide +kernel) (by decide +kernel)]
  decide +kernel
example : (run c12hDw c12hExW).events = [⟨4, .row 0⟩, ⟨5, .cell 0 0⟩, ⟨3, .cell 0 0⟩, ⟨5, .cell 0 1⟩, ⟨3, .cell 0 1⟩] := by
  decide +kernel
example (dw : Measure) (o : Target) : lastSetOnCb (fun _ => none) dw c12hEx (.user 1) o = lastSetOn c12hEx o (.user 1) :=
  c12h_lastcb_quiet dw c12hEx (.user 1) (by decide +kernel) c12hEx_ok.2.1 o
example (o : Target) : (applyOp c12hDw (run c12hDw c12hExW) (.render 0)).getProp o (.user 7) =
    (((applyOp c12hDw (run c12hDw c12hExW) (.render 0)).events.drop (run c12hDw c12hExW).events.length).foldl
      (evApply c12hF (applyOp c12hDw (run c12hDw c12hExW) (.render 0)).has)
      (directK (.user 7) (run c12hDw c12hExW) (fun o => (run c12hDw c12hExW).getProp o (.user 7)) (.render 0))) o :=
  c12h_setprop_callbacks_step c12hDw (run c12hDw c12hExW) (.render 0) c12hF (.user 7)
    (cbsAll_run c12hDw c12hExW (by decide +kernel)) (c12h_nodup c12hDw c12hExW (by decide +kernel)) rfl rfl o

end Tab
