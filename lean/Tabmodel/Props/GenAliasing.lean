/-
  Regenerated facts (C02, C12, C13): what the model takes for granted by its representation.

  The model holds a property chain as an immutable list per owner, the row list handed out by
  `AllRows` as a value, and a column as something addressed by (table, index).  In Go these are
  pointer structures: chains share their tails between owners (a by-value copy of a cell shares
  the whole chain with its original), `AllRows` could hand out the table's own slice, and a column
  handle could be a pointer into a slice of values that moves when the slice grows.  The theorems
  about independent owners (`c12_copy_frame`, `c12h_copy_frame`), the row list being a copy
  (`c02_allrows_copy`) and stable column handles (`c12_handle`, `c13_live`) are therefore true "by
  representation" in the model; what makes the representation faithful is re-extracted from the
  source on every check and stated here.  (Each of these was once false: the defects D13, and
  D14/D15 of DESIGN.md section 3.)
-/
import Tabmodel.Generated.Aliasing
namespace Tab
open Generated

/-- A link of a property chain is never written once built: no assignment in the core package
    goes through a field of a chain-link struct (links are built by composite literals only, and
    removal rebuilds the links above the removed one).  Sharing tails between owners is then
    unobservable, which is what lets the model give every owner its own list. -/
theorem c12_links_immutable : chainLinkWrites = [] := by decide +kernel

/-- the chain link type is recognised (otherwise the fact above would be vacuous) -/
theorem c12_links_recognised : chainLinkTypes ≠ [] := by decide +kernel

/-- `AllRows` returns a slice of its own making, never (a slice of) a field of the table. -/
theorem c02_allrows_own_slice : allRowsOwnSlice = true ∧ allRowsReturns ≠ ["(AllRows not found)"] := by decide +kernel

/-- The table's column list holds pointers: `Column(n)` is the live column, and stays the same
    object when the list grows. -/
theorem c13_columns_are_pointers : columnListElem.toList.head? = some (Char.ofNat 42) := by decide +kernel

end Tab
