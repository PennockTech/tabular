/-
  C07 — JSON output is valid JSON that mirrors the table, or an error and nothing.

  Specification-side definitions (`Tok`, `tokBytes`, `parseArr`, `objects`, `jsonToks`,
  `JsonOK`, `HeaderOK`, `MarshalOK`, `headerDefect`) are in `Tabmodel/Spec/Json.lean`,
  `WFShape` in `Tabmodel/Spec/Shape.lean`; helper lemmas in `Tabmodel/Proofs/C07.lean`.

  `js` is `json.Marshal` of a Go string (arbitrary function); a cell's `json` field is
  `json.Marshal(item)` (`none` = marshal error).  Key and value texts are opaque, so the
  token stream is given positionally (`jsonToks`) and tied to the bytes by `c07_tokens`.
-/
import Tabmodel.Model.Render
import Tabmodel.Proofs.C07
namespace Tab
open Emit C07

/-- The renderer succeeds exactly on the tables satisfying `HeaderOK`, with every row at most
`ncols` cells long and every written cell's item marshalling. -/
theorem c07_ok_iff (js : JsonStr) (v : RTable) :
    (renderJson js v).res = .ok () ↔
      HeaderOK v ∧ (∀ cs, some cs ∈ v.rows → cs.length ≤ v.ncols) ∧ MarshalOK v := by
  constructor
  · intro hok
    have hh : HeaderOK v := by
      apply Classical.byContradiction
      intro hn
      obtain ⟨e, he, _⟩ := renderJson_header_err js hn
      rw [he] at hok; cases hok
    exact ⟨hh, (renderJson_run js hh).good_of_ok hok⟩
  · rintro ⟨hh, hr⟩
    exact ((renderJson_run js hh).ok hr).res

/-- Converse of `c07_valid_mirror`: under the table invariant, success implies `JsonOK`. -/
theorem c07_ok_jsonOK (js : JsonStr) (v : RTable) (hw : WFShape v)
    (hok : (renderJson js v).res = .ok ()) : JsonOK v := by
  obtain ⟨h1, _, h3⟩ := (c07_ok_iff js v).1 hok
  exact ⟨h1, hw, h3⟩

/-- Chunk/token correspondence: whenever rendering succeeds, the bytes written are exactly the bytes of
the positional token stream `jsonToks js v`. -/
theorem c07_tokens (js : JsonStr) (v : RTable) (hok : (renderJson js v).res = .ok ()) :
    (renderJson js v).chunks.flatten = (jsonToks js v).flatMap tokBytes := by
  obtain ⟨hh, hr⟩ := (c07_ok_iff js v).1 hok
  exact ((renderJson_run js hh).ok hr).output

/-- On a `JsonOK` table rendering succeeds, its output is the token stream `jsonToks js v`, and that
stream parses, by the array-of-objects grammar, to exactly `objects js v`. -/
theorem c07_valid_mirror (js : JsonStr) (v : RTable) (h : JsonOK v) :
    (renderJson js v).res = .ok () ∧
    (renderJson js v).output = (jsonToks js v).flatMap tokBytes ∧
    parseArr (jsonToks js v) = some (objects js v) := by
  have hok : (renderJson js v).res = .ok () := (c07_ok_iff js v).2 ⟨h.1, h.2.1.2, h.2.2⟩
  exact ⟨hok, c07_tokens js v hok, parseArr_jsonToks js v⟩

/-- The property as stated: whenever JSON rendering returns no error, the output is the bytes of a
token stream that parses to one object per non-separator row, mirroring the table. -/
theorem c07_ok_valid_mirror (js : JsonStr) (v : RTable) (hok : (renderJson js v).res = .ok ()) :
    (renderJson js v).output = (jsonToks js v).flatMap tokBytes ∧
    parseArr (jsonToks js v) = some (objects js v) :=
  ⟨c07_tokens js v hok, parseArr_jsonToks js v⟩

/-- Each object is a genuine map: when the ENCODED keys of the first `ncols` headers are pairwise distinct,
no object repeats a key.  For an injective `js` this is implied by `JsonOK` (second theorem); Go's
`json.Marshal` is injective on valid UTF-8 strings only (every invalid byte becomes U+FFFD). -/
theorem c07_keys_distinct (js : JsonStr) (v : RTable) (hw : WFShape v)
    (hd : ∀ i < v.ncols, ∀ j < i, js (headerText v j) ≠ js (headerText v i)) :
    ∀ o ∈ objects js v, (o.map Prod.fst).Nodup := by
  intro o ho
  unfold objects at ho
  obtain ⟨r, hr, hro⟩ := List.mem_filterMap.1 ho
  cases r with
  | none => cases hro
  | some cs =>
    simp only [Option.map_some, Option.some.injEq] at hro
    subst hro
    exact members_keys_nodup js v cs (hw.2 cs hr) hd

theorem c07_keys_distinct_inj (js : JsonStr) (v : RTable) (h : JsonOK v) (hinj : Function.Injective js) :
    ∀ o ∈ objects js v, (o.map Prod.fst).Nodup :=
  c07_keys_distinct js v h.2.1 (fun i hi j hj he => h.1.2.2.2.2.2.1 i hi j hj (hinj he))

/-- Error classification, in the order the code checks.  Every header-phase error writes nothing.
The column clause is exact: the first column (in order) with a defect decides the class, an empty
text before a duplicate before a non-bool skipable. -/
theorem c07_errors (js : JsonStr) (v : RTable) :
    (v.ncols = 0 → renderJson js v = ⟨[], .error (.err .noColumns)⟩) ∧
    (1 ≤ v.ncols → boolOrNone (v.colSkip.getD 0 none) = false →
      renderJson js v = ⟨[], .error (.err .nonboolSkipable)⟩) ∧
    (1 ≤ v.ncols → boolOrNone (v.colSkip.getD 0 none) = true → v.header = none →
      renderJson js v = ⟨[], .error (.err .noHeaders)⟩) ∧
    (1 ≤ v.ncols → boolOrNone (v.colSkip.getD 0 none) = true →
      ∀ hs, v.header = some hs → hs.length < v.ncols →
      renderJson js v = ⟨[], .error (.err .tooFewHeaders)⟩) ∧
    (1 ≤ v.ncols → boolOrNone (v.colSkip.getD 0 none) = true →
      ∀ hs, v.header = some hs → v.ncols ≤ hs.length →
      ∀ i < v.ncols, (∀ j < i, headerDefect v j = none) → ∀ e, headerDefect v i = some e →
      renderJson js v = ⟨[], .error (.err e)⟩) ∧
    (HeaderOK v → ∀ s, (renderJson js v).res = .error s →
      ((s = .err .structural ∧ ∃ cs, some cs ∈ v.rows ∧ v.ncols < cs.length) ∨ s = .err .marshal) ∧
      ∃ ts, ts <+: jsonToks js v ∧ (renderJson js v).output = ts.flatMap tokBytes) ∧
    (HeaderOK v → (∀ cs, some cs ∈ v.rows → cs.length ≤ v.ncols) → ¬ MarshalOK v →
      (renderJson js v).res = .error (.err .marshal)) := by
  refine ⟨renderJson_noColumns js, renderJson_col0 js, renderJson_noHeaders js,
    fun h1 h0 hs hh hl => renderJson_tooFew js h1 h0 hh hl, ?_, ?_, ?_⟩
  · intro h1 h0 hs hh hl i hi hfine e hd
    obtain ⟨d, p⟩ := preOK_of h1 h0 hh hl
    exact renderJson_defect js p hi hfine hd
  · intro hh s herr
    exact (renderJson_run js hh).of_error herr
  · intro hh hshort hm
    cases hres : (renderJson js v).res with
    | ok u =>
      exact absurd ((c07_ok_iff js v).1 hres).2.2 hm
    | error s =>
      rcases ((renderJson_run js hh).of_error hres).1 with ⟨_, cs, hcs, hl⟩ | h2
      · have := hshort cs hcs; omega
      · rw [h2]

/-- The plain reading of the header clauses: a missing/short header, an empty or repeated header text
among the first `ncols`, or a non-boolean skipable on column 0 or any column makes rendering fail with a
header-phase error class before anything is written. -/
theorem c07_errors_header (js : JsonStr) (v : RTable)
    (h : v.ncols = 0 ∨ boolOrNone (v.colSkip.getD 0 none) = false ∨ v.header = none ∨
      (headerCells v).length < v.ncols ∨
      (∃ i < v.ncols, headerText v i = []) ∨
      (∃ i < v.ncols, ∃ j < i, headerText v j = headerText v i) ∨
      (∃ i < v.ncols, boolOrNone (v.colSkip.getD (i + 1) none) = false)) :
    ∃ e, renderJson js v = ⟨[], .error (.err e)⟩ ∧
      e ∈ [ErrClass.noColumns, .nonboolSkipable, .noHeaders, .tooFewHeaders, .emptyHeader, .dupHeader] := by
  apply renderJson_header_err js
  rintro ⟨h1, h2, h3, h4, h5, h6, h7⟩
  rcases h with h | h | h | h | ⟨i, hi, h⟩ | ⟨i, hi, j, hj, h⟩ | ⟨i, hi, h⟩
  · rw [h] at h1; cases h1
  · rw [h] at h2; cases h2
  · rw [h] at h3; cases h3
  · exact Nat.not_lt.2 h4 h
  · exact h5 i hi h
  · exact h6 i hi j hj h
  · rw [h7 i hi] at h; cases h

/-- `Render` returns no text when rendering fails. -/
theorem c07_render_empty (js : JsonStr) (v : RTable) (s : Stop)
    (h : (renderJson js v).res = .error s) : (World.renderString (renderJson js v)).1 = [] := by
  unfold World.renderString; rw [h]

/-- The JSON renderer never panics (no index goes out of range), on any view at all; in particular
under `WFShape`. -/
theorem c07_no_panic (js : JsonStr) (v : RTable) : ∀ s, (renderJson js v).res ≠ .error (.panic s) :=
  C09h.renderJson_noPanic js v

/-! ## Non-vacuity: concrete views (evaluated by `decide`/`rfl`, with a toy string encoder) -/

/-- a toy string encoder for evaluation: wrap in double quotes -/
def c07JsQ : JsonStr := fun s => [34] ++ s ++ [34]

namespace C07Ex
def c1 : RCell := { text := [49], json := some [49] }                          -- item 1
def c2 : RCell := { text := [50], json := some [50] }                          -- item 2
def cObj : RCell := { text := [120], json := some [123, 125] }                 -- encodes as {}, text "x"
def cObjE : RCell := { text := [], json := some [123, 125] }                   -- encodes as {}, empty text
def cNil : RCell := { text := [], empty := true, json := some [110, 117, 108, 108] }  -- nil item: null
def cBad : RCell := { text := [63], json := none }                             -- does not marshal
def hA : RCell := { text := [97] }
def hB : RCell := { text := [98] }
def hE : RCell := { text := [] }
def kA : Bytes := [34, 97, 34]
def kB : Bytes := [34, 98, 34]

def mk (rows : List (Option (List RCell))) : RTable :=
  { ncols := 2, header := some [hA, hB], rows := rows, colAlign := [], colSkip := [] }

def tLead : RTable := mk [none, some [c1, c2], some [c2]]
def tTrail : RTable := mk [some [c1], none]
def tConsec : RTable := mk [some [c1], none, none, some [c2]]
def tOnly : RTable := mk [none]
def tNoRows : RTable := mk []
/-- column 0 says skipable, column 2 overrides with false: the empty cell is dropped in column 1 only -/
def tSkip : RTable :=
  { mk [some [cNil, cNil], some [cNil]] with colSkip := [some (.bool true), none, some (.bool false)] }
def tObj : RTable := mk [some [cObj, cObjE]]
def tMix : RTable :=
  { mk [none, some [cObj, cNil], none, none, some [c1], some [], some [cNil, cNil], none] with
    colSkip := [none, none, some (.bool true)] }

-- hypotheses of c07_valid_mirror / c07_tokens / c07_ok_jsonOK hold
example : JsonOK tLead ∧ JsonOK tTrail ∧ JsonOK tConsec ∧ JsonOK tOnly ∧ JsonOK tNoRows ∧
    JsonOK tSkip ∧ JsonOK tObj ∧ JsonOK tMix := by decide +kernel
example : WFShape tMix := by decide +kernel
example : (renderJson c07JsQ tMix).res = .ok () := by rfl

-- separators leading / trailing / consecutive / only / no rows: parse results and bytes
example : parseArr (jsonToks c07JsQ tLead) = some [[(kA, [49]), (kB, [50])], [(kA, [50])]] := by decide +kernel
example : parseArr (jsonToks c07JsQ tTrail) = some [[(kA, [49])]] := by decide +kernel
example : parseArr (jsonToks c07JsQ tConsec) = some [[(kA, [49])], [(kA, [50])]] := by decide +kernel
example : parseArr (jsonToks c07JsQ tOnly) = some [] := by decide +kernel
example : parseArr (jsonToks c07JsQ tNoRows) = some [] := by decide +kernel
-- output: "[\n\n{\"a\": 1, \"b\": 2},\n{\"a\": 2}\n]\n"
example : (renderJson c07JsQ tLead).output = [91, 10, 10, 123, 34, 97, 34, 58, 32, 49, 44, 32, 34, 98, 34, 58, 32, 50, 125, 44, 10, 123, 34, 97, 34, 58, 32, 50, 125, 10, 93, 10] := by decide +kernel
-- output: "[\n{\"a\": 1}\n\n]\n"
example : (renderJson c07JsQ tTrail).output = [91, 10, 123, 34, 97, 34, 58, 32, 49, 125, 10, 10, 93, 10] := by decide +kernel
-- output: "[\n{\"a\": 1},\n\n\n{\"a\": 2}\n]\n"
example : (renderJson c07JsQ tConsec).output = [91, 10, 123, 34, 97, 34, 58, 32, 49, 125, 44, 10, 10, 10, 123, 34, 97, 34, 58, 32, 50, 125, 10, 93, 10] := by decide +kernel
-- output: "[\n\n\n]\n"
example : (renderJson c07JsQ tOnly).output = [91, 10, 10, 10, 93, 10] := by decide +kernel
-- skipable: column 1 inherits true from column 0, column 2 has its own false
example : parseArr (jsonToks c07JsQ tSkip) = some [[(kB, [110, 117, 108, 108])], []] := by decide +kernel
-- output: "[\n{\"b\": null},\n{}\n]\n"
example : (renderJson c07JsQ tSkip).output = [91, 10, 123, 34, 98, 34, 58, 32, 110, 117, 108, 108, 125, 44, 10, 123, 125, 10, 93, 10] := by decide +kernel
-- `{}` falls back to the text only when the text is non-empty
example : parseArr (jsonToks c07JsQ tObj) = some [[(kA, [34, 120, 34]), (kB, [123, 125])]] := by decide +kernel
example : parseArr (jsonToks c07JsQ tMix) =
    some [[(kA, [34, 120, 34])], [(kA, [49])], [], [(kA, [110, 117, 108, 108])]] := by decide +kernel

-- c07_errors / c07_errors_header / c07_render_empty: each clause's hypotheses are satisfiable
def e0 : RTable := { mk [] with ncols := 0 }
def eCol0 : RTable := { mk [] with colSkip := [some (.user 7)] }
def eNoHdr : RTable := { mk [] with header := none }
def eFew : RTable := { mk [] with header := some [hA] }
def eEmpty : RTable := { mk [] with header := some [hA, hE] }
def eDup : RTable := { mk [] with header := some [hA, hA] }
def eSkip : RTable := { mk [] with colSkip := [none, none, some (.align 1)] }
def eMarshal : RTable := mk [some [c1, c2], none, some [c1, cBad], some [c1]]
def eLong : RTable := mk [some [c1], some [c1, c2, c1]]

example : e0.ncols = 0 := by decide +kernel
example : 1 ≤ eCol0.ncols ∧ boolOrNone (eCol0.colSkip.getD 0 none) = false := by decide +kernel
example : 1 ≤ eNoHdr.ncols ∧ boolOrNone (eNoHdr.colSkip.getD 0 none) = true ∧ eNoHdr.header = none := by decide +kernel
example : eFew.header = some [hA] ∧ [hA].length < eFew.ncols := by decide +kernel
example : (∀ j < 1, headerDefect eEmpty j = none) ∧ headerDefect eEmpty 1 = some .emptyHeader := by decide +kernel
example : (∀ j < 1, headerDefect eDup j = none) ∧ headerDefect eDup 1 = some .dupHeader := by decide +kernel
example : (∀ j < 1, headerDefect eSkip j = none) ∧ headerDefect eSkip 1 = some .nonboolSkipable := by decide +kernel
example : ∃ i < eDup.ncols, ∃ j < i, headerText eDup j = headerText eDup i := by decide +kernel
example : HeaderOK eMarshal ∧ WFShape eMarshal ∧ ¬ MarshalOK eMarshal := by decide +kernel
-- output: "[\n{\"a\": 1, \"b\": 2},\n\n{\"a\": 1, \"b\": "
example : (renderJson c07JsQ eMarshal).res = .error (.err .marshal) ∧
    (renderJson c07JsQ eMarshal).output = [91, 10, 123, 34, 97, 34, 58, 32, 49, 44, 32, 34, 98, 34, 58, 32, 50, 125, 44, 10, 10, 123, 34, 97, 34, 58, 32, 49, 44, 32, 34, 98, 34, 58, 32] ∧
    (World.renderString (renderJson c07JsQ eMarshal)).1 = [] := ⟨by rfl, by decide +kernel, by decide +kernel⟩
example : HeaderOK eLong ∧ (renderJson c07JsQ eLong).res = .error (.err .structural) := ⟨by decide +kernel, by rfl⟩
example : (renderJson c07JsQ eDup).res = .error (.err .dupHeader) := by rfl

-- the theorems applied to the concrete views
example := c07_valid_mirror c07JsQ tMix (by decide +kernel)
example := c07_tokens c07JsQ tConsec (by rfl)
example := c07_ok_jsonOK c07JsQ tTrail (by decide +kernel) (by rfl)
example := c07_keys_distinct c07JsQ tMix (by decide +kernel) (by decide +kernel)
example : Function.Injective c07JsQ := by
  intro a b h; simpa [c07JsQ] using h
example := (c07_errors c07JsQ e0).1 (by decide +kernel)
example := (c07_errors c07JsQ eCol0).2.1 (by decide +kernel) (by decide +kernel)
example := (c07_errors c07JsQ eNoHdr).2.2.1 (by decide +kernel) (by decide +kernel) (by decide +kernel)
example := (c07_errors c07JsQ eFew).2.2.2.1 (by decide +kernel) (by decide +kernel) [hA] (by decide +kernel) (by decide +kernel)
example := (c07_errors c07JsQ eDup).2.2.2.2.1 (by decide +kernel) (by decide +kernel) [hA, hA] (by decide +kernel) (by decide +kernel)
  1 (by decide +kernel) (by decide +kernel) .dupHeader (by decide +kernel)
example := (c07_errors c07JsQ eMarshal).2.2.2.2.2.1 (by decide +kernel) (.err .marshal) (by rfl)
example := (c07_errors c07JsQ eMarshal).2.2.2.2.2.2 (by decide +kernel) (show WFShape eMarshal by decide +kernel).2 (by decide +kernel)
example := c07_errors_header c07JsQ eEmpty (.inr (.inr (.inr (.inr (.inl (by decide +kernel))))))
example := c07_render_empty c07JsQ eMarshal (.err .marshal) (by rfl)
end C07Ex

end Tab
