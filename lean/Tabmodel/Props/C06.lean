/- C06 — HTML output has a fixed tag skeleton and cell text can never become markup.
   Spec side: a tokenizer, an entity decoder and the literal expected token list. -/
import Tabmodel.Model.Html
import Tabmodel.Proofs.C06Lit
import Tabmodel.Proofs.C06Esc
import Tabmodel.Proofs.Lists
namespace Tab

/-! ### Spec definitions -/

/-- An HTML token: a tag (its full source text, `<` … `>` inclusive) or a run of text. -/
inductive HTok
  | tag (body : Bytes)
  | text (body : Bytes)
  deriving DecidableEq, Repr

def HTok.body : HTok → Bytes
  | .tag b => b
  | .text b => b

/-- a pending text run becomes a token only when it is non-empty -/
def textTok (s : Bytes) : List HTok := if s = [] then [] else [.text s]

/-- Tokenizer state machine. `inTag = false`: collecting text in `acc` up to the next `<`;
    `inTag = true`: collecting a tag (`acc` starts with the `<`) up to and including the next `>`.
    An unterminated tag at end of input is still a tag token (nothing is dropped). -/
def tokGo : Bool → Bytes → Bytes → List HTok
  | false, acc, [] => textTok acc
  | true, acc, [] => [.tag acc]
  | false, acc, b :: bs =>
    if b = 60 then textTok acc ++ tokGo true [60] bs else tokGo false (acc ++ [b]) bs
  | true, acc, b :: bs =>
    if b = 62 then .tag (acc ++ [62]) :: tokGo false [] bs else tokGo true (acc ++ [b]) bs

def tokenize (s : Bytes) : List HTok := tokGo false [] s

/-- concatenation of token sources: `tokenize` loses nothing (`c06_tokenize_lossless`) -/
def untok (l : List HTok) : Bytes := l.flatMap HTok.body

/-- Inverse of `htmlEscape` on the six entities it produces; every other byte is kept. -/
def htmlDecode : Bytes → Bytes
  | 38 :: 35 :: 51 :: 52 :: 59 :: r => 34 :: htmlDecode r    -- &#34;
  | 38 :: 97 :: 109 :: 112 :: 59 :: r => 38 :: htmlDecode r  -- &amp;
  | 38 :: 35 :: 51 :: 57 :: 59 :: r => 39 :: htmlDecode r    -- &#39;
  | 38 :: 35 :: 52 :: 51 :: 59 :: r => 43 :: htmlDecode r    -- &#43;
  | 38 :: 108 :: 116 :: 59 :: r => 60 :: htmlDecode r        -- &lt;
  | 38 :: 103 :: 116 :: 59 :: r => 62 :: htmlDecode r        -- &gt;
  | b :: r => b :: htmlDecode r
  | [] => []

/-- the six entities -/
def htmlEntities : List Bytes :=
  [bytesOfString "&#34;", bytesOfString "&amp;", bytesOfString "&#39;",
   bytesOfString "&#43;", bytesOfString "&lt;", bytesOfString "&gt;"]

/-- what the escaper does to NUL: U+FFFD -/
def nulToFFFD (s : Bytes) : Bytes := s.flatMap (fun b => if b = 0 then [0xEF, 0xBF, 0xBD] else [b])

/-- ` name="` escaped-value `"` -/
def attrBytes (pre : String) (val : Bytes) : Bytes :=
  bytesOfString pre ++ htmlEscape val ++ bytesOfString "\""

/-- `<table[ class="…"][ id="…"]>` -/
def tableOpenTag (cfg : HtmlCfg) : Bytes :=
  bytesOfString "<table" ++
  (if cfg.cls != [] then attrBytes " class=\"" cfg.cls else []) ++
  (if cfg.id != [] then attrBytes " id=\"" cfg.id else []) ++
  bytesOfString ">"

/-- `<tr[ class="…"]>` for row number `n` (0 = header row) -/
def trOpenTag (cfg : HtmlCfg) (n : Nat) : Bytes :=
  bytesOfString "<tr" ++
  (match cfg.rowClass with
   | some f => attrBytes " class=\"" (f n)
   | none => []) ++
  bytesOfString ">"

/-- `<th>` escaped-text `</th>` (no text token for an empty cell) -/
def cellToks (tag : String) (c : RCell) : List HTok :=
  [.tag (bytesOfString ("<" ++ tag ++ ">"))] ++ textTok (htmlEscape c.text) ++
  [.tag (bytesOfString ("</" ++ tag ++ ">"))]

/-- newline + indent, `<tr…>`, the cells, `</tr>` -/
def rowToks (cfg : HtmlCfg) (n : Nat) (tag : String) (cells : List RCell) : List HTok :=
  [.text (bytesOfString "\n    "), .tag (trOpenTag cfg n)] ++ cells.flatMap (cellToks tag) ++
  [.tag (bytesOfString "</tr>")]

/-- The literal expected token list. -/
def skeleton (cfg : HtmlCfg) (v : RTable) : List HTok :=
  [.tag (tableOpenTag cfg)] ++
  (if cfg.caption != [] then
    [.text (bytesOfString "\n  "), .tag (bytesOfString "<caption>"),
     .text (htmlEscape cfg.caption), .tag (bytesOfString "</caption>")]
   else []) ++
  [.text (bytesOfString "\n  "), .tag (bytesOfString "<thead>")] ++
  rowToks cfg 0 "th" (v.header.getD []) ++
  [.text (bytesOfString "\n  "), .tag (bytesOfString "</thead>"),
   .text (bytesOfString "\n  "), .tag (bytesOfString "<tbody>")] ++
  (v.rows.zipIdx.flatMap (fun (r, i) => match r with
    | none => []
    | some cells => rowToks cfg (i + 1) "td" cells)) ++
  [.text (bytesOfString "\n  "), .tag (bytesOfString "</tbody>"),
   .text (bytesOfString "\n"), .tag (bytesOfString "</table>"), .text (bytesOfString "\n")]

/-- the arguments at which the row-class generator is evaluated, in order:
    0 for the header row, then `i+1` for every non-separator row `rows[i]` -/
def rowClassArgs (v : RTable) : List Nat :=
  0 :: v.rows.zipIdx.filterMap (fun (r, i) => if r.isSome then some (i + 1) else none)

/-- the tag literals of the template other than `<table…>` and `<tr…>` -/
def fixedLiteralTags : List Bytes :=
  [bytesOfString "<caption>", bytesOfString "</caption>", bytesOfString "<thead>",
   bytesOfString "</thead>", bytesOfString "<tbody>", bytesOfString "</tbody>",
   bytesOfString "</table>", bytesOfString "</tr>", bytesOfString "<th>", bytesOfString "</th>",
   bytesOfString "<td>", bytesOfString "</td>"]

/-- the fixed tag forms of the template for this configuration and table -/
def IsFixedTag (cfg : HtmlCfg) (v : RTable) (t : Bytes) : Prop :=
  t = tableOpenTag cfg ∨ (∃ n ∈ rowClassArgs v, t = trOpenTag cfg n) ∨ t ∈ fixedLiteralTags

/-- a `<tr` opening tag (with or without attributes) -/
def isTrOpen : HTok → Bool
  | .tag b => (bytesOfString "<tr").isPrefixOf b
  | .text _ => false

/-! ### The tokenizer -/

private theorem textTok_nil : textTok [] = [] := rfl
private theorem textTok_ne {s : Bytes} (h : s ≠ []) : textTok s = [.text s] := if_neg h

private theorem tokGo_text_app (s acc rest : Bytes) (h : ∀ b ∈ s, b ≠ 60) :
    tokGo false acc (s ++ rest) = tokGo false (acc ++ s) rest := by
  induction s generalizing acc with
  | nil => simp
  | cons b s ih =>
    rw [List.cons_append, tokGo, if_neg (h b (by simp)), ih _ (fun c hc => h c (by simp [hc]))]
    simp

private theorem tokGo_tag_app (s acc rest : Bytes) (h : ∀ b ∈ s, b ≠ 62) :
    tokGo true acc (s ++ rest) = tokGo true (acc ++ s) rest := by
  induction s generalizing acc with
  | nil => simp
  | cons b s ih =>
    rw [List.cons_append, tokGo, if_neg (h b (by simp)), ih _ (fun c hc => h c (by simp [hc]))]
    simp

private theorem tokGo_text_esc (x acc rest : Bytes) :
    tokGo false acc (htmlEscape x ++ rest) = tokGo false (acc ++ htmlEscape x) rest :=
  tokGo_text_app _ _ _ (fun b hb => (htmlEscape_inert x b hb).1)

private theorem untok_textTok (s : Bytes) : untok (textTok s) = s := by
  unfold textTok; split <;> simp_all [untok, HTok.body]

private theorem untok_tokGo (inTag : Bool) (acc s : Bytes) : untok (tokGo inTag acc s) = acc ++ s := by
  induction s generalizing inTag acc with
  | nil =>
    cases inTag
    · rw [tokGo, untok_textTok, List.append_nil]
    · simp [tokGo, untok, HTok.body]
  | cons b s ih =>
    cases inTag <;> rw [tokGo] <;> split
    · simp only [untok, List.flatMap_append] at ih ⊢
      rw [← untok, untok_textTok, ih]; simp_all
    · rw [ih]; simp
    · simp only [untok, List.flatMap_cons, HTok.body] at ih ⊢
      rw [ih]; simp_all
    · rw [ih]; simp

/-- The tokenizer drops nothing: the token sources concatenate to the input. -/
theorem c06_tokenize_lossless (s : Bytes) : untok (tokenize s) = s :=
  untok_tokGo false [] s

/-! ### The escaper and the decoder -/

/-- Escaped strings are inert: no `<`, `>`, `"`, `'` byte, and every `&` starts one of the six entities. -/
theorem c06_escape_inert (s : Bytes) :
    (∀ b ∈ htmlEscape s, b ≠ 60 ∧ b ≠ 62 ∧ b ≠ 34 ∧ b ≠ 39) ∧
    (∀ p r, htmlEscape s = p ++ 38 :: r → ∃ e ∈ htmlEntities, e <+: 38 :: r) := by
  refine ⟨fun b hb => htmlEscape_inert s b hb, fun p r h => ?_⟩
  have : htmlEntities = escEntities := by unfold htmlEntities escEntities; simp only [html_lits]
  rw [this]
  exact htmlEscape_amp s p r h

/-- off the `&` the decoder copies: the premises of this equation of `htmlDecode` are the six entity
    patterns, which all start with `&` -/
private theorem htmlDecode_cons_ne (b : UInt8) (r : Bytes) (h : b ≠ 38) :
    htmlDecode (b :: r) = b :: htmlDecode r := by
  apply htmlDecode.eq_7 <;> exact fun _ e _ => h e

private theorem htmlDecode_escByte (b : UInt8) : ∀ r,
    htmlDecode (htmlEscByte b ++ r) = (if b = 0 then [0xEF, 0xBF, 0xBD] else [b]) ++ htmlDecode r := by
  refine htmlEscByte_ind
    (fun b e => ∀ r, htmlDecode (e ++ r) = (if b = 0 then [0xEF, 0xBF, 0xBD] else [b]) ++ htmlDecode r) ?_ ?_ b
  · intro p hp r
    simp only [escTable, List.mem_cons, List.not_mem_nil, or_false] at hp
    rcases hp with rfl | rfl | rfl | rfl | rfl | rfl | rfl
    · simp [htmlDecode_cons_ne]
    iterate 6 simp [htmlDecode]
  · intro b h0 _ h38 _ _ _ _ r
    rw [if_neg h0]
    exact htmlDecode_cons_ne _ _ h38

/-- Decoding an escaped string gives the string back, except that NUL has become U+FFFD (all inputs). -/
theorem c06_decode_escape_nul (s : Bytes) : htmlDecode (htmlEscape s) = nulToFFFD s := by
  induction s with
  | nil => simp [htmlEscape_nil, htmlDecode, nulToFFFD]
  | cons b s ih =>
    rw [htmlEscape_cons, htmlDecode_escByte, ih]
    simp [nulToFFFD]

theorem nulToFFFD_eq_self {s : Bytes} (h : ∀ b ∈ s, b ≠ 0) : nulToFFFD s = s := by
  unfold nulToFFFD
  induction s with
  | nil => rfl
  | cons b s ih =>
    rw [List.flatMap_cons, ih (fun c hc => h c (by simp [hc])), if_neg (h b (by simp))]
    rfl

/-- Decoding an escaped NUL-free string gives exactly the string (entity look-alikes such as `&lt;`
    in the input are safe because `&` itself is escaped). -/
theorem c06_decode_escape (s : Bytes) (h : ∀ b ∈ s, b ≠ 0) : htmlDecode (htmlEscape s) = s := by
  rw [c06_decode_escape_nul, nulToFFFD_eq_self h]

/-! ### The output tokenizes to the skeleton -/

private theorem attr_no_gt (pre : String) (hpre : ∀ b ∈ bytesOfString pre, b ≠ 62) (val : Bytes) :
    ∀ b ∈ bytesOfString pre ++ (htmlEscape val ++ bytesOfString "\""), b ≠ 62 := by
  intro b hb
  rcases List.mem_append.mp hb with h | h
  · exact hpre b h
  rcases List.mem_append.mp h with h | h
  · exact (htmlEscape_inert val b h).2.1
  · simp only [html_lits, List.mem_singleton] at h
    rw [h]; decide

private theorem optAttr_no_gt (c : Prop) [Decidable c] (pre : String) (hpre : ∀ b ∈ bytesOfString pre, b ≠ 62)
    (val : Bytes) :
    ∀ b ∈ (if c then bytesOfString pre ++ (htmlEscape val ++ bytesOfString "\"") else []), b ≠ 62 := by
  split
  · exact attr_no_gt pre hpre val
  · simp

private theorem class_no_gt : ∀ b ∈ bytesOfString " class=\"", b ≠ 62 := by simp only [html_lits]; decide
private theorem id_no_gt : ∀ b ∈ bytesOfString " id=\"", b ≠ 62 := by simp only [html_lits]; decide

private theorem tok_table_open (a b : Bytes) (ha : ∀ x ∈ a, x ≠ 62) (hb : ∀ x ∈ b, x ≠ 62) (r : Bytes) :
    tokGo false [] (bytesOfString "<table" ++ (a ++ (b ++ (bytesOfString ">\n" ++ r)))) =
    .tag (bytesOfString "<table" ++ a ++ b ++ bytesOfString ">") :: tokGo false [10] r := by
  simp only [html_lits]
  simp [tokGo, tokGo_tag_app _ _ _ ha, tokGo_tag_app _ _ _ hb, textTok]

private theorem tok_caption (cfg : HtmlCfg) (rest : Bytes) :
    tokGo false [10]
      ((if cfg.caption != [] then bytesOfString "  <caption>" ++ (htmlEscape cfg.caption ++ bytesOfString "</caption>\n") else []) ++ rest) =
    (if cfg.caption != [] then
      [.text (bytesOfString "\n  "), .tag (bytesOfString "<caption>"),
       .text (htmlEscape cfg.caption), .tag (bytesOfString "</caption>")]
     else []) ++ tokGo false [10] rest := by
  simp only [html_lits]
  by_cases hc : cfg.caption = [] <;>
    simp [hc, tokGo, tokGo_text_esc, textTok, htmlEscape_eq_nil]

private theorem tok_cells (tag : String) (htag : tag = "th" ∨ tag = "td") (cells : List RCell) (rest : Bytes) :
    tokGo false []
      (cells.flatMap (fun c => bytesOfString ("<" ++ tag ++ ">") ++ (htmlEscape c.text ++ bytesOfString ("</" ++ tag ++ ">"))) ++ rest) =
    cells.flatMap (cellToks tag) ++ tokGo false [] rest := by
  induction cells with
  | nil => simp
  | cons c cs ih =>
    simp only [List.flatMap_cons, List.append_assoc]
    rw [← ih]
    unfold cellToks
    rcases htag with rfl | rfl <;> simp only [cell_tag_lits, html_lits] <;>
      simp [tokGo, tokGo_text_esc, textTok_nil]

private theorem tok_tr_open (mid : Bytes) (hmid : ∀ b ∈ mid, b ≠ 62) (r : Bytes) :
    tokGo false [10] (bytesOfString "    <tr" ++ (mid ++ (bytesOfString ">" ++ r))) =
    .text (bytesOfString "\n    ") :: .tag (bytesOfString "<tr" ++ mid ++ bytesOfString ">") :: tokGo false [] r := by
  simp only [html_lits]
  simp [tokGo, tokGo_tag_app _ _ _ hmid, textTok]

private theorem tok_tr (cfg : HtmlCfg) (n : Nat) (tag : String) (htag : tag = "th" ∨ tag = "td")
    (cells : List RCell) (rest : Bytes) :
    tokGo false [10] (htmlTr cfg n tag cells ++ rest) =
    rowToks cfg n tag cells ++ tokGo false [10] rest := by
  have tail : ∀ r, tokGo false [] (bytesOfString "</tr>\n" ++ r) =
      .tag (bytesOfString "</tr>") :: tokGo false [10] r := by
    intro r; simp only [html_lits]; simp [tokGo, textTok]
  unfold htmlTr rowToks trOpenTag attrBytes
  simp only [List.append_assoc]
  rw [tok_tr_open, tok_cells tag htag, tail]
  · cases cfg.rowClass <;> simp
  · cases cfg.rowClass with
    | none => simp
    | some f => exact attr_no_gt _ class_no_gt _

private theorem tok_flatMap {α : Type} (fb : α → Bytes) (ft : α → List HTok)
    (h : ∀ x rest, tokGo false [10] (fb x ++ rest) = ft x ++ tokGo false [10] rest)
    (l : List α) (rest : Bytes) :
    tokGo false [10] (l.flatMap fb ++ rest) = l.flatMap ft ++ tokGo false [10] rest := by
  induction l with
  | nil => simp
  | cons a l ih => simp only [List.flatMap_cons, List.append_assoc]; rw [h, ih]

/-- The output tokenizes to exactly the template's skeleton, for every configuration and view. -/
theorem c06_skeleton (cfg : HtmlCfg) (v : RTable) : tokenize (htmlBytes cfg v) = skeleton cfg v := by
  have head : ∀ r, tokGo false [10] (bytesOfString "  <thead>\n" ++ r) =
      .text (bytesOfString "\n  ") :: .tag (bytesOfString "<thead>") :: tokGo false [10] r := by
    intro r; simp only [html_lits]; simp [tokGo, textTok]
  have mid : ∀ r, tokGo false [10] (bytesOfString "  </thead>\n  <tbody>\n" ++ r) =
      .text (bytesOfString "\n  ") :: .tag (bytesOfString "</thead>") ::
      .text (bytesOfString "\n  ") :: .tag (bytesOfString "<tbody>") :: tokGo false [10] r := by
    intro r; simp only [html_lits]; simp [tokGo, textTok]
  have tail : tokGo false [10] (bytesOfString "  </tbody>\n</table>\n") =
      [.text (bytesOfString "\n  "), .tag (bytesOfString "</tbody>"),
       .text (bytesOfString "\n"), .tag (bytesOfString "</table>"), .text (bytesOfString "\n")] := by
    simp only [html_lits]; simp [tokGo, textTok]
  unfold tokenize htmlBytes skeleton tableOpenTag attrBytes
  simp only [List.append_assoc]
  rw [tok_table_open _ _ (optAttr_no_gt _ _ class_no_gt _) (optAttr_no_gt _ _ id_no_gt _), tok_caption, head,
    tok_tr cfg 0 "th" (Or.inl rfl), mid]
  simp only [List.cons_append, List.nil_append, List.append_assoc, List.cons.injEq, true_and,
    List.append_cancel_left_eq]
  rw [← tail]
  refine tok_flatMap _ _ ?_ _ _
  rintro ⟨r, i⟩ rest
  cases r with
  | none => simp
  | some cells => exact tok_tr cfg (i + 1) "td" (Or.inr rfl) cells rest

/-! ### The tags of the skeleton -/

private theorem lit_mems :
    bytesOfString "</tr>" ∈ fixedLiteralTags.drop 7 ∧ bytesOfString "</table>" ∈ fixedLiteralTags.drop 2 ∧
    bytesOfString "<th>" ∈ fixedLiteralTags.drop 7 ∧ bytesOfString "</th>" ∈ fixedLiteralTags.drop 7 ∧
    bytesOfString "<td>" ∈ fixedLiteralTags.drop 7 ∧ bytesOfString "</td>" ∈ fixedLiteralTags.drop 7 ∧
    bytesOfString "<thead>" ∈ fixedLiteralTags.drop 2 ∧ bytesOfString "</thead>" ∈ fixedLiteralTags.drop 2 ∧
    bytesOfString "<tbody>" ∈ fixedLiteralTags.drop 2 ∧ bytesOfString "</tbody>" ∈ fixedLiteralTags.drop 2 ∧
    bytesOfString "<caption>" ∈ fixedLiteralTags ∧ bytesOfString "</caption>" ∈ fixedLiteralTags := by
  simp only [fixedLiteralTags, html_lits]; decide +kernel

private theorem tag_mem_cells (tag : String) (htag : tag = "th" ∨ tag = "td") (cells : List RCell) (t : Bytes)
    (h : HTok.tag t ∈ cells.flatMap (cellToks tag)) : t ∈ fixedLiteralTags.drop 7 := by
  simp only [List.mem_flatMap, cellToks, textTok, List.mem_append, List.mem_singleton, HTok.tag.injEq] at h
  obtain ⟨c, _, (h | h) | h⟩ := h
  · rcases htag with rfl | rfl <;> simp only [h, cell_tag_lits, lit_mems]
  · split at h <;> simp at h
  · rcases htag with rfl | rfl <;> simp only [h, cell_tag_lits, lit_mems]

private theorem tag_mem_rowToks (cfg : HtmlCfg) (n : Nat) (tag : String) (htag : tag = "th" ∨ tag = "td")
    (cells : List RCell) (t : Bytes) (h : HTok.tag t ∈ rowToks cfg n tag cells) :
    t = trOpenTag cfg n ∨ t ∈ fixedLiteralTags.drop 2 := by
  have up : ∀ {t}, t ∈ fixedLiteralTags.drop 7 → t ∈ fixedLiteralTags.drop 2 := fun h =>
    List.mem_of_mem_drop (show _ ∈ (fixedLiteralTags.drop 2).drop 5 by rwa [List.drop_drop])
  simp only [rowToks, List.mem_append, List.mem_cons, List.not_mem_nil, or_false, HTok.tag.injEq,
    reduceCtorEq, false_or] at h
  rcases h with (h | h) | h
  · exact Or.inl h
  · exact Or.inr (up (tag_mem_cells tag htag cells t h))
  · exact Or.inr (up (h ▸ lit_mems.1))

private theorem mem_rowClassArgs_succ (v : RTable) (cells : List RCell) (i : Nat)
    (h : (some cells, i) ∈ v.rows.zipIdx) : i + 1 ∈ rowClassArgs v := by
  unfold rowClassArgs
  refine List.mem_cons_of_mem _ (List.mem_filterMap.mpr ⟨(some cells, i), h, ?_⟩)
  simp

/-- the tags of the skeleton; the two caption tags (the first two of `fixedLiteralTags`) occur only
    with a caption -/
theorem tag_mem_skeleton (cfg : HtmlCfg) (v : RTable) (t : Bytes) (h : HTok.tag t ∈ skeleton cfg v) :
    t = tableOpenTag cfg ∨ (∃ n ∈ rowClassArgs v, t = trOpenTag cfg n) ∨
    (cfg.caption ≠ [] ∧ t ∈ fixedLiteralTags) ∨ t ∈ fixedLiteralTags.drop 2 := by
  simp only [skeleton, List.mem_append, List.mem_cons, List.not_mem_nil, or_false, HTok.tag.injEq,
    reduceCtorEq, false_or, List.mem_flatMap, List.mem_ite_nil_right] at h
  rcases h with (((((h | h) | h) | h) | h) | h) | h
  · exact .inl h
  · exact .inr (.inr (.inl ⟨by simpa using h.1, by rcases h.2 with h | h <;> simp only [h, lit_mems]⟩))
  · right; right; right; simp only [h, lit_mems]
  · exact .inr ((tag_mem_rowToks cfg 0 "th" (Or.inl rfl) _ t h).imp (fun h => ⟨0, by simp [rowClassArgs], h⟩) .inr)
  · right; right; right; rcases h with h | h <;> simp only [h, lit_mems]
  · obtain ⟨⟨_ | cells, i⟩, hmem, h⟩ := h
    · cases h
    · exact .inr ((tag_mem_rowToks cfg (i + 1) "td" (Or.inr rfl) _ t h).imp
        (fun h => ⟨i + 1, mem_rowClassArgs_succ v cells i hmem, h⟩) .inr)
  · right; right; right; rcases h with h | h <;> simp only [h, lit_mems]

/-- Every tag of the output is one of the template's fixed forms. -/
theorem c06_tags_fixed (cfg : HtmlCfg) (v : RTable) (t : Bytes)
    (h : HTok.tag t ∈ tokenize (htmlBytes cfg v)) : IsFixedTag cfg v t := by
  rw [c06_skeleton] at h
  rcases tag_mem_skeleton cfg v t h with h | h | h | h
  · exact .inl h
  · exact .inr (.inl h)
  · exact .inr (.inr h.2)
  · exact .inr (.inr (List.mem_of_mem_drop h))

/-! ### `<tr` tags and counts -/

theorem isTrOpen_trOpenTag (cfg : HtmlCfg) (n : Nat) : isTrOpen (.tag (trOpenTag cfg n)) = true := by
  rw [isTrOpen, trOpenTag, List.append_assoc, List.isPrefixOf_iff_prefix]
  exact List.prefix_append _ _

theorem isTrOpen_tableOpenTag (cfg : HtmlCfg) : isTrOpen (.tag (tableOpenTag cfg)) = false := by
  simp only [isTrOpen, tableOpenTag, html_lits]; simp [List.isPrefixOf]

theorem isTrOpen_lit : ∀ s ∈ fixedLiteralTags, isTrOpen (.tag s) = false := by
  simp only [fixedLiteralTags, isTrOpen, html_lits]
  decide

/-- the `<table…>` tag is none of the literal tags: it starts with `<table` -/
theorem tableOpenTag_not_lit (cfg : HtmlCfg) : tableOpenTag cfg ∉ fixedLiteralTags := by
  have h : ∀ s ∈ fixedLiteralTags, (bytesOfString "<table").isPrefixOf s = false := by
    simp only [fixedLiteralTags, html_lits]; decide
  intro hm
  have := h _ hm
  rw [tableOpenTag, List.append_assoc, List.append_assoc, ← Bool.not_eq_true,
    List.isPrefixOf_iff_prefix] at this
  exact this (List.prefix_append _ _)

theorem trOpenTag_not_lit (cfg : HtmlCfg) (n : Nat) : trOpenTag cfg n ∉ fixedLiteralTags := by
  intro hm
  have := isTrOpen_lit _ hm
  rw [isTrOpen_trOpenTag] at this
  cases this

private theorem filter_tr_cells (tag : String) (htag : tag = "th" ∨ tag = "td") (cells : List RCell) :
    (cells.flatMap (cellToks tag)).filter isTrOpen = [] := by
  rw [List.filter_eq_nil_iff]
  intro x hx
  cases x with
  | text b => simp [isTrOpen]
  | tag t =>
    simp [isTrOpen_lit t (List.mem_of_mem_drop (tag_mem_cells tag htag cells t hx))]

private theorem filter_tr_rowToks (cfg : HtmlCfg) (n : Nat) (tag : String) (htag : tag = "th" ∨ tag = "td")
    (cells : List RCell) :
    (rowToks cfg n tag cells).filter isTrOpen = [.tag (trOpenTag cfg n)] := by
  unfold rowToks
  rw [List.filter_append, List.filter_append, filter_tr_cells tag htag]
  have h1 : isTrOpen (.text (bytesOfString "\n    ")) = false := rfl
  simp [h1, isTrOpen_lit _ (List.mem_of_mem_drop lit_mems.1), isTrOpen_trOpenTag]

/-- The `<tr…>` tags of the output, in order: one per argument in `rowClassArgs v`. -/
theorem c06_tr_tags (cfg : HtmlCfg) (v : RTable) :
    (tokenize (htmlBytes cfg v)).filter isTrOpen =
      (rowClassArgs v).map (fun n => .tag (trOpenTag cfg n)) := by
  rw [c06_skeleton]
  have htext : ∀ b, isTrOpen (.text b) = false := fun _ => rfl
  have hlit := isTrOpen_lit
  simp only [fixedLiteralTags, List.forall_mem_cons] at hlit
  unfold skeleton rowClassArgs
  simp only [List.filter_append, List.filter_flatMap, filter_tr_rowToks cfg 0 "th" (Or.inl rfl)]
  simp [htext, hlit, isTrOpen_tableOpenTag, apply_ite (List.filter isTrOpen)]
  refine flatMap_eq_filterMap_map _ _ _ _ ?_
  rintro ⟨r, i⟩ _
  cases r with
  | none => simp
  | some cells => simp [filter_tr_rowToks cfg (i + 1) "td" (Or.inr rfl)]

private theorem count_tag_textTok (b s : Bytes) : (textTok s).count (.tag b) = 0 := by
  unfold textTok; split <;> simp

private theorem count_cells (tag : String) (b : Bytes) (cells : List RCell) :
    (cells.flatMap (cellToks tag)).count (.tag b) =
      (if bytesOfString ("<" ++ tag ++ ">") = b then cells.length else 0) +
      (if bytesOfString ("</" ++ tag ++ ">") = b then cells.length else 0) := by
  induction cells with
  | nil => simp
  | cons c cs ih =>
    rw [List.flatMap_cons, List.count_append, ih]
    simp only [cellToks, List.count_append, count_tag_textTok, List.count_cons, List.count_nil,
      beq_iff_eq, HTok.tag.injEq, List.length_cons]
    split <;> split <;> omega

private theorem count_rowToks (cfg : HtmlCfg) (n : Nat) (tag : String) (b : Bytes) (cells : List RCell) :
    (rowToks cfg n tag cells).count (.tag b) =
      (if trOpenTag cfg n = b then 1 else 0) +
      ((if bytesOfString ("<" ++ tag ++ ">") = b then cells.length else 0) +
       (if bytesOfString ("</" ++ tag ++ ">") = b then cells.length else 0)) +
      (if bytesOfString "</tr>" = b then 1 else 0) := by
  unfold rowToks
  simp only [List.count_append, count_cells, List.count_cons, List.count_nil, beq_iff_eq,
    HTok.tag.injEq, reduceCtorEq, if_false]
  omega

/-- the seven literal tags outside the rows are none of `</tr>` and the four cell tags -/
private theorem lit_take_ne_drop : ∀ s ∈ fixedLiteralTags.take 7, ∀ b ∈ fixedLiteralTags.drop 7, s ≠ b := by
  simp only [fixedLiteralTags, html_lits]; decide

/-- count of `</tr>` or a cell tag (the last five literal tags) in the skeleton: only rows contribute -/
private theorem count_skel (cfg : HtmlCfg) (v : RTable) (b : Bytes) (hb : b ∈ fixedLiteralTags.drop 7) :
    (skeleton cfg v).count (.tag b) =
      ((if bytesOfString ("<" ++ "th" ++ ">") = b then (v.header.getD []).length else 0) +
       (if bytesOfString ("</" ++ "th" ++ ">") = b then (v.header.getD []).length else 0) +
       (if bytesOfString "</tr>" = b then 1 else 0)) +
      (v.rows.map (fun r => match r with
        | none => 0
        | some cells =>
          (if bytesOfString ("<" ++ "td" ++ ">") = b then cells.length else 0) +
          (if bytesOfString ("</" ++ "td" ++ ">") = b then cells.length else 0) +
          (if bytesOfString "</tr>" = b then 1 else 0))).sum := by
  have h1 : tableOpenTag cfg ≠ b := fun e => tableOpenTag_not_lit cfg (e ▸ List.mem_of_mem_drop hb)
  have h2 : ∀ n, trOpenTag cfg n ≠ b := fun n e => trOpenTag_not_lit cfg n (e ▸ List.mem_of_mem_drop hb)
  have h3 := fun s hs => lit_take_ne_drop s hs b hb
  simp only [fixedLiteralTags, List.take, List.forall_mem_cons] at h3
  unfold skeleton
  simp only [List.count_append, count_rowToks, List.count_cons, List.count_nil, beq_iff_eq,
    HTok.tag.injEq, reduceCtorEq, if_false, h1, h2, h3, List.count_flatMap, apply_ite (List.count _),
    Nat.zero_add, Nat.add_zero, ite_self]
  congr 1
  refine sum_map_zipIdx _ _ _ _ ?_
  intro r i
  cases r with
  | none => simp
  | some cells => simp only [Function.comp, count_rowToks, h2, if_false, Nat.zero_add]

/-- `rowClassArgs` has one entry for the header row and one per non-separator row. -/
theorem c06_rowClassArgs_length (v : RTable) :
    (rowClassArgs v).length = 1 + (v.rows.filter Option.isSome).length := by
  unfold rowClassArgs
  rw [List.length_cons, length_filterMap_zipIdx]
  · omega
  · intro r i; cases r <;> simp

/-- Exactly one `<tr…>` for the header plus one per non-separator row; as many `</tr>`. -/
theorem c06_count_tr (cfg : HtmlCfg) (v : RTable) :
    ((tokenize (htmlBytes cfg v)).filter isTrOpen).length = 1 + (v.rows.filter Option.isSome).length ∧
    (tokenize (htmlBytes cfg v)).count (.tag (bytesOfString "</tr>")) =
      1 + (v.rows.filter Option.isSome).length := by
  refine ⟨by rw [c06_tr_tags, List.length_map, c06_rowClassArgs_length], ?_⟩
  rw [c06_skeleton, count_skel _ _ _ (by simp only [lit_mems])]
  simp only [cell_tag_lits, html_lits]
  simp
  exact sum_isSome _ _ (by intro r; cases r <;> rfl)

/-- One `<th>` and one `</th>` per header cell (none without a header). -/
theorem c06_count_th (cfg : HtmlCfg) (v : RTable) :
    (tokenize (htmlBytes cfg v)).count (.tag (bytesOfString "<th>")) = (v.header.getD []).length ∧
    (tokenize (htmlBytes cfg v)).count (.tag (bytesOfString "</th>")) = (v.header.getD []).length := by
  rw [c06_skeleton]
  constructor <;>
  · rw [count_skel _ _ _ (by simp only [lit_mems])]
    simp only [cell_tag_lits, html_lits]
    simp
    exact sum_map_zero _ _ (by intro r; cases r <;> rfl)

/-- One `<td>` and one `</td>` per cell of the non-separator rows. -/
theorem c06_count_td (cfg : HtmlCfg) (v : RTable) :
    (tokenize (htmlBytes cfg v)).count (.tag (bytesOfString "<td>")) =
      (v.rows.map (fun r => (r.getD []).length)).sum ∧
    (tokenize (htmlBytes cfg v)).count (.tag (bytesOfString "</td>")) =
      (v.rows.map (fun r => (r.getD []).length)).sum := by
  rw [c06_skeleton]
  constructor <;>
  · rw [count_skel _ _ _ (by simp only [lit_mems])]
    simp only [cell_tag_lits, html_lits]
    simp
    congr 1
    apply List.map_congr_left
    intro r _; cases r <;> simp

/-! ### The row-class generator -/

theorem htmlTr_congr (cfg : HtmlCfg) (f g : Nat → Bytes) (n : Nat) (tag : String) (cells : List RCell)
    (h : f n = g n) :
    htmlTr { cfg with rowClass := some f } n tag cells = htmlTr { cfg with rowClass := some g } n tag cells := by
  simp only [htmlTr, h]

/-- The output depends on the row-class generator only through its values at `rowClassArgs v`. -/
theorem c06_rowclass_calls (cfg : HtmlCfg) (v : RTable) (f g : Nat → Bytes)
    (h : ∀ n ∈ rowClassArgs v, f n = g n) :
    htmlBytes { cfg with rowClass := some f } v = htmlBytes { cfg with rowClass := some g } v := by
  unfold htmlBytes
  rw [htmlTr_congr cfg f g 0 "th" _ (h 0 (by simp [rowClassArgs]))]
  congr 2
  apply flatMap_congr'
  rintro ⟨r, i⟩ hmem
  cases r with
  | none => rfl
  | some cells => exact htmlTr_congr cfg f g (i + 1) "td" cells (h _ (mem_rowClassArgs_succ v cells i hmem))

/-- With a generator `f`, the `<tr…>` tags are `<tr class="` escaped `f n` `">` for `n` running through
    `rowClassArgs v`, in that order, once each. -/
theorem c06_rowclass_tr_tags (cfg : HtmlCfg) (v : RTable) (f : Nat → Bytes) :
    (tokenize (htmlBytes { cfg with rowClass := some f } v)).filter isTrOpen =
      (rowClassArgs v).map (fun n =>
        .tag (bytesOfString "<tr class=\"" ++ htmlEscape (f n) ++ bytesOfString "\">")) := by
  rw [c06_tr_tags]
  apply List.map_congr_left
  intro n _
  simp only [trOpenTag, attrBytes, html_lits]
  simp

/-- Every argument in `rowClassArgs v` is really used: equal outputs force equal (escaped) classes there. -/
theorem c06_rowclass_observed (cfg : HtmlCfg) (v : RTable) (f g : Nat → Bytes)
    (h : htmlBytes { cfg with rowClass := some f } v = htmlBytes { cfg with rowClass := some g } v) :
    ∀ n ∈ rowClassArgs v, htmlEscape (f n) = htmlEscape (g n) := by
  have hf := c06_rowclass_tr_tags cfg v f
  rw [h, c06_rowclass_tr_tags cfg v g] at hf
  intro n hn
  have := (List.map_inj_left.mp hf) n hn
  simp only [HTok.tag.injEq, List.append_assoc, List.append_cancel_left_eq,
    List.append_cancel_right_eq] at this
  exact this.symm

/-! ### Non-vacuity: a concrete hostile table, evaluated by the kernel -/

/-- quote in the id, `<` in the class, a script element and an entity look-alike in the caption, and a
    generator whose header class tries to close the attribute and the tag -/
def c06ExCfg : HtmlCfg :=
  { id := bytesOfString "t\"1", cls := bytesOfString "a<b",
    caption := bytesOfString "<script>x</script>&lt;",
    rowClass := some (fun n => if n = 0 then bytesOfString "h\"><i>" else [114, 48 + n.toUInt8]) }

/-- header; a row with markup, an empty cell and `&amp;+`; a separator; a zero-cell row; a row with quotes -/
def c06ExView : RTable :=
  { ncols := 2
    header := some [{ text := bytesOfString "<b>H</b>" }, { text := bytesOfString "&lt;" }]
    rows := [some [{ text := bytesOfString "<script>" }, { text := bytesOfString "" },
                   { text := bytesOfString "a&amp;+" }],
             none, some [], some [{ text := bytesOfString "'q\"" }]]
    colAlign := [], colSkip := [] }

/-- the whole token list of the concrete table (the model evaluated, not the skeleton) -/
example : tokenize (htmlBytes c06ExCfg c06ExView) =
    [.tag (bytesOfString "<table class=\"a&lt;b\" id=\"t&#34;1\">"),
     .text (bytesOfString "\n  "),
     .tag (bytesOfString "<caption>"),
     .text (bytesOfString "&lt;script&gt;x&lt;/script&gt;&amp;lt;"),
     .tag (bytesOfString "</caption>"),
     .text (bytesOfString "\n  "),
     .tag (bytesOfString "<thead>"),
     .text (bytesOfString "\n    "),
     .tag (bytesOfString "<tr class=\"h&#34;&gt;&lt;i&gt;\">"),
     .tag (bytesOfString "<th>"), .text (bytesOfString "&lt;b&gt;H&lt;/b&gt;"), .tag (bytesOfString "</th>"),
     .tag (bytesOfString "<th>"), .text (bytesOfString "&amp;lt;"), .tag (bytesOfString "</th>"),
     .tag (bytesOfString "</tr>"),
     .text (bytesOfString "\n  "),
     .tag (bytesOfString "</thead>"),
     .text (bytesOfString "\n  "),
     .tag (bytesOfString "<tbody>"),
     .text (bytesOfString "\n    "),
     .tag (bytesOfString "<tr class=\"r1\">"),
     .tag (bytesOfString "<td>"), .text (bytesOfString "&lt;script&gt;"), .tag (bytesOfString "</td>"),
     .tag (bytesOfString "<td>"), .tag (bytesOfString "</td>"),
     .tag (bytesOfString "<td>"), .text (bytesOfString "a&amp;amp;&#43;"), .tag (bytesOfString "</td>"),
     .tag (bytesOfString "</tr>"),
     .text (bytesOfString "\n    "),
     .tag (bytesOfString "<tr class=\"r3\">"),
     .tag (bytesOfString "</tr>"),
     .text (bytesOfString "\n    "),
     .tag (bytesOfString "<tr class=\"r4\">"),
     .tag (bytesOfString "<td>"), .text (bytesOfString "&#39;q&#34;"), .tag (bytesOfString "</td>"),
     .tag (bytesOfString "</tr>"),
     .text (bytesOfString "\n  "),
     .tag (bytesOfString "</tbody>"),
     .text (bytesOfString "\n"),
     .tag (bytesOfString "</table>"),
     .text (bytesOfString "\n")] := by
  unfold htmlBytes htmlTr htmlEscape htmlEscByte c06ExCfg c06ExView
  simp only [bytesOfString, ByteArray_toList]
  decide +kernel

/-- and the skeleton of the same table is that same list (`c06_skeleton` instantiated, then evaluated) -/
example : (skeleton c06ExCfg c06ExView).length = 45 ∧
    (skeleton c06ExCfg c06ExView).filter isTrOpen =
      [.tag (bytesOfString "<tr class=\"h&#34;&gt;&lt;i&gt;\">"), .tag (bytesOfString "<tr class=\"r1\">"),
       .tag (bytesOfString "<tr class=\"r3\">"), .tag (bytesOfString "<tr class=\"r4\">")] := by
  unfold skeleton rowToks cellToks tableOpenTag trOpenTag attrBytes isTrOpen htmlEscape htmlEscByte
    c06ExCfg c06ExView
  simp only [bytesOfString, ByteArray_toList]
  decide +kernel

/-- generator arguments of the concrete table: the separator's number 2 is skipped -/
example : rowClassArgs c06ExView = [0, 1, 3, 4] := by decide

/-- the escaper on hostile text, evaluated -/
example : htmlEscape (bytesOfString "<script>&lt;\"'+") =
    bytesOfString "&lt;script&gt;&amp;lt;&#34;&#39;&#43;" := by
  unfold htmlEscape htmlEscByte
  simp only [bytesOfString, ByteArray_toList]
  decide +kernel

/-- `c06_decode_escape`: its hypothesis holds for a hostile string, and the conclusion evaluated -/
example : htmlDecode (htmlEscape (bytesOfString "<script>&lt;&amp;lt;\"'+")) =
    bytesOfString "<script>&lt;&amp;lt;\"'+" :=
  c06_decode_escape _ (by simp only [bytesOfString, ByteArray_toList]; decide +kernel)

example : htmlDecode (bytesOfString "&lt;script&gt;&amp;lt;&#34;&#39;&#43;") =
    bytesOfString "<script>&lt;\"'+" := by
  simp only [bytesOfString, ByteArray_toList]; decide +kernel

/-- the NUL case, evaluated: NUL comes back as U+FFFD -/
example : htmlDecode (htmlEscape [97, 0, 60]) = [97, 0xEF, 0xBF, 0xBD, 60] := by
  rw [c06_decode_escape_nul]; decide

/-- `c06_tags_fixed` is not vacuous: the hostile header class still yields a fixed-form `<tr…>` tag -/
example : IsFixedTag c06ExCfg c06ExView (trOpenTag c06ExCfg 0) :=
  c06_tags_fixed _ _ _ (by
    rw [c06_skeleton]; unfold skeleton rowToks
    simp)

/-- `c06_rowclass_calls`: two generators that differ only at the separator's number 2 (and beyond the
    table) satisfy the hypothesis, are different functions, and give the same output -/
example :
    let f : Nat → Bytes := fun n => [114, 48 + n.toUInt8]
    let g : Nat → Bytes := fun n => if n = 2 ∨ n > 4 then bytesOfString "<x>" else [114, 48 + n.toUInt8]
    f 2 ≠ g 2 ∧ (∀ n ∈ rowClassArgs c06ExView, f n = g n) ∧
    htmlBytes { c06ExCfg with rowClass := some f } c06ExView =
      htmlBytes { c06ExCfg with rowClass := some g } c06ExView := by
  intro f g
  have hfg : ∀ n ∈ rowClassArgs c06ExView, f n = g n := by
    rw [show rowClassArgs c06ExView = [0, 1, 3, 4] by decide]
    intro n hn
    simp only [List.mem_cons, List.not_mem_nil, or_false] at hn
    rcases hn with rfl | rfl | rfl | rfl <;> simp [f, g]
  refine ⟨?_, hfg, c06_rowclass_calls _ _ f g hfg⟩
  simp only [f, g]; decide +kernel

end Tab
