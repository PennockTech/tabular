/-
  C17 — The decoration registry is safe under concurrency and fails closed (logic part).

  Model: `Model/Registry.lean` (`texttable/decoration/registry.go`), `Model/Render.lean`
  (`texttable/render.go`, first lines of `RenderTo`; `texttable/style.go` `SetDecorationNamed`).

  ASSUMPTION (stated, not proved here): every registry operation is one atomic step on the
  association list.  Atomicity is what the mutex in `registry.go` provides; the static lock
  discipline check and the `-race`/linearizability runs cover that part.  Under this assumption
  "every interleaving of the goroutines' operations" is "every list of operations", which is what
  the theorems below quantify over.  Nothing bounds the length of the list or the names/decorations.
-/
import Tabmodel.Model.Render
import Tabmodel.Proofs.RegOps
namespace Tab
open Registry
attribute [local instance] lawfulBEq_uint8

/-- one registry operation: `RegisterDecorationName`, `Named`, `RegisteredDecorationNames` -/
inductive RegOp
  | register (n : Bytes) (d : Decoration)
  | named (n : Bytes)
  | names
  deriving DecidableEq, Repr

/-- what the operation returns to its caller -/
inductive RegRes
  | done
  | decor (d : Decoration)
  | names (l : List Bytes)
  deriving DecidableEq, Repr

/-- one atomic step: the new registry and the operation's result -/
def regStep (r : Registry) : RegOp → Registry × RegRes
  | .register n d => (r.register n d, .done)
  | .named n => (r, .decor (r.named n))
  | .names => (r, .names r.names)

/-- the registry after a history of operations, started from `r₀` (the built-ins) -/
def regRun (r₀ : Registry) (hist : List RegOp) : Registry :=
  hist.foldl (fun r op => (regStep r op).1) r₀

theorem regRun_cons (r : Registry) (op : RegOp) (ops : List RegOp) :
    regRun r (op :: ops) = regRun (regStep r op).1 ops := rfl

theorem regRun_append (r : Registry) (ops ops' : List RegOp) :
    regRun r (ops ++ ops') = regRun (regRun r ops) ops' := List.foldl_append

theorem named_regStep {r : Registry} {op : RegOp} {n : Bytes} (h : ∀ d, RegOp.register n d ≠ op) :
    (regStep r op).1.named n = r.named n := by
  cases op with
  | register m e => exact named_register_ne r e (fun e' => h e (e' ▸ rfl))
  | named m => rfl
  | names => rfl

theorem named_regRun {n : Bytes} {ops : List RegOp} (h : ∀ d, RegOp.register n d ∉ ops)
    (r : Registry) : (regRun r ops).named n = r.named n := by
  induction ops generalizing r with
  | nil => rfl
  | cons op ops ih =>
    rw [regRun_cons, ih (fun d hd => h d (List.mem_cons_of_mem _ hd)),
      named_regStep (fun d e => h d (e ▸ List.mem_cons_self))]

theorem nodup_regStep {r : Registry} (h : (r.map Prod.fst).Nodup) (op : RegOp) :
    ((regStep r op).1.map Prod.fst).Nodup := by
  cases op with
  | register n d => exact nodup_register h n d
  | named n => exact h
  | names => exact h

theorem mem_keys_regStep {r : Registry} {op : RegOp} {m : Bytes} :
    m ∈ (regStep r op).1.map Prod.fst ↔ m ∈ r.map Prod.fst ∨ ∃ d, RegOp.register m d = op := by
  cases op with
  | register n d =>
    show m ∈ (r.register n d).map Prod.fst ↔ _
    rw [mem_keys_register, or_comm]
    exact or_congr_right ⟨fun e => ⟨d, e ▸ rfl⟩, fun ⟨_, e⟩ => by cases e; rfl⟩
  | named n => exact (or_iff_left fun ⟨_, e⟩ => nomatch e).symm
  | names => exact (or_iff_left fun ⟨_, e⟩ => nomatch e).symm

theorem keys_regRun {r : Registry} (h : (r.map Prod.fst).Nodup) (ops : List RegOp) :
    ((regRun r ops).map Prod.fst).Nodup ∧
    ∀ m, m ∈ (regRun r ops).map Prod.fst ↔ m ∈ r.map Prod.fst ∨ ∃ d, RegOp.register m d ∈ ops := by
  induction ops generalizing r with
  | nil => exact ⟨h, fun m => (or_iff_left fun ⟨_, e⟩ => nomatch e).symm⟩
  | cons op ops ih =>
    obtain ⟨hnd, hmem⟩ := ih (nodup_regStep h op)
    refine ⟨hnd, fun m => ?_⟩
    rw [regRun_cons, hmem, mem_keys_regStep]
    simp only [List.mem_cons, exists_or, or_assoc]

theorem Registry.ObsEq.step {r r' : Registry} (h : ObsEq r r') (op : RegOp) :
    ObsEq (regStep r op).1 (regStep r' op).1 ∧ (regStep r op).2 = (regStep r' op).2 := by
  cases op with
  | register n d => exact ⟨h.register n d, rfl⟩
  | named n => exact ⟨h, congrArg RegRes.decor (h.2 n)⟩
  | names => exact ⟨h, congrArg RegRes.names h.names⟩

theorem Registry.ObsEq.run {r r' : Registry} (h : ObsEq r r') (ops : List RegOp) :
    ObsEq (regRun r ops) (regRun r' ops) := by
  induction ops generalizing r r' with
  | nil => exact h
  | cons op ops ih => exact ih (h.step op).1

/-- `bytesLt` (Go's string `<`) is a strict total order on byte strings. -/
theorem c17_order :
    (∀ a, bytesLt a a = false) ∧
    (∀ a b c, bytesLt a b = true → bytesLt b c = true → bytesLt a c = true) ∧
    (∀ a b, bytesLt a b = true ∨ a = b ∨ bytesLt b a = true) :=
  ⟨bytesLt_irrefl, fun _ _ _ => bytesLt_trans, bytesLt_trichotomy⟩

/-- `sortBytes` (`sort.Strings`) permutes its input into a `bytesLt`-nondecreasing list, strictly
increasing when the input has no duplicates; the result does not depend on the input's order
(the Go map's iteration order). -/
theorem c17_sort (l : List Bytes) :
    (sortBytes l).Perm l ∧
    (sortBytes l).Pairwise (fun a b => bytesLt b a = false) ∧
    (l.Nodup → (sortBytes l).Pairwise (fun a b => bytesLt a b = true)) ∧
    (∀ l', l.Perm l' → sortBytes l = sortBytes l') :=
  ⟨sortBytes_perm l, sortBytes_sorted l, fun h => sortBytes_strict h, fun _ h => sortBytes_eq_of_perm h⟩

/-- `register` keeps the names duplicate-free, and adds exactly the registered name. -/
theorem c17_register_nodup (r : Registry) (n : Bytes) (d : Decoration) (h : (r.map Prod.fst).Nodup) :
    ((r.register n d).map Prod.fst).Nodup ∧
    (∀ m, m ∈ (r.register n d).map Prod.fst ↔ m = n ∨ m ∈ r.map Prod.fst) :=
  ⟨nodup_register h n d, fun _ => mem_keys_register⟩

/-- After any history `hist` (any interleaving so far), `Named n` returns:
 (a) the decoration of the LAST `register n d` in `hist`, if there is one;
 (b) otherwise whatever `r₀` (the built-ins) binds `n` to, which is
 (c) the stored built-in when `r₀` has duplicate-free names and contains `(n, d)`, and
 (d) `emptyDecoration` when `n` is not a name of `r₀` either.
 `Named` and `RegisteredDecorationNames` themselves never change the registry. -/
theorem c17_named (r₀ : Registry) (hist : List RegOp) (n : Bytes) :
    (regStep (regRun r₀ hist) (.named n)).2 = .decor ((regRun r₀ hist).named n) ∧
    (regStep (regRun r₀ hist) (.named n)).1 = regRun r₀ hist ∧
    (regStep (regRun r₀ hist) .names).1 = regRun r₀ hist ∧
    (∀ pre d post, hist = pre ++ RegOp.register n d :: post → (∀ d', RegOp.register n d' ∉ post) →
        (regRun r₀ hist).named n = d) ∧
    ((∀ d, RegOp.register n d ∉ hist) → (regRun r₀ hist).named n = r₀.named n) ∧
    ((∀ d, RegOp.register n d ∉ hist) → (r₀.map Prod.fst).Nodup →
        ∀ d, (n, d) ∈ r₀ → (regRun r₀ hist).named n = d) ∧
    ((∀ d, RegOp.register n d ∉ hist) → n ∉ r₀.map Prod.fst →
        (regRun r₀ hist).named n = emptyDecoration) := by
  refine ⟨rfl, rfl, rfl, ?_, fun h => named_regRun h r₀, ?_, ?_⟩
  · rintro pre d post rfl hpost
    rw [regRun_append, regRun_cons, named_regRun hpost]
    exact named_register_self _ n d
  · intro h hnd d hd
    rw [named_regRun h]; exact named_of_mem hnd hd
  · intro h hn
    rw [named_regRun h]; exact named_of_not_mem hn

/-- After any history from an `r₀` with duplicate-free names, `RegisteredDecorationNames` returns a
list that is strictly increasing w.r.t. `bytesLt` (hence sorted and duplicate-free) whose members are
exactly the names of `r₀` (the built-ins) plus every name registered so far; the registry's names
stay duplicate-free. -/
theorem c17_listing (r₀ : Registry) (hist : List RegOp) (h₀ : (r₀.map Prod.fst).Nodup) :
    (regStep (regRun r₀ hist) .names).2 = .names (regRun r₀ hist).names ∧
    (regRun r₀ hist).names.Pairwise (fun a b => bytesLt a b = true) ∧
    (regRun r₀ hist).names.Nodup ∧
    (∀ m, m ∈ (regRun r₀ hist).names ↔ (m ∈ r₀.map Prod.fst ∨ ∃ d, RegOp.register m d ∈ hist)) ∧
    ((regRun r₀ hist).map Prod.fst).Nodup := by
  obtain ⟨hnd, hmem⟩ := keys_regRun h₀ hist
  exact ⟨rfl, names_strict hnd, names_nodup hnd, fun m => mem_names.trans (hmem m), hnd⟩

/-- Two registrations of the same name, in either order: the later one wins, and the registry is
the one that a single registration of the later value would have produced. -/
theorem c17_last_writer (r₀ : Registry) (pre : List RegOp) (n : Bytes) (d₁ d₂ : Decoration) :
    regRun r₀ (pre ++ [.register n d₁, .register n d₂]) = regRun r₀ (pre ++ [.register n d₂]) ∧
    regRun r₀ (pre ++ [.register n d₂, .register n d₁]) = regRun r₀ (pre ++ [.register n d₁]) ∧
    (regRun r₀ (pre ++ [.register n d₁, .register n d₂])).named n = d₂ ∧
    (regRun r₀ (pre ++ [.register n d₂, .register n d₁])).named n = d₁ := by
  -- `regRun r [.register n a, .register n b]` unfolds to `(r.register n a).register n b`
  refine ⟨?_, ?_, ?_, ?_⟩
  · rw [regRun_append, regRun_append]; exact register_register_same _ n d₁ d₂
  · rw [regRun_append, regRun_append]; exact register_register_same _ n d₂ d₁
  · rw [regRun_append]; exact named_register_self _ n d₂
  · rw [regRun_append]; exact named_register_self _ n d₁

/-- Registrations of distinct names commute as far as `Named` and `RegisteredDecorationNames` can
tell: immediately (every lookup and the listing agree), and after any further operations `post`
every operation `op` returns the same result in both orders. -/
theorem c17_commute (r₀ : Registry) (pre post : List RegOp) (n m : Bytes) (d e : Decoration)
    (hnm : n ≠ m) (op : RegOp) :
    (∀ k, (regRun r₀ (pre ++ [.register n d, .register m e])).named k =
          (regRun r₀ (pre ++ [.register m e, .register n d])).named k) ∧
    (regRun r₀ (pre ++ [.register n d, .register m e])).names =
      (regRun r₀ (pre ++ [.register m e, .register n d])).names ∧
    (regStep (regRun r₀ (pre ++ [.register n d, .register m e] ++ post)) op).2 =
      (regStep (regRun r₀ (pre ++ [.register m e, .register n d] ++ post)) op).2 := by
  have h0 : ObsEq (regRun r₀ (pre ++ [.register n d, .register m e]))
      (regRun r₀ (pre ++ [.register m e, .register n d])) := by
    rw [regRun_append, regRun_append]; exact register_comm_obsEq _ hnm d e
  refine ⟨h0.2, h0.names, ?_⟩
  rw [regRun_append _ _ post, regRun_append _ _ post]
  exact ((h0.run post).step op).2

/-- Fail closed.  A name that is not listed resolves to the empty decoration (never to some
default), and a text wrapper whose decoration is the empty one refuses to render: `RenderTo` returns
the `noDecoration` error before anything else, writes nothing, runs no callback (the world is
unchanged), and `Render` returns the empty string with that error. -/
theorem c17_fail_closed (r : Registry) (n : Bytes) (x : Ext) (w : World) :
    (n ∉ r.names → r.named n = emptyDecoration) ∧
    (∀ wr : Wrapper, wr.kind = .text → wr.decor = emptyDecoration →
      (World.renderTo x w wr).2.res = .error (.err .noDecoration) ∧
      (World.renderTo x w wr).2.chunks = [] ∧
      (World.renderTo x w wr).1 = w ∧
      World.renderString (World.renderTo x w wr).2 = ([], some (.err .noDecoration))) ∧
    (n ∉ r.names → ∀ (core : Nat) (hc : HtmlCfg),
      World.renderString (World.renderTo x w
        { kind := .text, core := core, decor := r.named n, html := hc }).2
        = ([], some (.err .noDecoration))) := by
  have h1 : n ∉ r.names → r.named n = emptyDecoration :=
    fun h => named_of_not_mem (fun hm => h (mem_names.mpr hm))
  have h2 : ∀ wr : Wrapper, wr.kind = .text → wr.decor = emptyDecoration →
      World.renderTo x w wr = (w, Emit.fail .noDecoration) := by
    intro wr hk hd
    unfold World.renderTo
    rw [hk]; simp only [hd, if_true]
  refine ⟨h1, ?_, ?_⟩
  · intro wr hk hd
    rw [h2 wr hk hd]
    exact ⟨rfl, rfl, rfl, rfl⟩
  · intro hn core hc
    rw [h2 _ rfl (h1 hn)]; rfl

/-! ### non-vacuity: a small concrete registry -/

/-- two stand-in "built-ins" -/
def c17ExD (b : UInt8) : Decoration := { horizontal := [b] }
def c17Ex0 : Registry := [([98], c17ExD 1), ([97], c17ExD 2)]

example : (c17Ex0.map Prod.fst).Nodup := by decide +kernel
-- hypotheses of `c17_named` (a): a history with two registrations of `c`, the last one has no successor
example : ∃ pre d post, [RegOp.register [99] (c17ExD 3), .names, .register [99] (c17ExD 4), .named [99]]
    = pre ++ RegOp.register [99] d :: post ∧ (∀ d', RegOp.register [99] d' ∉ post) :=
  ⟨[.register [99] (c17ExD 3), .names], c17ExD 4, [.named [99]], rfl, by intro d' h; simp at h⟩
example : (regRun c17Ex0 [.register [99] (c17ExD 3), .names, .register [99] (c17ExD 4), .named [99]]).named [99]
    = c17ExD 4 := by decide +kernel
-- (b)/(c): nothing registered under `a`: the built-in; (d): `z` nowhere: empty
example : (regRun c17Ex0 [.register [99] (c17ExD 3)]).named [97] = c17ExD 2 := by decide +kernel
example : (∀ d, RegOp.register [122] d ∉ [RegOp.register [99] (c17ExD 3)]) ∧ [122] ∉ c17Ex0.map Prod.fst :=
  ⟨by intro d h; simp at h, by decide +kernel⟩
example : (regRun c17Ex0 [.register [99] (c17ExD 3)]).named [122] = emptyDecoration := by decide +kernel
-- listing: sorted, with the built-ins and the registered name, overwrites do not duplicate
example : (regRun c17Ex0 [.register [99] (c17ExD 3), .register [97] (c17ExD 5), .register [99] (c17ExD 4)]).names
    = [[97], [98], [99]] := by decide +kernel
-- commute: distinct names exist
example : ([97] : Bytes) ≠ [99] := by decide +kernel
-- fail closed: an unlisted name, and a wrapper that carries the empty decoration
example : ([122] : Bytes) ∉ c17Ex0.names := by decide +kernel
example : ({ kind := .text, core := 0, decor := c17Ex0.named [122] } : Wrapper).decor = emptyDecoration := by decide +kernel
-- ... while a listed name does not resolve to the empty decoration
example : c17Ex0.named [97] ≠ emptyDecoration := by decide +kernel

end Tab
