/-
  C12 — Properties behave as an independent key-to-value map for each owner.
  A chain is the list of (key, value) links, newest first; keys are (dynamic type, value) pairs
  numbered by the harness, so "distinguished by type as well as value" is equality of `Key`.
-/
import Tabmodel.Model.World
import Tabmodel.Proofs.Chain
namespace Tab
open Chain

/-- a get returns the value most recently set for that key: right after the set … -/
theorem c12_get_set_same (c : Chain) (k : Key) (v : Val) : (c.set k (some v)).get k = some v :=
  get_set_same c k v

/-- … and setting nil removes it (the owner keeps at most one link per key) -/
theorem c12_get_set_nil (c : Chain) (k : Key) (h : c.keys.Nodup) : (c.set k none).get k = none :=
  get_set c k none (.inr h)

/-- a set on one key never changes what another key reports (keys differing in type or value) -/
theorem c12_get_set_other (c : Chain) (k k' : Key) (v : Option Val) (h : k' ≠ k) :
    (c.set k v).get k' = c.get k' :=
  get_set_ne c v (Ne.symm h)

/-- the one-link-per-key invariant is preserved by every set, so it holds after any history -/
theorem c12_nodup_set (c : Chain) (k : Key) (v : Option Val) (h : c.keys.Nodup) : (c.set k v).keys.Nodup :=
  nodup_set c k v h

theorem c12_nodup_history (ops : List (Key × Option Val)) :
    (Chain.keys (ops.foldl (fun (c : Chain) (p : Key × Option Val) => Chain.set c p.1 p.2) ([] : Chain))).Nodup := by
  suffices ∀ c : Chain, c.keys.Nodup → (Chain.keys (ops.foldl (fun (c : Chain) (p : Key × Option Val) => Chain.set c p.1 p.2) c)).Nodup from
    this [] (by simp [keys])
  induction ops with
  | nil => intro c h; exact h
  | cons p ops ih => intro c h; exact ih _ (c12_nodup_set c p.1 p.2 h)

/-- refinement to a finite map: after any history of sets (and sets-to-nil) from the empty chain,
    a get returns the value of the LAST operation on that key, or nil if there was none or it was nil -/
def lastSet (ops : List (Key × Option Val)) (k : Key) : Option Val :=
  match (ops.reverse.find? (fun p => p.1 = k)) with
  | some p => p.2
  | none => none

theorem c12_refine (ops : List (Key × Option Val)) (k : Key) :
    Chain.get (ops.foldl (fun (c : Chain) (p : Key × Option Val) => Chain.set c p.1 p.2) ([] : Chain)) k = lastSet ops k := by
  suffices ∀ (c : Chain), c.keys.Nodup →
      Chain.get (ops.foldl (fun (c : Chain) (p : Key × Option Val) => Chain.set c p.1 p.2) c) k =
        (match (ops.reverse.find? (fun p => p.1 = k)) with
         | some p => p.2
         | none => c.get k) by
    have := this [] (by simp [keys])
    simpa [lastSet] using this
  induction ops with
  | nil => intro c _; simp
  | cons p ops ih =>
    intro c hc
    simp only [List.foldl_cons]
    rw [ih _ (c12_nodup_set c p.1 p.2 hc)]
    simp only [List.reverse_cons, List.find?_append]
    cases hf : ops.reverse.find? (fun q => q.1 = k) with
    | some q => simp
    | none =>
      simp only [Option.none_or, List.find?_cons, List.find?_nil]
      by_cases hk : p.1 = k
      · simp only [hk, decide_true]
        subst hk
        cases hv : p.2 with
        | none => simpa [hv] using c12_get_set_nil c p.1 hc
        | some v => simpa [hv] using c12_get_set_same c p.1 v
      · simp only [hk, decide_false]
        exact c12_get_set_other c p.1 k p.2 (Ne.symm hk)

/-- setting the same key repeatedly does not grow the owner's stored state: a set adds a link only
    for a key not yet present, and the chain never holds more links than live keys -/
theorem c12_bounded (c : Chain) (k : Key) (v : Option Val) :
    (c.set k v).length ≤ c.length + 1 ∧ (k ∈ c.keys → (c.set k v).length ≤ c.length) := by
  cases v with
  | none =>
    exact ⟨Nat.le_succ_of_le (length_strip_le c k), fun _ => length_strip_le c k⟩
  | some v =>
    simp only [Chain.set, List.length_cons]
    exact ⟨by have := length_strip_le c k; omega, fun h => by have := length_strip_of_mem c k h; omega⟩

theorem c12_length_eq_keys (c : Chain) : c.length = c.keys.length := by simp [keys]

/-! ### owners are independent -/

/-- a by-value copy of a cell is a different owner: setting a property on the copy leaves the
    original (every cell of every row) untouched, and vice versa -/
theorem c12_copy_frame (w : World) (n : Nat) (k : Key) (v : Option Val) (r c : Nat) (k' : Key) :
    (w.setProp (.copy n) k v).getProp (.cell r c) k' = w.getProp (.cell r c) k' := rfl

theorem c12_copy_frame_rev (w : World) (n : Nat) (k : Key) (v : Option Val) (r c : Nat) (k' : Key) :
    (w.setProp (.cell r c) k v).getProp (.copy n) k' = w.getProp (.copy n) k' := by
  simp [World.setProp, World.getProp, World.modCell, World.modRow]

/-- table, column, row and cell owners live in different stores: a set on a table or a column
    never changes what a row or cell reports, and vice versa -/
theorem c12_frame_table_row (w : World) (t : Nat) (k : Key) (v : Option Val) (o : Target) (k' : Key)
    (ho : (∃ r, o = .row r) ∨ (∃ r c, o = .cell r c) ∨ (∃ n, o = .copy n)) :
    (w.setProp (.table t) k v).getProp o k' = w.getProp o k' := by
  rcases ho with ⟨r, rfl⟩ | ⟨r, c, rfl⟩ | ⟨n, rfl⟩ <;> rfl

theorem c12_frame_column_row (w : World) (t n : Nat) (k : Key) (v : Option Val) (o : Target) (k' : Key)
    (ho : (∃ r, o = .row r) ∨ (∃ r c, o = .cell r c) ∨ (∃ n, o = .copy n)) :
    (w.setProp (.column t n) k v).getProp o k' = w.getProp o k' := by
  rcases ho with ⟨r, rfl⟩ | ⟨r, c, rfl⟩ | ⟨m, rfl⟩ <;> rfl

theorem c12_frame_row_table (w : World) (r : Nat) (k : Key) (v : Option Val) (o : Target) (k' : Key)
    (ho : (∃ t, o = .table t) ∨ (∃ t n, o = .column t n) ∨ (∃ n, o = .copy n)) :
    (w.setProp (.row r) k v).getProp o k' = w.getProp o k' := by
  rcases ho with ⟨t, rfl⟩ | ⟨t, n, rfl⟩ | ⟨n, rfl⟩ <;> rfl

/-- two different columns of a table (including the defaults column 0) are independent -/
theorem c12_frame_columns (w : World) (t n m : Nat) (k k' : Key) (v : Option Val) (h : n ≠ m) :
    (w.setProp (.column t n) k v).getProp (.column t m) k' = w.getProp (.column t m) k' := by
  simp only [World.setProp, World.getProp, World.column?, World.modColumn, World.modTable, World.table,
    List.getD_eq_getElem?_getD, List.getElem?_modify_eq]
  cases w.tables[t]? with
  | none => rfl
  | some tb => simp only [Option.map_eq_map, Option.map_some, Option.getD_some, List.getElem?_modify_ne _ _ h]

/-- on the owner itself the world-level get/set is the chain's -/
theorem c12_owner_table (w : World) (t : Nat) (ht : t < w.tables.length) (k : Key) (v : Option Val) (k' : Key) :
    (w.setProp (.table t) k v).getProp (.table t) k' = ((w.table t).props.set k v).get k' := by
  simp [World.setProp, World.getProp, World.modTable, World.table, List.getD_eq_getElem?_getD, ht]

/-- a column handle is (table, n): growing the table appends columns and never moves or copies the
    existing ones, so a handle obtained earlier keeps addressing the same column -/
theorem c12_handle (tb : Table) (m n : Nat) (hn : n < tb.columns.length) :
    (World.resizeColumnsAtLeast tb m).columns[n]? = tb.columns[n]? := by
  unfold World.resizeColumnsAtLeast
  split
  · rfl
  · exact List.getElem?_append_left hn

example : (Chain.keys (Chain.set [] (.user 1) (some (.user 7)))).Nodup := by decide
example : (Chain.set (Chain.set [] (.user 1) (some (.user 7))) (.user 1) (some (.user 8))).length = 1 := by decide
example : lastSet [(.user 1, some (.user 7)), (.user 2, some (.user 9)), (.user 1, none)] (.user 1) = none := by decide
example : lastSet [(.user 1, some (.user 7)), (.user 2, some (.user 9)), (.user 1, none)] (.user 2) = some (.user 9) := by decide

end Tab
