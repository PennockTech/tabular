/-
  C10cb — C10 ("a table renders the same whatever wrapper created it or is wrapped around it")
  WITHOUT `LogOnly`: arbitrary user callbacks.

  `Props/C10.lean` proves its statements for tables whose render-time user callbacks only log.  Here
  the user callbacks are arbitrary terms of the model's callback language: they may set any user key,
  `align`, `skipable` on whatever they are handed (so: change the layout DURING the pass), and fail.
  The only side condition is `UserKeysOnly w t` (Proofs/StableTraverse.lean, decidable): no callback a pass
  over `t` invokes is a `.setProp` on one of the three PRIVATE measurement keys — which a Go user
  cannot name (unexported types); `e2ecb`'s last example shows that such a callback does break the
  measured view.  `Needs w wr` is as in C10 (the measuring callback `wr`'s renderer relies on is
  registered; true after `wrapEffect w wr.kind wr.core`).

  All statements are about what is EMITTED (`.2` of `renderTo`).  The world after the render is not
  the same on both sides: the wrapped world keeps its extra measuring callback, its cells carry one
  more private property, and — as in C10 — nothing is claimed about it.  (The table's error list does
  grow by the same errors on both sides: the extra callbacks are measuring callbacks invoked on cells,
  which never fail; that is `e2ecb_errors`, not restated here.)

  Proof: `e2ecb_measured_view` / `e2ecb_render_unmeasured` express the output by `canonView` / the
  masked view of the world BEFORE the pass — functions of `World.bare`, which a wrap keeps — and the
  column properties AFTER it, which by `e2ecb_props_chain` are a function of the column records, which
  a wrap keeps as well; a wrap adds only measuring callbacks to the schedule, so `UserKeysOnly` is kept
  (`C10cb.userKeysOnly_wrapEffect`).  Helper lemmas: `Tab.C10cb` (Proofs/C10cbWrap.lean).
-/
import Tabmodel.Proofs.C10cbWrap
import Tabmodel.Props.C10
namespace Tab
open World hiding CellOK
open E2Ecb C10cb

/-- One more wrapper of any kind around any table of the world (so: one more accumulated measuring
    callback, of the same or of the other sub-package) never changes what `wr` emits — whatever the
    user callbacks of the table set or raise. -/
theorem c10cb_wrap_indep (x : Ext) (w : World) (k : WKind) (t : Nat) (wr : Wrapper)
    (hU : w.UserKeysOnly wr.core) (hN : Needs w wr) :
    (renderTo x (w.wrapEffect k t) wr).2 = (renderTo x w wr).2 :=
  (CbStable.wrap w k t).render_eq x wr hU hN

/-- ... and it keeps the hypotheses, so the statement can be iterated. -/
theorem c10cb_wrap_keeps (w : World) (k : WKind) (t : Nat) (wr : Wrapper) :
    ((w.wrapEffect k t).UserKeysOnly wr.core ↔ w.UserKeysOnly wr.core) ∧
    (Needs w wr → Needs (w.wrapEffect k t) wr) :=
  ⟨userKeysOnly_wrapEffect w k t wr.core, needs_wrapEffect w k t wr⟩

/-- Any nesting of wrappers, of whatever kinds, around the core table: rendering through the
    outermost equals rendering directly. -/
theorem c10cb_nesting (x : Ext) (w : World) (ks : List WKind) (wr : Wrapper)
    (hU : w.UserKeysOnly wr.core) (hN : Needs w wr) :
    (renderTo x (ks.foldl (fun w k => w.wrapEffect k wr.core) w) wr).2 = (renderTo x w wr).2 :=
  (cbStable_wraps wr.core ks w).render_eq x wr hU hN

/-- Whatever wrappers are already around an existing table (it was made by some `X.New()`, wrapped
    again, …), wrapping it once more for the target format and rendering gives what wrapping the
    bare core table and rendering gives.  No `Needs` hypothesis: the last wrap provides it. -/
theorem c10cb_created_by (x : Ext) (w : World) (ks : List WKind) (wr : Wrapper)
    (hU : w.UserKeysOnly wr.core) (ht : wr.core < w.tables.length) :
    (renderTo x ((ks.foldl (fun w k => w.wrapEffect k wr.core) w).wrapEffect wr.kind wr.core) wr).2 =
      (renderTo x (w.wrapEffect wr.kind wr.core) wr).2 := by
  have hs := cbStable_wraps wr.core ks w
  exact (hs.trans (CbStable.wrap _ wr.kind wr.core)).render_congr (CbStable.wrap w wr.kind wr.core) x wr hU
    (needs_wrapEffect_self _ wr (by rw [hs.ntables]; exact ht)) (needs_wrapEffect_self _ wr ht)

/-- "The same logical table": two worlds that agree once every callback set, the event log and the
    private measurement properties are forgotten (`World.bare`), whose core table has the same column
    records (properties and the columns' own callbacks — the callbacks that can change the layout), and
    whose passes name no private key, give the same package-level rendering. -/
theorem c10cb_same_table (x : Ext) (w1 w2 : World) (wr : Wrapper) (hb : w1.bare = w2.bare)
    (hc : (w1.table wr.core).columns = (w2.table wr.core).columns)
    (hU1 : w1.UserKeysOnly wr.core) (hU2 : w2.UserKeysOnly wr.core) (ht : wr.core < w1.tables.length) :
    (renderTo x (w1.wrapEffect wr.kind wr.core) wr).2 = (renderTo x (w2.wrapEffect wr.kind wr.core) wr).2 := by
  have ht2 : wr.core < w2.tables.length := by
    have h := congrArg (fun w => w.tables.length) hb
    simp only [World.bare, List.length_map] at h
    omega
  have h1 := CbStable.wrap w1 wr.kind wr.core
  have h2 := CbStable.wrap w2 wr.kind wr.core
  exact render_congr_cb x _ _ wr (by rw [h1.bare, h2.bare, hb]) (by rw [h1.cols, h2.cols, hc])
    ((h1.user _).mpr hU1) ((h2.user _).mpr hU2)
    (needs_wrapEffect_self _ wr ht) (needs_wrapEffect_self _ wr ht2)

/-- The three ways to render (`c10_paths`, `c10_paths_auto`: wrapper method, package-level function and
    `auto` are one function of kind, core, decoration, html settings — no hypothesis at all) give the
    same bytes whatever wrappers are already around the table: the package-level `X.RenderTo(t, …)` and
    `auto.RenderTo(t, style, …)` on a table wrapped any number of times equal the same calls on the
    table as it was. -/
theorem c10cb_paths (x : Ext) (reg : Registry) (heavy : Decoration) (w : World) (ks : List WKind) (k : WKind)
    (t : Nat) (style : Bytes) (hU : w.UserKeysOnly t) (ht : t < w.tables.length) :
    (World.pkgRender x heavy (ks.foldl (fun w k => w.wrapEffect k t) w) k t).2 = (World.pkgRender x heavy w k t).2 ∧
    (World.autoRender x reg heavy (ks.foldl (fun w k => w.wrapEffect k t) w) t style).2 =
      (World.autoRender x reg heavy w t style).2 := by
  have hcore : (autoWrapper reg heavy style t).core = t := by
    unfold autoWrapper; cases resolveStyle reg heavy style <;> rfl
  constructor
  · exact c10cb_created_by x w ks (defaultWrapper heavy k t) hU ht
  · have h := c10cb_created_by x w ks (autoWrapper reg heavy style t) (by rw [hcore]; exact hU)
      (by rw [hcore]; exact ht)
    rw [hcore] at h
    exact h

/-- `X.New()`: the table it returns satisfies the hypotheses of the theorems above for a wrapper of
    that kind (it has no user callback at all). -/
theorem c10cb_new (w : World) (k : WKind) :
    (w.newVia k).1.UserKeysOnly (w.newVia k).2 ∧
    (∀ wr : Wrapper, wr.kind = k → wr.core = (w.newVia k).2 → Needs (w.newVia k).1 wr) := by
  refine ⟨?_, (c10_new w k).2.2.1⟩
  show (w.newTable.1.wrapEffect k w.newTable.2).UserKeysOnly w.newTable.2
  rw [userKeysOnly_wrapEffect]
  intro s hs
  have ht := table_newTable_fresh w
  unfold passSteps passRows colsSteps colSteps World.column? at hs
  rw [ht] at hs
  simp [stepsOf, CbSet.at] at hs

/-- Creation paths: a table made by sub-package `k`'s `New()` and then filled by `ops` — which may
    register ANY callbacks (`okFor`: except a render-time cell callback on the table itself, the one
    list a wrap appends to) — renders (package-level function / fresh wrapper of `wr.kind`) exactly as
    the table made by `tabular.New()` and filled by the same `ops`. -/
theorem c10cb_creation_paths (x : Ext) (w : World) (k : WKind) (ops : List ContentOp) (wr : Wrapper)
    (hc : wr.core = w.newTable.2) (hops : ∀ op ∈ ops, op.okFor wr.core)
    (hU : (ops.foldl (ContentOp.run x.dw) w.newTable.1).UserKeysOnly wr.core)
    (ht : wr.core < (ops.foldl (ContentOp.run x.dw) w.newTable.1).tables.length) :
    (renderTo x ((ops.foldl (ContentOp.run x.dw) (w.newVia k).1).wrapEffect wr.kind wr.core) wr).2 =
      (renderTo x ((ops.foldl (ContentOp.run x.dw) w.newTable.1).wrapEffect wr.kind wr.core) wr).2 := by
  have h1 : (w.newVia k).1 = w.newTable.1.wrapEffect k wr.core := by rw [hc]; rfl
  rw [h1, wrapEffect_buildOps x.dw k wr.core ops hops]
  exact c10cb_created_by x _ [k] wr hU ht

/-! ### non-vacuity: `cbHist` (Proofs/E2EcbExample.lean) — callbacks that set user key 7 and `align`
    on cells, set `align` / `skipable` on columns during the pass, and fail on the table, on a row and
    on cells — unwrapped (`cbBase`) and wrapped as text and markdown (`cbW`) -/

namespace C10cbExample

def cbBase : World := run e2eX.dw cbHist

-- the theorems of `Props/C10.lean` do not apply
example : ¬ LogOnly cbBase 0 ∧ ¬ LogOnly cbW 0 := by decide +kernel
-- hypotheses of `c10cb_wrap_indep` / `c10cb_nesting` (text and markdown wrapper), on the wrapped table
example : cbW.UserKeysOnly 0 ∧ Needs cbW e2eText ∧ Needs cbW e2eMd := by decide +kernel
example := c10cb_wrap_indep e2eX cbW .markdown 0 e2eText (by decide +kernel) (by decide +kernel)
example := c10cb_nesting e2eX cbW [.text, .csv, .markdown, .text] e2eMd (by decide +kernel) (by decide +kernel)
-- hypotheses of `c10cb_created_by` / `c10cb_paths`, on the bare table; `Needs` is a real hypothesis of
-- the first two: the bare table does not have it
example : cbBase.UserKeysOnly 0 ∧ e2eText.core < cbBase.tables.length ∧ ¬ Needs cbBase e2eText := by
  decide +kernel
example := c10cb_created_by e2eX cbBase [.markdown, .text, .html] e2eText (by decide +kernel) (by decide +kernel)
example := c10cb_paths e2eX {} Generated.heavy cbBase [.markdown, .text] .markdown 0 [] (by decide +kernel)
  (by decide +kernel)
-- hypotheses of `c10cb_same_table`: the bare table and the table wrapped twice
theorem c10cb_ex_cbW : cbW = (cbBase.wrapEffect .text 0).wrapEffect .markdown 0 := by
  show run e2eX.dw (cbHist ++ wrapOps .text 0 ++ wrapOps .markdown 0) = _
  rw [run_wrapOps, run_wrapOps]; rfl
example : cbW.bare = cbBase.bare ∧ (cbW.table 0).columns = (cbBase.table 0).columns := by
  rw [c10cb_ex_cbW]
  exact ⟨((CbStable.wrap cbBase .text 0).trans (CbStable.wrap _ .markdown 0)).bare,
    ((CbStable.wrap cbBase .text 0).trans (CbStable.wrap _ .markdown 0)).cols 0⟩
example := c10cb_same_table e2eX cbW cbBase e2eJson (by rw [c10cb_ex_cbW, bare_wrapEffect, bare_wrapEffect])
  (by rw [c10cb_ex_cbW, columns_wrapEffect, columns_wrapEffect]) (by decide +kernel) (by decide +kernel) (by decide +kernel)
-- the callbacks do change what is written (column 1 becomes centred DURING the pass): the output is
-- not that of the view before the pass, and it is the same with three more wrappers around the table
example : (renderTo e2eX cbW e2eMd).2.output ≠ (renderMarkdown e2eX.dw (cbW.view 0)).output := by decide +kernel
example : (renderTo e2eX (((cbW.wrapEffect .text 0).wrapEffect .markdown 0).wrapEffect .json 0) e2eMd).2.output =
    [124,32,97,32,124,32,98,32,124,10, 124,58,45,45,45,58,124,32,45,45,45,32,124,10,
     124,32,99,32,124,32,100,32,124,10, 124,32,101,32,124,32,124,10] := by
  show (renderTo e2eX ([WKind.text, .markdown, .json].foldl (fun w k => w.wrapEffect k e2eMd.core) cbW) e2eMd).2.output = _
  rw [c10cb_nesting e2eX cbW [.text, .markdown, .json] e2eMd (by decide +kernel) (by decide +kernel)]
  decide +kernel
-- `UserKeysOnly` is needed: with a callback that overwrites texttable's private key AFTER the user's
-- own measuring callback, a further text wrap (whose measuring callback then runs last) changes the
-- output
def cbPriv2 : World :=
  run e2eX.dw (cbOps ++ [.regCb (.table 0) .render .cell (.setProp 11 .ttDims (some (.dims 5 1)))])
example : Needs cbPriv2 e2eText ∧ ¬ cbPriv2.UserKeysOnly 0 ∧
    (renderTo e2eX (cbPriv2.wrapEffect .text 0) e2eText).2.output ≠ (renderTo e2eX cbPriv2 e2eText).2.output := by
  decide +kernel

-- creation paths with a property-setting and a failing callback among the steps
def cbContent : List ContentOp :=
  [ .register (.table 0) .pre .cell (.setProp 2 (.user 7) (some (.user 70))),
    .register (.table 0) .pre .itself (.fail 3 55),
    .addHeaders 0 [0, 1], .addRowItems 0 [2, 3], .addSeparator 0, .addRowItems 0 [4],
    .register (.column 0 1) .pre .itself (.setProp 4 .align (some (.align 3))) ]
def cbEmpty : World := { items := [exItem 97, exItem 98, exItem 99, exItem 100, exItem 101, exItem 102] }
example : ∀ op ∈ cbContent, op.okFor 0 := by
  intro op hop
  simp only [cbContent, List.mem_cons, List.mem_nil_iff, or_false] at hop
  rcases hop with h | h | h | h | h | h | h <;> subst h <;> trivial
example : e2eText.core = cbEmpty.newTable.2 ∧
    (cbContent.foldl (ContentOp.run e2eX.dw) cbEmpty.newTable.1).UserKeysOnly e2eText.core ∧
    e2eText.core < (cbContent.foldl (ContentOp.run e2eX.dw) cbEmpty.newTable.1).tables.length ∧
    ¬ LogOnly (cbContent.foldl (ContentOp.run e2eX.dw) cbEmpty.newTable.1) 0 := by decide +kernel

end C10cbExample

end Tab
