/-
  C10 — a table renders the same whatever wrapper created it or is wrapped around it.

  In the model a wrapper is `(kind, core, decor, html)` and `X.Wrap(ref)` acts on the world by
  `wrapEffect` (registers the measuring callback of texttable / markdown on the core table; the
  repaired Go behaviour).  Hypotheses, as in C14 (Proofs/StableDefs.lean): `LogOnly w t` (the
  table's render-time user callbacks only log) and `Needs w wr` (the measuring callback the
  renderer of `wr.kind` relies on is registered — true after `wrapEffect w wr.kind wr.core`).
-/
import Tabmodel.Proofs.StableBuild
namespace Tab
open World

/-- One more wrapper of any kind around any table of the world (so: extra accumulated measuring
    callbacks, of the same or of the other sub-package) never changes what `wr` emits. -/
theorem c10_wrap_indep (x : Ext) (w : World) (k : WKind) (t : Nat) (wr : Wrapper)
    (hL : LogOnly w wr.core) (hN : Needs w wr) :
    (renderTo x (w.wrapEffect k t) wr).2 = (renderTo x w wr).2 :=
  (Stable.wrap w k t).render_eq x wr hL hN

/-- Any nesting of wrappers, of whatever kinds, around the core table: rendering through the
    outermost equals rendering directly. -/
theorem c10_nesting (x : Ext) (w : World) (ks : List WKind) (wr : Wrapper)
    (hL : LogOnly w wr.core) (hN : Needs w wr) :
    (renderTo x (ks.foldl (fun w k => w.wrapEffect k wr.core) w) wr).2 = (renderTo x w wr).2 :=
  (stable_wraps wr.core ks w).render_eq x wr hL hN

/-- Whatever wrappers are already around an existing table (it was made by some `X.New()`, wrapped
    again, …), wrapping it once more for the target format and rendering gives what wrapping the
    bare core table and rendering gives.  No `Needs` hypothesis: the last wrap provides it. -/
theorem c10_created_by (x : Ext) (w : World) (ks : List WKind) (wr : Wrapper)
    (hL : LogOnly w wr.core) (ht : wr.core < w.tables.length) :
    (renderTo x ((ks.foldl (fun w k => w.wrapEffect k wr.core) w).wrapEffect wr.kind wr.core) wr).2 =
      (renderTo x (w.wrapEffect wr.kind wr.core) wr).2 :=
  (stable_wraps wr.core ks w).render_pkg_eq x wr hL ht

/-- "The same logical table": two worlds that agree once every callback set, the event log and
    the private measurement properties are forgotten (`World.bare`) — whatever created the table,
    whatever wrappers were put around it and when — give the same package-level rendering. -/
theorem c10_same_table (x : Ext) (w1 w2 : World) (wr : Wrapper) (hb : w1.bare = w2.bare)
    (hL1 : LogOnly w1 wr.core) (hL2 : LogOnly w2 wr.core) (ht : wr.core < w1.tables.length) :
    (renderTo x (w1.wrapEffect wr.kind wr.core) wr).2 = (renderTo x (w2.wrapEffect wr.kind wr.core) wr).2 :=
  render_wrap_congr x w1 w2 wr hb hL1 hL2 ht

/-! ### the three ways to render -/

/-- the wrapper `X.Wrap(t)` returns; `heavy` is texttable's default decoration `UTF8BoxHeavy()` -/
def defaultWrapper (heavy : Decoration) (k : WKind) (t : Nat) : Wrapper :=
  { kind := k, core := t, decor := if k = .text then heavy else {} }

/-- package-level `X.RenderTo(t, …)`, i.e. `X.Wrap(t).RenderTo(…)` -/
def World.pkgRender (x : Ext) (heavy : Decoration) (w : World) (k : WKind) (t : Nat) : World × Emit Unit :=
  renderTo x (w.wrapEffect k t) (defaultWrapper heavy k t)

/-- the wrapper `auto.Wrap(t, style)` returns -/
def autoWrapper (reg : Registry) (heavy : Decoration) (style : Bytes) (t : Nat) : Wrapper :=
  match resolveStyle reg heavy style with
  | .csv => { kind := .csv, core := t }
  | .html => { kind := .html, core := t }
  | .markdown => { kind := .markdown, core := t }
  | .json => { kind := .json, core := t }
  | .text d => { kind := .text, core := t, decor := d }

/-- `auto.RenderTo(t, style, …)`, i.e. `auto.Wrap(t, style).RenderTo(…)` -/
def World.autoRender (x : Ext) (reg : Registry) (heavy : Decoration) (w : World) (t : Nat) (style : Bytes) :
    World × Emit Unit :=
  renderTo x (w.wrapEffect (autoWrapper reg heavy style t).kind t) (autoWrapper reg heavy style t)

/-- `renderTo` reads a wrapper only through its kind, its core table, its decoration (text only)
    and its html settings (html only): the wrapper method, the package-level function and `auto`
    are this one function. -/
theorem c10_paths (x : Ext) (w : World) (wr wr' : Wrapper) (hk : wr.kind = wr'.kind) (hc : wr.core = wr'.core)
    (hd : wr.kind = .text → wr.decor = wr'.decor) (hh : wr.kind = .html → wr.html = wr'.html) :
    renderTo x w wr = renderTo x w wr' := by
  unfold renderTo
  rw [← hk, ← hc]
  cases hkind : wr.kind with
  | text => simp only [hd hkind]
  | html => simp only [hh hkind]
  | _ => rfl

/-- `auto` with a style string is the package-level function of the format the string resolves
    to; for a texttable style it is the wrapper method of a text wrapper carrying the named
    decoration (for the plain style "texttable", the default one: the package-level function). -/
theorem c10_paths_auto (x : Ext) (reg : Registry) (heavy : Decoration) (w : World) (t : Nat) (style : Bytes) :
    World.autoRender x reg heavy w t style =
      match resolveStyle reg heavy style with
      | .csv => World.pkgRender x heavy w .csv t
      | .html => World.pkgRender x heavy w .html t
      | .markdown => World.pkgRender x heavy w .markdown t
      | .json => World.pkgRender x heavy w .json t
      | .text d => renderTo x (w.wrapEffect .text t) { kind := .text, core := t, decor := d } := by
  unfold World.autoRender autoWrapper World.pkgRender defaultWrapper
  cases resolveStyle reg heavy style <;> rfl

/-- `Render()` returns exactly the bytes `RenderTo` writes, or (with the error) nothing. -/
theorem c10_render_eq_renderto (m : Emit Unit) :
    (∀ u, m.res = .ok u → World.renderString m = (m.output, none)) ∧
    (∀ s, m.res = .error s → World.renderString m = ([], some s)) := by
  unfold World.renderString
  constructor
  · intro u h; rw [h]
  · intro s h; rw [h]

/-- `X.New()`: a new core table with the sub-package's wrapper around it -/
def World.newVia (w : World) (k : WKind) : World × Nat :=
  let (w', t) := w.newTable
  (w'.wrapEffect k t, t)

/-- `X.New()` is `X.Wrap(tabular.New())`; the table it returns satisfies the hypotheses of the
    theorems above for a wrapper of that kind, and differs from a core-made table only by the
    registered measuring callback (same observation). -/
theorem c10_new (w : World) (k : WKind) :
    w.newVia k = (w.newTable.1.wrapEffect k w.newTable.2, w.newTable.2) ∧
    LogOnly (w.newVia k).1 (w.newVia k).2 ∧
    (∀ wr : Wrapper, wr.kind = k → wr.core = (w.newVia k).2 → Needs (w.newVia k).1 wr) ∧
    (w.newVia k).1.obs (w.newVia k).2 = w.newTable.1.obs w.newTable.2 := by
  refine ⟨rfl, ?_, ?_, ?_⟩
  · exact logOnly_wrapEffect _ _ _ _ (logOnly_newTable w)
  · intro wr hk hc
    subst hk
    have : (w.newVia wr.kind).2 = w.newTable.2 := rfl
    rw [this] at hc
    have h := needs_wrapEffect_self w.newTable.1 wr (by rw [hc]; exact newTable_lt w)
    rw [hc] at h
    exact h
  · exact obs_wrapEffect _ _ _ _

/-- Filling a table commutes with wrapping it: `X.Wrap` (hence `X.New`) only appends to the
    table's render-time cell-callback list, which no content-building step reads. -/
theorem c10_build_commutes (dw : Measure) (k : WKind) (t : Nat) (ops : List ContentOp)
    (hops : ∀ op ∈ ops, op.okFor t) (w : World) :
    ops.foldl (ContentOp.run dw) (w.wrapEffect k t) = (ops.foldl (ContentOp.run dw) w).wrapEffect k t :=
  wrapEffect_buildOps dw k t ops hops w

/-- Creation paths: a table made by sub-package `k`'s `New()` and then filled by `ops` renders
    (package-level function / fresh wrapper of `wr.kind`) exactly as the table made by
    `tabular.New()` and filled by the same `ops`. -/
theorem c10_creation_paths (x : Ext) (w : World) (k : WKind) (ops : List ContentOp) (wr : Wrapper)
    (hc : wr.core = w.newTable.2) (hops : ∀ op ∈ ops, op.okFor wr.core)
    (hL : LogOnly (ops.foldl (ContentOp.run x.dw) w.newTable.1) wr.core)
    (ht : wr.core < (ops.foldl (ContentOp.run x.dw) w.newTable.1).tables.length) :
    (renderTo x ((ops.foldl (ContentOp.run x.dw) (w.newVia k).1).wrapEffect wr.kind wr.core) wr).2 =
      (renderTo x ((ops.foldl (ContentOp.run x.dw) w.newTable.1).wrapEffect wr.kind wr.core) wr).2 := by
  have h1 : (w.newVia k).1 = w.newTable.1.wrapEffect k wr.core := by rw [hc]; rfl
  rw [h1, wrapEffect_buildOps x.dw k wr.core ops hops]
  exact c10_created_by x _ [k] wr hL ht

/-! ### non-vacuity -/

def c10Item (b : UInt8) : Item :=
  { kind := .str [b], mString := none, mGoString := none, mError := none, fmtV := [b],
    mHeight := none, mWidth := none, json := some [34, b, 34] }

/-- one core-made table with a header, two rows and a separator, no wrapper yet -/
def c10World : World :=
  let w : World := { items := [c10Item 97, c10Item 98, c10Item 99, c10Item 100, c10Item 101, c10Item 102] }
  let (w, t) := w.newTable
  let w := w.addHeaders List.length t [0, 1]
  let (w, _) := w.addRowItems List.length t [2, 3]
  let w := w.addSeparator t
  (w.addRowItems List.length t [4, 5]).1

def c10Text : Wrapper := { kind := .text, core := 0, decor := { vHeader := [124] } }
def c10Md : Wrapper := { kind := .markdown, core := 0 }

theorem c10World_logOnly : LogOnly c10World 0 := by decide

/-- hypotheses of `c10_created_by` -/
example : LogOnly c10World 0 ∧ c10Text.core < c10World.tables.length := ⟨c10World_logOnly, by decide⟩
/-- hypotheses of `c10_wrap_indep` / `c10_nesting`, for a text and for a markdown wrapper, on the
    table wrapped as text, csv, markdown -/
example : LogOnly (((c10World.wrapEffect .text 0).wrapEffect .csv 0).wrapEffect .markdown 0) 0 ∧
    Needs (((c10World.wrapEffect .text 0).wrapEffect .csv 0).wrapEffect .markdown 0) c10Text ∧
    Needs (((c10World.wrapEffect .text 0).wrapEffect .csv 0).wrapEffect .markdown 0) c10Md :=
  ⟨logOnly_wrapEffect _ _ _ _ (logOnly_wrapEffect _ _ _ _ (logOnly_wrapEffect _ _ _ _ c10World_logOnly)),
    by decide⟩
/-- hypotheses of `c10_same_table`: the core-made table and the same table wrapped as text first -/
example : (c10World.wrapEffect .text 0).bare = c10World.bare ∧ LogOnly (c10World.wrapEffect .text 0) 0 :=
  ⟨bare_wrapEffect _ _ _, logOnly_wrapEffect _ _ _ _ c10World_logOnly⟩
/-- hypotheses of `c10_build_commutes` / `c10_creation_paths`: the same table as a list of steps -/
def c10Ops : List ContentOp := [.addHeaders 0 [0, 1], .addRowItems 0 [2, 3], .addSeparator 0, .addRowItems 0 [4, 5]]
def c10Empty : World := { items := [c10Item 97, c10Item 98, c10Item 99, c10Item 100, c10Item 101, c10Item 102] }
example : c10Ops.foldl (ContentOp.run List.length) c10Empty.newTable.1 = c10World := rfl
example : ∀ op ∈ c10Ops, op.okFor 0 := by
  intro op hop
  simp only [c10Ops, List.mem_cons, List.mem_nil_iff, or_false] at hop
  rcases hop with h | h | h | h <;> subst h <;> trivial
example : c10Text.core = c10Empty.newTable.2 ∧
    LogOnly (c10Ops.foldl (ContentOp.run List.length) c10Empty.newTable.1) c10Text.core ∧
    c10Text.core < (c10Ops.foldl (ContentOp.run List.length) c10Empty.newTable.1).tables.length := by decide
/-- … and `Needs` is a real hypothesis: the bare core table does not have it -/
example : ¬ Needs c10World c10Text := by decide

end Tab
