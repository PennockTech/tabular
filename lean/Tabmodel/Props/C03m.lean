/-
  C03m — the measure-side hypotheses of the text-table theorems, discharged or made exact.

  The rectangle theorems (`Props/C03.lean`, `e2e(cb)_text_rectangle*`) talk about the external
  display-width measure `dw` (go-runewidth's `StringWidth`, trusted) through three hypotheses:
  `GlyphOK dw d` (every glyph one cell wide), `AdditiveOn dw segs` (whole-line width = segment sum,
  FALSE for go-runewidth on some inputs: finding D20), and — in C18 — an unnamed "cluster shape".

   1. `c03m_additive_measure`, `c03m_rectangle_additive(_boxless)`: a fully additive measure satisfies
      `AdditiveOn` on every line, so the whole-line rectangle holds with that single hypothesis.
   2. `c03m_glyph_bridge`, `c03m_rectangle_builtins`, `c03m_e2ecb_rectangle_builtins`: for the
      built-in decorations the ONLY assumption about `dw` is that it agrees with the regenerated table
      of the library's own glyph measurements (`Generated.glyphWidths`).  `c03m_glyphok_iff`,
      `c03m_populated_glyphok`, `c03m_populate_sources`: exactly which glyphs must be one cell wide for
      a custom decoration completed by `Populate`.
   3. `c03m_additive_across`, `c03m_additiveOn_render(_boxless)`, `c03m_whole_line_across(_boxless)`,
      `c03m_whole_line_builtins`, `c03m_e2ecb_whole_line_builtins`: D20 made exact.  The hypothesis
      on `dw` is additivity ACROSS ACCEPTED BOUNDARIES only (`AdditiveAcross dw J`, `J` a junction
      relation looking at the end of the left and the start of the right string); the conclusion is
      `AdditiveOn` — hence the whole-line width — for every rendered line, provided every cell text
      line is `TextSafe J` (may stand between two spaces) and the glyphs are `GlyphJunctions J d`;
      both are decidable for `Junction.clusters joinsPrev joinsNext` (first / last code point not in
      given ranges).  `toyDw` is a non-additive measure with exactly go-runewidth's D20 behaviour that
      satisfies the hypothesis.
   4. `c03m_cells_le_2runes`: `ClusterShaped dw → dw l ≤ 2 * runeCount l` — the assumption behind
      `c18_cells_le_2runes` stated about `dw` itself.
-/
import Tabmodel.Props.E2Ecb
import Tabmodel.Props.C03Decor
import Tabmodel.Props.C18
import Tabmodel.Proofs.C03mExample
import Tabmodel.Proofs.C03mHistExample
namespace Tab
open World hiding CellOK
open E2Ecb Emit Generated

/-! ### 3 (core). additivity across accepted boundaries gives `AdditiveOn` -/

/-- The abstract step: if `dw` is additive across every boundary the junction `J` accepts, then on
    any line whose consecutive non-empty atoms are joined by accepted boundaries (`chainFrom J []`),
    `dw` of the concatenation is the sum of `dw` of the atoms. -/
theorem c03m_additive_across (dw : Measure) (J : Junction) (hA : AdditiveAcross dw J) (segs : List Seg)
    (h : chainFrom J [] (segs.flatMap Seg.atoms)) : AdditiveOn dw segs :=
  additiveOn_of_chain dw J hA segs h

/-- the three line shapes of the renderer are chains, under the glyph- and text-side conditions -/
theorem c03m_line_shapes_chain (J : Junction) :
    (∀ l h x r cw, cw ≠ [] → l ≠ [] → h ≠ [] → x ≠ [] → r ≠ [] →
      J.ok l h → J.ok h h → J.ok h x → J.ok x h → J.ok h r →
      chainFrom J [] ((ruleSegs l h x r cw).flatMap Seg.atoms)) ∧
    (∀ L I R slots, J.ok [SP] [SP] → L ≠ [] → I ≠ [] → R ≠ [] →
      J.ok L [SP] → J.ok [SP] I → J.ok I [SP] → J.ok [SP] R → (∀ s ∈ slots, TextSafe J s.ws.s) →
      chainFrom J [] ((boxedSegs L I R slots).flatMap Seg.atoms)) ∧
    (∀ slots, J.ok [SP] [SP] → (∀ s ∈ slots, TextSafe J s.ws.s) →
      chainFrom J [] ((boxlessSegs slots).flatMap Seg.atoms)) :=
  ⟨fun l h x r cw hcw hl hh hx hr j1 j2 j3 j4 j5 =>
      chain_ruleSegs J h x r cw hcw hh hx hr j2 j3 j4 j5 l [] hl j1 (Or.inl rfl),
   fun L I R slots hss hL hI hR a b c d ht => chain_boxedSegs J L I R slots hss hL hI hR a b c d ht,
   fun slots hss ht => chain_boxlessSegs J slots hss ht [] allSp_nil⟩

/-- `AdditiveOn` DISCHARGED for a boxed render: every chunk written is a line of segments (+ LF) of
    the common segment-sum width with the dividers at the common offsets (`c03_rectangle`), and `dw`
    is additive on it — under additivity across accepted boundaries only. -/
theorem c03m_additiveOn_render (dw : Measure) (J : Junction) (d : Decoration) (v : RTable)
    (hn : 1 ≤ v.ncols) (hs : WFShape v) (ha : AlignOK v) (hg : GlyphOK dw d) (hv : ViewOK dw v)
    (hA : AdditiveAcross dw J) (hJ : GlyphJunctions J d)
    (ht : ∀ c ∈ v.allCells, ∀ l ∈ lines c.text, TextSafe J l) :
    ∀ ch ∈ (renderTextBody d v).chunks, ∃ segs, ch = segBytes segs ++ [LF] ∧ AdditiveOn dw segs ∧
      segWidth dw segs = 1 + (v.colWidths.map (· + 3)).sum ∧
      divOffsets dw 0 segs = colOffsets 0 v.colWidths := by
  intro ch hch
  rw [(renderTextBody_eq d v hn hs ha hg.divs_header hg.divs_body hv.nonneg).2] at hch
  obtain ⟨segs, h1, h2, h3, h4, _⟩ :=
    lineKind_boxed_chain dw J d v ch hg hn hv hJ ht (specChunks_kinds d v ch hch)
  exact ⟨segs, h1, additiveOn_of_chain dw J hA segs h4, h2, h3⟩

/-- The same for a boxless render: every chunk is empty (a rule) or a line of slots joined by single
    spaces on which `dw` is additive. -/
theorem c03m_additiveOn_render_boxless (dw : Measure) (J : Junction) (d : Decoration) (v : RTable)
    (hn : 1 ≤ v.ncols) (hs : WFShape v) (ha : AlignOK v) (hb : BoxlessOK d) (hv : ViewOK dw v)
    (hA : AdditiveAcross dw J) (hss : J.ok [SP] [SP])
    (ht : ∀ c ∈ v.allCells, ∀ l ∈ lines c.text, TextSafe J l) :
    ∀ ch ∈ (renderTextBody d v).chunks, ch = [] ∨ ∃ slots, ch = segBytes (boxlessSegs slots) ++ [LF] ∧
      AdditiveOn dw (boxlessSegs slots) ∧ slots.map SlotD.width = v.colWidths ∧
      segWidth dw (boxlessSegs slots) = v.colWidths.sum + (v.colWidths.length - 1) := by
  intro ch hch
  have hd : DecoOK dw d := Or.inr hb
  rw [(renderTextBody_eq d v hn hs ha hd.divs_header hd.divs_body hv.nonneg).2] at hch
  rcases lineKind_boxless_chain dw J d v ch hb hv hss ht (specChunks_kinds d v ch hch) with h | h
  · exact Or.inl h
  · obtain ⟨slots, h1, h2, h3, h4, _⟩ := h
    exact Or.inr ⟨slots, h1, additiveOn_of_chain dw J hA _ h4, h2, h3⟩

/-- WHOLE-LINE rectangle, boxed, under additivity across accepted boundaries: with cells measured by
    `dw` (`CellMeasured`: no declared widths) and `dw " " = 1`, the library's own measure of every
    line written (without its LF) is `1 + Σ (cwᵢ + 3)`. -/
theorem c03m_whole_line_across (dw : Measure) (J : Junction) (d : Decoration) (v : RTable)
    (hn : 1 ≤ v.ncols) (hs : WFShape v) (ha : AlignOK v) (hg : GlyphOK dw d) (hv : ViewOK dw v)
    (hmeas : ∀ c ∈ v.allCells, CellMeasured dw c) (h1 : dw [SP] = 1)
    (hA : AdditiveAcross dw J) (hJ : GlyphJunctions J d)
    (ht : ∀ c ∈ v.allCells, ∀ l ∈ lines c.text, TextSafe J l) :
    ∀ ch ∈ (renderTextBody d v).chunks, ∃ line, ch = line ++ [LF] ∧
      dw line = 1 + (v.colWidths.map (· + 3)).sum := by
  intro ch hch
  rw [(renderTextBody_eq d v hn hs ha hg.divs_header hg.divs_body hv.nonneg).2] at hch
  obtain ⟨segs, e, hw, _, hc, hsrc⟩ :=
    lineKind_boxed_chain dw J d v ch hg hn hv hJ ht (specChunks_kinds d v ch hch)
  refine ⟨segBytes segs, e, Eq.trans ?_ hw⟩
  exact dw_segBytes_of_additive dw segs (additiveOn_of_chain dw J hA segs hc)
    (dw_spaces_of_across dw J hA hJ.sp_sp h1)
    (fun lp ws rp hm => slot_measured_of_src dw v (dw_nil_of_across dw J hA) hmeas ws (hsrc lp ws rp hm))

/-- WHOLE-LINE rectangle, boxless: every chunk is empty or a line measuring `Σ cwᵢ + (n − 1)`. -/
theorem c03m_whole_line_across_boxless (dw : Measure) (J : Junction) (d : Decoration) (v : RTable)
    (hn : 1 ≤ v.ncols) (hs : WFShape v) (ha : AlignOK v) (hb : BoxlessOK d) (hv : ViewOK dw v)
    (hmeas : ∀ c ∈ v.allCells, CellMeasured dw c) (h1 : dw [SP] = 1)
    (hA : AdditiveAcross dw J) (hss : J.ok [SP] [SP])
    (ht : ∀ c ∈ v.allCells, ∀ l ∈ lines c.text, TextSafe J l) :
    ∀ ch ∈ (renderTextBody d v).chunks, ch = [] ∨ ∃ line, ch = line ++ [LF] ∧
      dw line = v.colWidths.sum + (v.colWidths.length - 1) := by
  intro ch hch
  have hd : DecoOK dw d := Or.inr hb
  rw [(renderTextBody_eq d v hn hs ha hd.divs_header hd.divs_body hv.nonneg).2] at hch
  rcases lineKind_boxless_chain dw J d v ch hb hv hss ht (specChunks_kinds d v ch hch) with h | h
  · exact Or.inl h
  · obtain ⟨slots, e, _, hw, hc, hsrc⟩ := h
    refine Or.inr ⟨segBytes (boxlessSegs slots), e, Eq.trans ?_ hw⟩
    exact dw_segBytes_of_additive dw _ (additiveOn_of_chain dw J hA _ hc)
      (dw_spaces_of_across dw J hA hss h1)
      (fun lp ws rp hm => slot_measured_of_src dw v (dw_nil_of_across dw J hA) hmeas ws (hsrc lp ws rp hm))

/-! ### 1. fully additive measures -/

/-- A measure additive on every concatenation is additive on every line (any segmentation). -/
theorem c03m_additive_measure (dw : Measure) (h : ∀ a b, dw (a ++ b) = dw a + dw b) (segs : List Seg) :
    AdditiveOn dw segs :=
  dw_flatten_of_additive dw h _

/-- … and then `dw " " = 1` gives `dw (spaces k) = k` (the other hypothesis of `c03_whole_line`). -/
theorem c03m_spaces_additive (dw : Measure) (h : ∀ a b, dw (a ++ b) = dw a + dw b) (h1 : dw [SP] = 1) :
    ∀ k, dw (spaces k) = k :=
  dw_spaces_of_additive dw h h1

/-- plain additivity is the junction that accepts every boundary -/
theorem c03m_additive_iff_all (dw : Measure) :
    (∀ a b, dw (a ++ b) = dw a + dw b) ↔ AdditiveAcross dw Junction.all :=
  (additiveAcross_all_iff dw).symm

/-- The rectangle in the library's OWN measure, boxed decoration, for an additive `dw`: every line
    written, without its LF, measures `1 + Σ (cwᵢ + 3)`; no `AdditiveOn` hypothesis is left. -/
theorem c03m_rectangle_additive (dw : Measure) (d : Decoration) (v : RTable)
    (hn : 1 ≤ v.ncols) (hs : WFShape v) (ha : AlignOK v) (hg : GlyphOK dw d) (hv : ViewOK dw v)
    (hmeas : ∀ c ∈ v.allCells, CellMeasured dw c)
    (hadd : ∀ a b, dw (a ++ b) = dw a + dw b) (h1 : dw [SP] = 1) :
    ∀ ch ∈ (renderTextBody d v).chunks, ∃ line, ch = line ++ [LF] ∧
      dw line = 1 + (v.colWidths.map (· + 3)).sum :=
  c03m_whole_line_across dw Junction.all d v hn hs ha hg hv hmeas h1
    ((c03m_additive_iff_all dw).mp hadd) (glyphJunctions_all d) (fun _ _ l _ => textSafe_all l)

/-- The same for a boxless decoration: every chunk is empty or measures `Σ cwᵢ + (n − 1)`. -/
theorem c03m_rectangle_additive_boxless (dw : Measure) (d : Decoration) (v : RTable)
    (hn : 1 ≤ v.ncols) (hs : WFShape v) (ha : AlignOK v) (hb : BoxlessOK d) (hv : ViewOK dw v)
    (hmeas : ∀ c ∈ v.allCells, CellMeasured dw c)
    (hadd : ∀ a b, dw (a ++ b) = dw a + dw b) (h1 : dw [SP] = 1) :
    ∀ ch ∈ (renderTextBody d v).chunks, ch = [] ∨ ∃ line, ch = line ++ [LF] ∧
      dw line = v.colWidths.sum + (v.colWidths.length - 1) :=
  c03m_whole_line_across_boxless dw Junction.all d v hn hs ha hb hv hmeas h1
    ((c03m_additive_iff_all dw).mp hadd) trivial (fun _ _ l _ => textSafe_all l)

/-! ### 2. the glyph side: from the regenerated table to `GlyphOK dw` -/

/-- The bridge.  If `dw` agrees with the library's own measurement of each built-in glyph (the
    regenerated table `Generated.glyphWidths`), then every boxed built-in decoration is `GlyphOK dw`
    and every boxless one is `BoxlessOK`. -/
theorem c03m_glyph_bridge (dw : Measure) (hT : ∀ p ∈ glyphWidths, dw p.1 = p.2) :
    ∀ p ∈ builtins, (p.2.isBoxless = false → GlyphOK dw p.2) ∧ (p.2.isBoxless = true → BoxlessOK p.2) := by
  intro p hp
  rcases c03_builtins_complete p hp with ⟨hb, hall⟩ | ⟨hb, hok⟩
  · exact ⟨fun h => (by rw [hb] at h; cases h), fun _ => boxlessOK_of_all_empty p.2 hb hall⟩
  · exact ⟨fun _ => glyphOK_of_glyphOKBy dw hT p.2 hb hok, fun h => (by rw [hb] at h; cases h)⟩

/-- hence every built-in is a decoration the layout theorems cover -/
theorem c03m_builtins_decoOK (dw : Measure) (hT : ∀ p ∈ glyphWidths, dw p.1 = p.2) :
    ∀ p ∈ builtins, DecoOK dw p.2 := by
  intro p hp
  cases hb : p.2.isBoxless with
  | false => exact Or.inl ((c03m_glyph_bridge dw hT p hp).1 hb)
  | true => exact Or.inr ((c03m_glyph_bridge dw hT p hp).2 hb)

/-- the general form of the bridge: the table-driven check `glyphOKBy` (what `c03_builtins_complete`
    establishes) implies `GlyphOK dw` for every measure that agrees with the table -/
theorem c03m_glyphokby_sound (dw : Measure) (hT : ∀ p ∈ glyphWidths, dw p.1 = p.2) (d : Decoration)
    (hb : d.isBoxless = false) (h : glyphOKBy d = true) : GlyphOK dw d :=
  glyphOK_of_glyphOKBy dw hT d hb h

/-- `GlyphOK`, exactly: not boxless, and each of the 18 glyph fields the renderer reads
    (`renderGlyphs`) is non-empty and one cell wide.  (Necessary as well as sufficient: this IS the
    hypothesis.) -/
theorem c03m_glyphok_iff (dw : Measure) (d : Decoration) :
    GlyphOK dw d ↔ d.isBoxless = false ∧ ∀ g ∈ renderGlyphs d, g ≠ [] ∧ dw g = 1 :=
  glyphOK_iff dw d

/-- A custom decoration completed by `Populate` (not boxless): non-emptiness is automatic, so the
    ONLY side condition is `dw g = 1` for the 18 render glyphs of the populated record. -/
theorem c03m_populated_glyphok (dw : Measure) (d : Decoration) (hb : d.isBoxless = false)
    (h1 : ∀ g ∈ renderGlyphs d.populate, dw g = 1) : GlyphOK dw d.populate := by
  rw [glyphOK_iff]
  exact ⟨hb, fun g hg =>
    ⟨(forall_renderGlyphs d.populate (· ≠ [])).mpr (populate_glyphs_ne d) g hg, h1 g hg⟩⟩

/-- Where those 18 glyphs come from: each is a non-empty field the caller wrote, or one of the three
    defaults "H", "V", "X". -/
theorem c03m_populate_sources (d : Decoration) :
    ∀ g ∈ renderGlyphs d.populate, g ∈ d.fields.filter (fun x => x != []) ++ [[72], [86], [88]] :=
  populate_sources d

/-- So it suffices that every non-empty field the caller wrote, and "H", "V", "X", are one cell wide. -/
theorem c03m_populated_glyphok_sources (dw : Measure) (d : Decoration) (hb : d.isBoxless = false)
    (h1 : ∀ g ∈ d.fields.filter (fun x => x != []) ++ [[72], [86], [88]], dw g = 1) :
    GlyphOK dw d.populate :=
  c03m_populated_glyphok dw d hb (fun g hg => h1 g (populate_sources d g hg))

/-- The rectangle for EVERY built-in decoration, no `GlyphOK` left to the caller: the only hypothesis
    about `dw` is agreement with the glyph table.  Boxed built-ins: every chunk is a line of segments
    of segment-sum width `1 + Σ (cwᵢ + 3)`, dividers at `[0, cw₀+3, …]`; the boxless one: every chunk
    is empty or a line of slots of segment-sum width `Σ cwᵢ + (n − 1)`. -/
theorem c03m_rectangle_builtins (dw : Measure) (hT : ∀ p ∈ glyphWidths, dw p.1 = p.2)
    (p : Bytes × Decoration) (hp : p ∈ builtins) (v : RTable)
    (hn : 1 ≤ v.ncols) (hs : WFShape v) (ha : AlignOK v) (hv : ViewOK dw v) :
    (renderTextBody p.2 v).res = .ok () ∧
    (p.2.isBoxless = false →
      ∀ ch ∈ (renderTextBody p.2 v).chunks, ∃ segs, ch = segBytes segs ++ [LF] ∧
        segWidth dw segs = 1 + (v.colWidths.map (· + 3)).sum ∧
        divOffsets dw 0 segs = colOffsets 0 v.colWidths) ∧
    (p.2.isBoxless = true →
      ∀ ch ∈ (renderTextBody p.2 v).chunks, ch = [] ∨ ∃ slots, ch = segBytes (boxlessSegs slots) ++ [LF] ∧
        slots.map SlotD.width = v.colWidths ∧
        segWidth dw (boxlessSegs slots) = v.colWidths.sum + (v.colWidths.length - 1)) :=
  ⟨c03_ok dw p.2 v hn hs ha (c03m_builtins_decoOK dw hT p hp) (fun c hc => (hv c hc).1),
   fun hb => c03_rectangle dw p.2 v hn hs ha ((c03m_glyph_bridge dw hT p hp).1 hb) hv,
   fun hb => c03_rectangle_boxless dw p.2 v hn hs ha ((c03m_glyph_bridge dw hT p hp).2 hb) hv⟩

/-- The same END TO END (`e2ecb_text_rectangle*` with `hg` / `hb` removed): any valid history, any
    callbacks naming no private key, the wrapper's decoration one of the built-ins. -/
theorem c03m_e2ecb_rectangle_builtins (x : Ext) (ops : List BuildOp) (hv : Valid ops = true) (wr : Wrapper)
    (hk : wr.kind = .text) (ht : wr.core < (run x.dw ops).tables.length)
    (hU : (run x.dw ops).UserKeysOnly wr.core) (hN : Needs (run x.dw ops) wr)
    (hT : ∀ p ∈ glyphWidths, x.dw p.1 = p.2) (hd : wr.decor ∈ builtins.map (·.2))
    (ha : AlignOK ((invokeRenderCallbacks x.dw (run x.dw ops) wr.core).view wr.core))
    (hn : 1 ≤ ((run x.dw ops).table wr.core).nColumns) (hF : TableFits x.dw (run x.dw ops) wr.core) :
    let w := run x.dw ops
    let v' := (invokeRenderCallbacks x.dw w wr.core).view wr.core
    let m := (w.renderTo x wr).2
    ViewOK x.dw v' ∧ m.res = .ok () ∧
    (wr.decor.isBoxless = false →
      ∀ ch ∈ m.chunks, ∃ segs, ch = segBytes segs ++ [LF] ∧
        segWidth x.dw segs = 1 + (v'.colWidths.map (· + 3)).sum ∧
        divOffsets x.dw 0 segs = colOffsets 0 v'.colWidths) ∧
    (wr.decor.isBoxless = true →
      ∀ ch ∈ m.chunks, ch = [] ∨ ∃ slots, ch = segBytes (boxlessSegs slots) ++ [LF] ∧
        slots.map SlotD.width = v'.colWidths ∧
        segWidth x.dw (boxlessSegs slots) = v'.colWidths.sum + (v'.colWidths.length - 1)) := by
  intro w v' m
  obtain ⟨p, hp, hpe⟩ := List.mem_map.mp hd
  have hbr : (wr.decor.isBoxless = false → GlyphOK x.dw wr.decor) ∧
      (wr.decor.isBoxless = true → BoxlessOK wr.decor) := by
    rw [← hpe]; exact c03m_glyph_bridge x.dw hT p hp
  have hdeco : DecoOK x.dw wr.decor := by rw [← hpe]; exact c03m_builtins_decoOK x.dw hT p hp
  obtain ⟨_, _, _, _, _, hok, _⟩ := e2ecb_text x ops hv wr hk ht hU hN hdeco ha hn
  have hV : ViewOK x.dw v' := E2Ecb.viewOK_cb x.dw w wr.core hU (hN.1 hk) hF
  exact ⟨hV, hok,
    fun hb => (e2ecb_text_rectangle x ops hv wr hk ht hU hN (hbr.1 hb) ha hn hF).2.2,
    fun hb => (e2ecb_text_rectangle_boxless x ops hv wr hk ht hU hN (hbr.2 hb) ha hn hF).2.2⟩

/-! ### 3 (assembled). built-in decorations and the code-point junction -/

/-- The glyph-side boundary conditions hold for every boxed built-in decoration and every
    code-point junction that accepts space, `+ - |` and the box-drawing block U+2500–U+257F on both
    sides (`boxCp`): each built-in glyph is exactly one such code point (regenerated fact). -/
theorem c03m_builtins_junctions (e s : Nat → Bool) (hes : ∀ c, boxCp c = true → e c = true ∧ s c = true) :
    ∀ p ∈ builtins, p.2.isBoxless = false → GlyphJunctions (Junction.cps e s) p.2 :=
  fun p hp hb => glyphJunctions_of_boxCp e s p.2 (builtins_boxCp p hp hb) hes

/-- … in particular for `Junction.clusters joinsPrev joinsNext` whenever neither range list contains
    a `boxCp` code point (`rangesAvoidBox`, decidable) -/
theorem c03m_builtins_junctions_clusters (jp jn : List (Nat × Nat))
    (h1 : rangesAvoidBox jp = true) (h2 : rangesAvoidBox jn = true) :
    ∀ p ∈ builtins, p.2.isBoxless = false → GlyphJunctions (Junction.clusters jp jn) p.2 :=
  c03m_builtins_junctions _ _ (boxCp_clusters jp jn h1 h2)

/-- WHOLE-LINE rectangle for every built-in decoration.  Hypotheses about `dw`: agreement with the
    glyph table, `dw " " = 1`, and additivity across boundaries between a whole code point in `e` and
    a whole code point in `s`, where `e`, `s` contain `boxCp`.  Hypothesis about the texts: every
    cell line is empty or starts with a whole code point in `s` and ends with one in `e` (`TextSafe`,
    decidable).  Then every line written measures `1 + Σ (cwᵢ + 3)` (boxed) resp. is empty or
    measures `Σ cwᵢ + (n − 1)` (boxless) in the library's own measure. -/
theorem c03m_whole_line_builtins (dw : Measure) (e s : Nat → Bool)
    (hT : ∀ p ∈ glyphWidths, dw p.1 = p.2) (h1 : dw [SP] = 1)
    (hA : AdditiveAcross dw (Junction.cps e s)) (hes : ∀ c, boxCp c = true → e c = true ∧ s c = true)
    (p : Bytes × Decoration) (hp : p ∈ builtins) (v : RTable)
    (hn : 1 ≤ v.ncols) (hs : WFShape v) (ha : AlignOK v) (hv : ViewOK dw v)
    (hmeas : ∀ c ∈ v.allCells, CellMeasured dw c)
    (ht : ∀ c ∈ v.allCells, ∀ l ∈ lines c.text, TextSafe (Junction.cps e s) l) :
    (p.2.isBoxless = false →
      ∀ ch ∈ (renderTextBody p.2 v).chunks, ∃ line, ch = line ++ [LF] ∧
        dw line = 1 + (v.colWidths.map (· + 3)).sum) ∧
    (p.2.isBoxless = true →
      ∀ ch ∈ (renderTextBody p.2 v).chunks, ch = [] ∨ ∃ line, ch = line ++ [LF] ∧
        dw line = v.colWidths.sum + (v.colWidths.length - 1)) := by
  have hsp : (Junction.cps e s).ok [SP] [SP] :=
    ⟨(endsCp_sp e).trans (hes 32 (by decide)).1, (startsCp_sp s).trans (hes 32 (by decide)).2⟩
  exact ⟨fun hb => c03m_whole_line_across dw _ p.2 v hn hs ha ((c03m_glyph_bridge dw hT p hp).1 hb) hv hmeas h1 hA
      (c03m_builtins_junctions e s hes p hp hb) ht,
    fun hb => c03m_whole_line_across_boxless dw _ p.2 v hn hs ha ((c03m_glyph_bridge dw hT p hp).2 hb) hv hmeas h1 hA
      hsp ht⟩

/-- END TO END.  A table built by any valid history, any callbacks naming no private key, a built-in
    decoration, no item declaring a display width (`NoDeclaredWidth`, decidable), every text line of
    every cell `TextSafe` (decidable); `dw` agrees with the glyph table, measures a space as 1 and is
    additive across the accepted code-point boundaries.  Then the render succeeds and the library's
    own measure of EVERY line written is the same: `1 + Σ (cwᵢ + 3)` (boxed), resp. every chunk is
    empty or measures `Σ cwᵢ + (n − 1)` (boxless).  This is C03 clause 1 as worded, with D20 turned
    into the explicit side condition `TextsSafe`. -/
theorem c03m_e2ecb_whole_line_builtins (x : Ext) (ops : List BuildOp) (hv : Valid ops = true) (wr : Wrapper)
    (hk : wr.kind = .text) (ht : wr.core < (run x.dw ops).tables.length)
    (hU : (run x.dw ops).UserKeysOnly wr.core) (hN : Needs (run x.dw ops) wr)
    (e s : Nat → Bool) (hT : ∀ p ∈ glyphWidths, x.dw p.1 = p.2) (h1 : x.dw [SP] = 1)
    (hA : AdditiveAcross x.dw (Junction.cps e s)) (hes : ∀ c, boxCp c = true → e c = true ∧ s c = true)
    (hd : wr.decor ∈ builtins.map (·.2))
    (ha : AlignOK ((invokeRenderCallbacks x.dw (run x.dw ops) wr.core).view wr.core))
    (hn : 1 ≤ ((run x.dw ops).table wr.core).nColumns) (hF : TableFits x.dw (run x.dw ops) wr.core)
    (hD : (run x.dw ops).NoDeclaredWidth wr.core)
    (hS : (run x.dw ops).TextsSafe (Junction.cps e s) wr.core) :
    let w := run x.dw ops
    let v' := (invokeRenderCallbacks x.dw w wr.core).view wr.core
    let m := (w.renderTo x wr).2
    m.res = .ok () ∧
    (wr.decor.isBoxless = false →
      ∀ ch ∈ m.chunks, ∃ line, ch = line ++ [LF] ∧ x.dw line = 1 + (v'.colWidths.map (· + 3)).sum) ∧
    (wr.decor.isBoxless = true →
      ∀ ch ∈ m.chunks, ch = [] ∨ ∃ line, ch = line ++ [LF] ∧
        x.dw line = v'.colWidths.sum + (v'.colWidths.length - 1)) := by
  intro w v' m
  obtain ⟨p, hp, hpe⟩ := List.mem_map.mp hd
  have hdeco : DecoOK x.dw wr.decor := by rw [← hpe]; exact c03m_builtins_decoOK x.dw hT p hp
  obtain ⟨hm, hnc, hwf, _, _, hok, _⟩ := e2ecb_text x ops hv wr hk ht hU hN hdeco ha hn
  have hV : ViewOK x.dw v' := E2Ecb.viewOK_cb x.dw w wr.core hU (hN.1 hk) hF
  have hmeas : ∀ c ∈ v'.allCells, CellMeasured x.dw c :=
    cellMeasured_cb x.dw w wr.core hU (hN.1 hk) (dw_nil_of_across x.dw _ hA) hD
  have hts : ∀ c ∈ v'.allCells, ∀ l ∈ lines c.text, TextSafe (Junction.cps e s) l :=
    textsSafe_cb x.dw _ w wr.core hU (hN.1 hk) hS
  have hn' : 1 ≤ v'.ncols := by rw [hnc]; exact hn
  have hall := c03m_whole_line_builtins x.dw e s hT h1 hA hes p hp v' hn' hwf ha hV hmeas hts
  have hm' : (w.renderTo x wr).2 = renderTextBody p.2 v' := by rw [hpe]; exact hm
  refine ⟨hok, fun hb => ?_, fun hb => ?_⟩
  · show ∀ ch ∈ (w.renderTo x wr).2.chunks, _
    rw [hm']; exact hall.1 (by rw [hpe]; exact hb)
  · show ∀ ch ∈ (w.renderTo x wr).2.chunks, _
    rw [hm']; exact hall.2 (by rw [hpe]; exact hb)

/-- `TextSafe` for a code-point junction, spelled out: the line is empty, or (a space is accepted on
    both sides and) it starts with a whole code point in `s` and ends with a whole code point in `e`. -/
theorem c03m_textsafe_cps (e s : Nat → Bool) (t : Bytes) :
    TextSafe (Junction.cps e s) t ↔
      t = [] ∨ (e 32 = true ∧ s 32 = true ∧ startsCp s t = true ∧ endsCp e t = true) := by
  unfold TextSafe Junction.cps
  simp only [endsCp_sp, startsCp_sp]
  constructor
  · rintro (h | ⟨⟨a, b⟩, c, d⟩)
    · exact Or.inl h
    · exact Or.inr ⟨a, d, b, c⟩
  · rintro (h | ⟨a, b, c, d⟩)
    · exact Or.inl h
    · exact Or.inr ⟨⟨a, c⟩, d, b⟩

/-- The spec-level code-point reader agrees with the model of Go's decoder: a byte string `cpOfExact`
    accepts is consumed whole by one `utf8.DecodeRune` step and counts as exactly one rune. -/
theorem c03m_cp_whole_rune (g : Bytes) (c : Nat) (h : cpOfExact g = some c) :
    runeLen g = g.length ∧ runeCount g = 1 :=
  ⟨cpOfExact_runeLen g c h, cpOfExact_runeCount g c h⟩

/-! ### 4. cluster-shaped measures (C18 clause 4, stated about `dw`) -/

/-- If `dw` has go-runewidth's shape (`ClusterShaped`: the string is cut into clusters of ≥ 1 whole
    runes, each contributing ≤ 2 cells) then display cells never exceed twice the runes. -/
theorem c03m_cells_le_2runes (dw : Measure) (h : ClusterShaped dw) : ∀ l, dw l ≤ 2 * runeCount l :=
  clusterShaped_le dw h

/-- … hence the same for the longest-line measures the cell metrics are built from. -/
theorem c03m_longest_cells_le_2runes (dw : Measure) (h : ClusterShaped dw) (s : Bytes) :
    longestLine dw s ≤ 2 * longestLine runeCount s := by
  rcases (c18_longest_bound dw s).2 with h0 | ⟨l, hl, he⟩
  · omega
  · rw [he]
    exact Nat.le_trans (clusterShaped_le dw h l)
      (Nat.mul_le_mul_left 2 ((c18_longest_bound runeCount s).1 l hl))

/-- `ClusterShaped` is what `c18_cells_le_2runes` assumes: any `clusterWidth cr cw` with fuel = length -/
theorem c03m_clusterShaped_intro (cr cw : Bytes → Nat) (hcr : ∀ s, 1 ≤ cr s) (hcw : ∀ s, cw s ≤ 2) :
    ClusterShaped (fun l => clusterWidth cr cw l.length l) :=
  ⟨cr, cw, hcr, hcw, fun _ => rfl⟩

/-! ### non-vacuity -/

namespace C03mExample
open TextExample


-- 1. byte length is additive; `runeCount` and `toyDw` are not
example : ∀ a b : Bytes, List.length (a ++ b) = List.length a + List.length b := len_add
example : ¬ ∀ a b, runeCount (a ++ b) = runeCount a + runeCount b := by
  intro h; have := h [0xE4] [0xB8, 0x96]; revert this; decide
example : ¬ ∀ a b, toyDw (a ++ b) = toyDw a + toyDw b := toyDw_not_additive
example (segs : List Seg) : AdditiveOn List.length segs := c03m_additive_measure _ len_add segs
example : ∀ k, List.length (spaces k) = k := c03m_spaces_additive _ len_add rfl
example : AdditiveAcross List.length Junction.all := (c03m_additive_iff_all _).mp len_add
/-- every line of the example table is 12 wide in the (additive) measure itself -/
example : ∀ ch ∈ (renderTextBody asciiSimple exView).chunks, ∃ line, ch = line ++ [LF] ∧ line.length = 12 :=
  c03m_rectangle_additive List.length _ _ hn hs ha hg hv (fun c hc => (hall c hc).2.2) len_add rfl
example : ∀ ch ∈ (renderTextBody boxlessDeco exView).chunks, ch = [] ∨ ∃ line, ch = line ++ [LF] ∧ line.length = 6 :=
  c03m_rectangle_additive_boxless List.length _ _ hn hs ha hb hv (fun c hc => (hall c hc).2.2)
    len_add rfl

-- 2. `toyDw` agrees with the glyph table (byte length does not: a box glyph is 3 bytes, 1 cell)
example : ∀ p ∈ glyphWidths, toyDw p.1 = p.2 := toyDw_table
example : ¬ ∀ p ∈ glyphWidths, List.length p.1 = p.2 := by decide
example : GlyphOK toyDw heavy :=
  (c03m_glyph_bridge toyDw toyDw_table heavyP heavy_mem).1 rfl
example : ∀ p ∈ builtins, DecoOK toyDw p.2 := c03m_builtins_decoOK toyDw toyDw_table
example : GlyphOK toyDw heavy := c03m_glyphokby_sound toyDw toyDw_table heavy rfl (by decide)
example : GlyphOK List.length asciiSimple :=
  c03m_populated_glyphok List.length { horizontal := [45], vertical := [124], crossPiece := [43] } rfl (by decide)
example : GlyphOK List.length asciiSimple :=
  c03m_populated_glyphok_sources List.length { horizontal := [45], vertical := [124], crossPiece := [43] } rfl
    (by decide)
/-- a wide glyph breaks `GlyphOK` (the side condition is necessary) -/
example : ¬ GlyphOK List.length ({ horizontal := [226, 148, 128] } : Decoration).populate := by
  rw [c03m_glyphok_iff]; rintro ⟨_, h⟩; have := (h [226, 148, 128] (by decide)).2; revert this; decide
example := c03m_populate_sources { horizontal := [45] }
/-- the example view under the built-in heavy decoration: segment-sum width 12, dividers at 0, 6, 11 -/
example : ∀ ch ∈ (renderTextBody heavy exView).chunks, ∃ segs, ch = segBytes segs ++ [LF] ∧
    segWidth toyDw segs = 12 ∧ divOffsets toyDw 0 segs = [0, 6, 11] :=
  (c03m_rectangle_builtins toyDw toyDw_table heavyP heavy_mem exView hn hs ha toy_hv).2.1 rfl

-- 3. `toyDw` is additive across `toyJ` although it is not additive
example : AdditiveAcross toyDw toyJ := toyDw_across
example : TextSafe toyJ [97, 94, 98] := by decide            -- "a^b"
example : ¬ TextSafe toyJ [94, 98] := by decide               -- "^b": joins the padding space
example : toyDw ([SP] ++ [94, 98]) ≠ toyDw [SP] + toyDw [94, 98] := by decide
example : GlyphJunctions toyJ heavy :=
  c03m_builtins_junctions _ _ toy_box heavyP heavy_mem rfl
example : ∀ c ∈ exView.allCells, ∀ l ∈ lines c.text, TextSafe toyJ l := by decide
example : ∀ ch ∈ (renderTextBody heavy exView).chunks, ∃ segs, ch = segBytes segs ++ [LF] ∧
    AdditiveOn toyDw segs ∧ segWidth toyDw segs = 12 ∧ divOffsets toyDw 0 segs = [0, 6, 11] :=
  c03m_additiveOn_render toyDw toyJ heavy exView hn hs ha
    ((c03m_glyph_bridge toyDw toyDw_table heavyP heavy_mem).1 rfl) toy_hv toyDw_across
    (c03m_builtins_junctions _ _ toy_box heavyP heavy_mem rfl) (by decide)
/-- the whole-line rectangle for the non-additive `toyDw` -/
example : ∀ ch ∈ (renderTextBody heavy exView).chunks, ∃ line, ch = line ++ [LF] ∧ toyDw line = 12 :=
  (c03m_whole_line_builtins toyDw _ _ toyDw_table toyDw_sp toyDw_across toy_box
    heavyP heavy_mem exView hn hs ha toy_hv
    (fun c hc => (toy_hall c hc).2.2) (by decide)).1 rfl
example : ∀ ch ∈ (renderTextBody boxlessDeco exView).chunks, ch = [] ∨ ∃ line, ch = line ++ [LF] ∧ toyDw line = 6 :=
  c03m_whole_line_across_boxless toyDw toyJ _ _ hn hs ha hb toy_hv (fun c hc => (toy_hall c hc).2.2)
    toyDw_sp toyDw_across (by decide) (by decide)
example := c03m_additiveOn_render_boxless toyDw toyJ _ _ hn hs ha hb toy_hv toyDw_across (by decide) (by decide)
example : AdditiveOn toyDw (boxedSegs [124] [124] [124] [⟨1, ⟨[97], 1⟩, 0⟩]) :=
  c03m_additive_across toyDw toyJ toyDw_across _
    ((c03m_line_shapes_chain toyJ).2.1 [124] [124] [124] [⟨1, ⟨[97], 1⟩, 0⟩] (by decide) (by decide) (by decide)
      (by decide) (by decide) (by decide) (by decide) (by decide) (by decide))
example := (c03m_line_shapes_chain toyJ).2.2 [] (by decide) (by simp)

/-- the D20 inputs with an illustrative (NOT exhaustive) pair of range lists: combining diacritics,
    U+0903 (spacing mark), ZWJ, emoji modifiers join the previous character; U+0600–0605, U+0D4E
    (prepend) join the next one -/
abbrev d20J : Junction :=
  Junction.clusters [(0x300, 0x36F), (0x903, 0x903), (0x200D, 0x200D), (0x1F3FB, 0x1F3FF)]
    [(0x600, 0x605), (0xD4E, 0xD4E)]
example : TextSafe d20J [97, 98, 99] := by decide                            -- "abc"
example : TextSafe d20J [0xE6, 0x97, 0xA5, 0xE6, 0x9C, 0xAC] := by decide    -- "日本"
example : ¬ TextSafe d20J [0xE0, 0xA4, 0x83, 97] := by decide                -- U+0903 "a"
example : ¬ TextSafe d20J [0xF0, 0x9F, 0x8F, 0xBB, 97] := by decide          -- U+1F3FB "a"
example : ¬ TextSafe d20J [97, 0xE0, 0xB5, 0x8E] := by decide                -- "a" U+0D4E
example : ¬ TextSafe d20J [97, 0xD8, 0x80] := by decide                      -- "a" U+0600
example : ¬ TextSafe d20J [97, 0xE4] := by decide                            -- truncated UTF-8 at the end
example : ∀ p ∈ builtins, p.2.isBoxless = false → GlyphJunctions d20J p.2 :=
  c03m_builtins_junctions_clusters _ _ (by decide) (by decide)

-- end to end: the history of `Props/E2Ecb.lean` (callbacks that set properties and fail), measured by the
-- non-additive `toyDw`, rendered with the built-in heavy decoration
example := c03m_e2ecb_rectangle_builtins toyX cbOps C03mHistExample.hv e2eHeavy rfl C03mHistExample.ht
  C03mHistExample.hU C03mHistExample.hN toyDw_table C03mHistExample.hd C03mHistExample.ha C03mHistExample.hn
  C03mHistExample.hF
/-- every line of the real render is 9 cells wide in the measure itself -/
example : ∀ ch ∈ ((run toyX.dw cbOps).renderTo toyX e2eHeavy).2.chunks, ∃ line, ch = line ++ [LF] ∧
    toyDw line = 9 := by
  have h := (c03m_e2ecb_whole_line_builtins toyX cbOps C03mHistExample.hv e2eHeavy rfl C03mHistExample.ht
    C03mHistExample.hU C03mHistExample.hN _ _ toyDw_table toyDw_sp toyDw_across toy_box C03mHistExample.hd
    C03mHistExample.ha C03mHistExample.hn C03mHistExample.hF C03mHistExample.hD C03mHistExample.hS).2.1 rfl
  rw [C03mHistExample.hcw] at h
  exact h

example : TextSafe toyJ [97, 94, 98] := (c03m_textsafe_cps _ _ _).mpr (Or.inr (by decide))
example := c03m_cp_whole_rune [226, 148, 131] 0x2503 (by decide)
-- `cpOfExact` inverts the model's `encodeRune` on the D20 code points
example : [0x903, 0x1F3FB, 0xD4E, 0x600, 0x2503, 0x41].map (fun c => cpOfExact (encodeRune c)) =
    [some 0x903, some 0x1F3FB, some 0xD4E, some 0x600, some 0x2503, some 0x41] := by decide
example : cpOfExact [0xC0, 0x80] = none ∧ cpOfExact [0xED, 0xA0, 0x80] = none ∧ cpOfExact [0xE4, 0xB8] = none := by
  decide                                                                    -- overlong, surrogate, truncated

-- 4. cluster-shaped measures
example : ClusterShaped runeCount := runeCount_clusterShaped
example : ∀ l, runeCount l ≤ 2 * runeCount l := c03m_cells_le_2runes _ runeCount_clusterShaped
/-- byte length is additive but NOT cluster-shaped: "世" is 3 bytes, 1 rune -/
example : ¬ ClusterShaped List.length := by
  intro h; have := c03m_cells_le_2runes _ h [0xe4, 0xb8, 0x96]; revert this; decide
example := c03m_longest_cells_le_2runes _ runeCount_clusterShaped [97, 10, 98, 99]
/-- one rune per cluster, CJK lead bytes (E3..E9) wide: the example of `Props/C18.lean` -/
example := c03m_clusterShaped_intro (fun _ => 1)
  (fun s => match s with | b :: _ => if 0xE3 ≤ b && b ≤ 0xE9 then 2 else 1 | [] => 0)
  (fun _ => Nat.le_refl 1) (fun s => by cases s <;> simp <;> split <;> omega)

end C03mExample

end Tab
