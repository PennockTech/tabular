/-
  Regenerated constants (C03, C07, C08, C19): literals and tables that the model copies from the
  source are re-extracted from /repo on every check (`Generated/Constants.lean`) and compared here,
  so an edit to one of them breaks a proof obligation (and the differential run then supplies the
  failing input, since output bytes change).  Each comparison is advisory when the extractor did
  not recognise the construct (a refactoring that builds the same thing differently).
-/
import Tabmodel.Generated.Constants
import Tabmodel.Model.Decoration
namespace Tab
open Generated

/-- the glyph fields of a decoration, by name -/
inductive DField
  | horizontal | vertical | crossPiece | topDown | vBorder | hOuter | hRule | vHeader | vBodyBorder
  | vBodyInner | topLeft | topRight | bottomLeft | bottomRight | leftBodyRule | rightBodyRule
  | hTopDown | bTopDown | bBottomUp | hBCross | hBLeft | hBRight
  deriving DecidableEq, Repr

def DField.get : DField → Decoration → Bytes
  | .horizontal, d => d.horizontal | .vertical, d => d.vertical | .crossPiece, d => d.crossPiece
  | .topDown, d => d.topDown | .vBorder, d => d.vBorder | .hOuter, d => d.hOuter | .hRule, d => d.hRule
  | .vHeader, d => d.vHeader | .vBodyBorder, d => d.vBodyBorder | .vBodyInner, d => d.vBodyInner
  | .topLeft, d => d.topLeft | .topRight, d => d.topRight | .bottomLeft, d => d.bottomLeft
  | .bottomRight, d => d.bottomRight | .leftBodyRule, d => d.leftBodyRule
  | .rightBodyRule, d => d.rightBodyRule | .hTopDown, d => d.hTopDown | .bTopDown, d => d.bTopDown
  | .bBottomUp, d => d.bBottomUp | .hBCross, d => d.hBCross | .hBLeft, d => d.hBLeft | .hBRight, d => d.hBRight

def DField.set : DField → Bytes → Decoration → Decoration
  | .horizontal, b, d => { d with horizontal := b } | .vertical, b, d => { d with vertical := b }
  | .crossPiece, b, d => { d with crossPiece := b } | .topDown, b, d => { d with topDown := b }
  | .vBorder, b, d => { d with vBorder := b } | .hOuter, b, d => { d with hOuter := b }
  | .hRule, b, d => { d with hRule := b } | .vHeader, b, d => { d with vHeader := b }
  | .vBodyBorder, b, d => { d with vBodyBorder := b } | .vBodyInner, b, d => { d with vBodyInner := b }
  | .topLeft, b, d => { d with topLeft := b } | .topRight, b, d => { d with topRight := b }
  | .bottomLeft, b, d => { d with bottomLeft := b } | .bottomRight, b, d => { d with bottomRight := b }
  | .leftBodyRule, b, d => { d with leftBodyRule := b } | .rightBodyRule, b, d => { d with rightBodyRule := b }
  | .hTopDown, b, d => { d with hTopDown := b } | .bTopDown, b, d => { d with bTopDown := b }
  | .bBottomUp, b, d => { d with bBottomUp := b } | .hBCross, b, d => { d with hBCross := b }
  | .hBLeft, b, d => { d with hBLeft := b } | .hBRight, b, d => { d with hBRight := b }

/-- Go field name → field -/
def DField.ofName (s : String) : Option DField :=
  [("Horizontal", DField.horizontal), ("Vertical", .vertical), ("CrossPiece", .crossPiece), ("TopDown", .topDown),
   ("VBorder", .vBorder), ("HOuter", .hOuter), ("HRule", .hRule), ("VHeader", .vHeader),
   ("VBodyBorder", .vBodyBorder), ("VBodyInner", .vBodyInner), ("TopLeft", .topLeft), ("TopRight", .topRight),
   ("BottomLeft", .bottomLeft), ("BottomRight", .bottomRight), ("LeftBodyRule", .leftBodyRule),
   ("RightBodyRule", .rightBodyRule), ("HTopDown", .hTopDown), ("BTopDown", .bTopDown), ("BBottomUp", .bBottomUp),
   ("HBCross", .hBCross), ("HBLeft", .hBLeft), ("HBRight", .hBRight)].lookup s

/-- the defaulting steps the model's `Decoration.populate` performs, as data -/
def documentedBase : List (DField × Bytes) := [(.horizontal, [72]), (.vertical, [86]), (.crossPiece, [88])]
def documentedPairs : List (DField × DField) :=
  [(.topDown, .crossPiece), (.vBorder, .vertical), (.hOuter, .horizontal), (.hRule, .horizontal),
   (.vHeader, .vBorder), (.vBodyBorder, .vBorder), (.vBodyInner, .vertical), (.topLeft, .crossPiece),
   (.topRight, .crossPiece), (.bottomLeft, .crossPiece), (.bottomRight, .crossPiece),
   (.leftBodyRule, .crossPiece), (.rightBodyRule, .crossPiece), (.hTopDown, .topDown), (.bTopDown, .topDown),
   (.bBottomUp, .crossPiece), (.hBCross, .crossPiece), (.hBLeft, .leftBodyRule), (.hBRight, .rightBodyRule)]

def applyDefaults (d : Decoration) : Decoration :=
  let d := documentedBase.foldl (fun d (p : DField × Bytes) => p.1.set (dflt (p.1.get d) p.2) d) d
  documentedPairs.foldl (fun d (p : DField × DField) => p.1.set (dflt (p.1.get d) (p.2.get d)) d) d

/-- the model's `populate` IS the interpretation of that table (for every decoration) -/
theorem c03_populate_is_table (d : Decoration) : d.populate = applyDefaults d := by
  -- on a constructor every step of either side reduces by projection
  cases d; rfl

def populateRecognised : Bool :=
  populateBase.length == documentedBase.length && populatePairs.length == documentedPairs.length &&
  populatePairs.all (fun p => (DField.ofName p.1).isSome && (DField.ofName p.2).isSome)

/-- and the SOURCE's `Populate` performs exactly those steps in that order (regenerated) -/
theorem c03_populate_source :
    populateRecognised = false ∨
    (populateBase.map (fun p => (DField.ofName p.1, p.2)) = documentedBase.map (fun p => (some p.1, p.2)) ∧
     populatePairs.map (fun p => (DField.ofName p.1, DField.ofName p.2)) =
       documentedPairs.map (fun p => (some p.1, some p.2))) := by decide +kernel

/-- same elements with the same multiplicities (source order is irrelevant for these tables) -/
def sameMultiset (a b : List (List UInt8)) : Bool :=
  a.length == b.length && a.all (fun x => a.count x == b.count x)

/-- auto.Wrap's switch knows exactly the five sub-package names the model's `resolveStyle` tests
    (the order of `case` clauses over distinct strings does not matter) -/
theorem c19_auto_cases :
    autoCases.length != 5 ∨
    sameMultiset autoCases [[99, 115, 118], [104, 116, 109, 108], [109, 97, 114, 107, 100, 111, 119, 110],
                            [106, 115, 111, 110], [116, 101, 120, 116, 116, 97, 98, 108, 101]] = true := by decide

/-- auto.ListStyles appends exactly csv, html, json, markdown (the result is sorted afterwards) -/
theorem c19_liststyles_extra :
    listStylesExtra.length != 4 ∨
    sameMultiset listStylesExtra [[99, 115, 118], [104, 116, 109, 108], [106, 115, 111, 110],
                                  [109, 97, 114, 107, 100, 111, 119, 110]] = true := by decide

/-- the Markdown cell escaper replaces LF by `&#x0a;` and `|` by `&#x7c;` (on top of html.EscapeString);
    the two replacements are independent, so their order does not matter -/
theorem c08_md_replacements :
    mdReplacements.length != 4 ∨
    (mdReplacements = [[10], [38, 35, 120, 48, 97, 59], [124], [38, 35, 120, 55, 99, 59]] ∨
     mdReplacements = [[124], [38, 35, 120, 55, 99, 59], [10], [38, 35, 120, 48, 97, 59]]) := by decide

/-- the JSON renderer's punctuation literals: `[\n`  `,\n`  `\n`  `\n]\n`  `{}`  `}` -/
theorem c07_json_literals :
    jsonWritten.length != 6 ∨
    sameMultiset jsonWritten [[91, 10], [44, 10], [10], [10, 93, 10], [123, 125], [125]] = true := by decide

end Tab
