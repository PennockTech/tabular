/-
  C13h — C13.2 ("each render-time callback fires exactly once per matching target per pass") for
  every table a VALID BUILD HISTORY produces, with the `(renderRows w t).Nodup` hypothesis of
  `c13x_once` discharged.

  `c13x_once` (Props/C13x.lean) holds in any world and says: the count of the event `⟨id, tgt⟩` grows,
  in one pass over `t`, by the number of occurrences of `tgt` in `renderTargets w t s tm`; that number
  is 0 or 1 when the pass visits no row twice.  In a world built by a valid history (at most one attach
  per row, the header row never attached: `Valid`, Spec/World.lean) it never does: `c13h_rows_nodup`,
  from the structural invariant of C02 (`c02_inv_rows_unique`, `c02_inv_header`).  Arbitrary callbacks
  (`.setProp`, `.fail`, measuring, logging); `UniqueAny` only says that the id names one registration,
  so that "the callback" can be recognised in the log.
-/
import Tabmodel.Props.C13x
import Tabmodel.Props.C02
namespace Tab
open World C13 C13x

/-- The rows a render pass visits (header row, then body rows) are pairwise distinct in every world that
    satisfies the structural invariant of C02; so also after any number of later render passes, over whatever
    tables (a pass keeps the structure). -/
theorem c13h_rows_nodup_inv (w : World) (hinv : Inv w) (t : Nat) : (renderRows w t).Nodup := by
  unfold renderRows
  rw [List.nodup_append]
  refine ⟨?_, (c02_inv_rows_unique hinv t).1, ?_⟩
  · cases (w.table t).header <;> simp
  · intro a ha b hb e
    subst e
    cases hh : (w.table t).header with
    | none => rw [hh] at ha; simp at ha
    | some hd =>
      rw [hh] at ha
      simp only [Option.toList_some, List.mem_singleton] at ha
      subst ha
      exact (c02_inv_header hinv t a hh).2.2 t hb

/-- In particular for every table (existing or not) of the world of every valid history. -/
theorem c13h_rows_nodup (dw : Measure) (ops : List BuildOp) (hv : Valid ops = true) (t : Nat) :
    (renderRows (run dw ops) t).Nodup :=
  c13h_rows_nodup_inv _ (c02_inv_run dw ops hv) t

/-- The targets a registration fires on during one pass are pairwise distinct. -/
theorem c13h_targets_nodup (dw : Measure) (ops : List BuildOp) (hv : Valid ops = true) (t : Nat) (s : CbSlot)
    (tm : Time) : (renderTargets (run dw ops) t s tm).Nodup :=
  renderTargets_nodup s tm (c13h_rows_nodup dw ops hv t)

/-- C13.2 for API-built tables.  Let `id` name exactly one user callback of the world `run dw ops` of a
    valid history, registered in slot `s` at time `tm` (any callback: logging, property-setting, failing).
    During one render pass over ANY table `t`:
    * the events with that id are exactly one per element of `renderTargets w t s tm`, in that order;
    * for every target `tgt` that registration matches, the callback is invoked on it exactly ONCE
      (the count of `⟨id, tgt⟩` in the log grows by 1);
    * on every other target it is not invoked at all (the count does not change). -/
theorem c13h_once (dw : Measure) (ops : List BuildOp) (hv : Valid ops = true) (t id : Nat) (s : CbSlot)
    (tm : Time) (hu : UniqueAny (run dw ops) id s tm) :
    let w := run dw ops
    (expectedRenderAny w t).filter (fun e => e.cb == id) = (renderTargets w t s tm).map (fun x => ⟨id, x⟩) ∧
    (renderTargets w t s tm).Nodup ∧
    (∀ tgt ∈ renderTargets w t s tm,
      (invokeRenderCallbacks dw w t).events.count ⟨id, tgt⟩ = w.events.count ⟨id, tgt⟩ + 1) ∧
    (∀ tgt, tgt ∉ renderTargets w t s tm →
      (invokeRenderCallbacks dw w t).events.count ⟨id, tgt⟩ = w.events.count ⟨id, tgt⟩) := by
  intro w
  have hnd := c13h_rows_nodup dw ops hv t
  refine ⟨(c13x_once dw w t id s tm (.table t) hu).1, renderTargets_nodup s tm hnd, ?_, ?_⟩
  · intro tgt hm
    rw [(c13x_once dw w t id s tm tgt hu).2.2 hnd, if_pos hm]
  · intro tgt hm
    rw [(c13x_once dw w t id s tm tgt hu).2.2 hnd, if_neg hm]; rfl

/-- The same as a statement about histories: appending a render of `t` to a valid history makes the
    count of `⟨id, tgt⟩` grow by exactly 1 for a matching target and by 0 otherwise. -/
theorem c13h_once_history (dw : Measure) (ops : List BuildOp) (hv : Valid ops = true) (t id : Nat) (s : CbSlot)
    (tm : Time) (tgt : Target) (hu : UniqueAny (run dw ops) id s tm) :
    (run dw (ops ++ [.render t])).events.count ⟨id, tgt⟩ =
      (run dw ops).events.count ⟨id, tgt⟩ + if tgt ∈ renderTargets (run dw ops) t s tm then 1 else 0 := by
  rw [run_snoc]
  exact (c13x_once dw (run dw ops) t id s tm tgt hu).2.2 (c13h_rows_nodup dw ops hv t)

/-- `Valid` is needed: attaching one row twice (which `Valid` excludes) makes the pass visit it twice,
    and the callback then fires twice on it. -/
def c13hBad : List BuildOp :=
  [.newTable, .newRow, .regCb (.row 0) .pre .itself (.log 5), .addRow 0 0, .addRow 0 0]

example : Valid c13hBad = false := by decide +kernel
example : ¬ (renderRows (run (fun b => b.length) c13hBad) 0).Nodup := by decide +kernel
example : (invokeRenderCallbacks (fun b => b.length) (run (fun b => b.length) c13hBad) 0).events.count
    ⟨5, .row 0⟩ = 2 := by decide +kernel

/-- items `a`; table 0 with a property-setting callback (21) on its cells at render time, a failing
    callback (22) on itself at pre time and a logging one (23) on column 1's cells at post time; a
    header, a row, a separator, a row. -/
def c13hOps : List BuildOp :=
  [ .setItems [{ kind := .str [97], mString := none, mGoString := none, mError := none, fmtV := [97],
                 mHeight := none, mWidth := none, json := some [34, 97, 34] }],
    .newTable,
    .regCb (.table 0) .render .cell (.setProp 21 (.user 1) (some (.user 5))),
    .regCb (.table 0) .pre .itself (.fail 22 77),
    .addHeaders 0 [0],
    .regCb (.column 0 1) .post .cell (.log 23),
    .addRowItems 0 [0], .addSeparator 0, .addRowItems 0 [0, 0] ]

def c13hDw : Measure := fun b => b.length

example : Valid c13hOps = true := by decide +kernel
example : renderRows (run c13hDw c13hOps) 0 = [0, 1, 2, 3] := by decide +kernel
example : UniqueAny (run c13hDw c13hOps) 21 (.tableCell 0) .render := c13x_unique_check (by decide +kernel)
example : UniqueAny (run c13hDw c13hOps) 22 (.tableSelf 0) .pre := c13x_unique_check (by decide +kernel)
example : UniqueAny (run c13hDw c13hOps) 23 (.colCell 0 1) .post := c13x_unique_check (by decide +kernel)
example : renderTargets (run c13hDw c13hOps) 0 (.tableCell 0) .render =
    [.cell 0 0, .cell 1 0, .cell 3 0, .cell 3 1] := by decide +kernel
example : renderTargets (run c13hDw c13hOps) 0 (.colCell 0 1) .post = [.cell 1 0, .cell 3 0] := by decide +kernel
example := c13h_once c13hDw c13hOps (by decide +kernel) 0 21 (.tableCell 0) .render (c13x_unique_check (by decide +kernel))
example := c13h_rows_nodup c13hDw c13hOps (by decide +kernel) 0
example := c13h_rows_nodup_inv (run c13hDw c13hOps) (c02_inv_run c13hDw c13hOps (by decide +kernel)) 0
example := c13h_targets_nodup c13hDw c13hOps (by decide +kernel) 0 (.colCell 0 1) .post
example := c13h_once_history c13hDw c13hOps (by decide +kernel) 0 23 (.colCell 0 1) .post (.cell 3 0)
  (c13x_unique_check (by decide +kernel))
/-- the counts, by evaluation: once on a matching cell, never on the header cell for the column callback -/
example : (run c13hDw (c13hOps ++ [.render 0])).events.count ⟨21, .cell 3 1⟩ = 1 ∧
    (run c13hDw (c13hOps ++ [.render 0])).events.count ⟨23, .cell 0 0⟩ = 0 ∧
    (run c13hDw (c13hOps ++ [.render 0, .render 0])).events.count ⟨23, .cell 3 0⟩ = 2 := by decide +kernel

end Tab
