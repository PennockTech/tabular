/-
  C15 — A failing writer always surfaces as an error and output stops there.

  Every L1 renderer is an `Emit Unit` program whose writes are all checked (that this is
  true of the SOURCE is the regenerated obligation `c15_sites` over `Generated.WriteSites`).
  Running such a program against any fault script is `runEmit`; the theorems below hold for
  every chunk list, every script (fails from k on, only at k, partial write at k, or anything
  else), every table and every renderer at once.
-/
import Tabmodel.Model.Render
import Tabmodel.Generated.WriteSites
namespace Tab

private theorem shift (k i : Nat) : k + 1 + i = k + (i + 1) := Nat.add_right_comm k 1 i

/-- what the writer accepted is a prefix of the fault-free output, for every script -/
theorem c15_prefix (σ : Script) (k : Nat) (cs : List Bytes) :
    ∃ rest, cs.flatten = (runChunks σ k cs).accepted ++ rest := by
  induction cs generalizing k with
  | nil => exact ⟨[], rfl⟩
  | cons c cs ih =>
    unfold runChunks
    cases hσ : σ k with
    | some n =>
      refine ⟨c.drop n ++ cs.flatten, ?_⟩
      simp [List.flatten_cons, ← List.append_assoc, List.take_append_drop]
    | none =>
      obtain ⟨rest, hrest⟩ := ih (k + 1)
      refine ⟨rest, ?_⟩
      simp [List.flatten_cons, hrest, List.append_assoc]

/-- an error is reported iff some attempted write call fails: no failure is ever swallowed -/
theorem c15_failed_iff (σ : Script) (k : Nat) (cs : List Bytes) :
    (runChunks σ k cs).failed = true ↔ ∃ i, i < cs.length ∧ (σ (k + i)).isSome = true := by
  induction cs generalizing k with
  | nil => simp [runChunks]
  | cons c cs ih =>
    unfold runChunks
    cases hσ : σ k with
    | some n =>
      simp only [true_iff]
      exact ⟨0, by simp, by simp [hσ]⟩
    | none =>
      simp only []
      rw [ih (k + 1)]
      constructor
      · rintro ⟨i, hi, hs⟩
        exact ⟨i + 1, Nat.succ_lt_succ hi, by rw [← shift]; exact hs⟩
      · rintro ⟨i, hi, hs⟩
        cases i with
        | zero => rw [Nat.add_zero, hσ] at hs; cases hs
        | succ j => exact ⟨j, Nat.lt_of_succ_lt_succ hi, by rw [shift]; exact hs⟩

/-- output stops at the first failing call: nothing is written after it -/
theorem c15_stops (σ : Script) (k : Nat) (cs : List Bytes) (i : Nat) (hi : i < cs.length)
    (hfirst : ∀ j, j < i → σ (k + j) = none) (n : Nat) (hfail : σ (k + i) = some n) :
    (runChunks σ k cs).calls = i + 1 ∧
    (runChunks σ k cs).accepted = (cs.take i).flatten ++ (cs.getD i []).take n := by
  induction cs generalizing k i with
  | nil => simp at hi
  | cons c cs ih =>
    unfold runChunks
    cases i with
    | zero =>
      simp only [Nat.add_zero] at hfail
      simp [hfail]
    | succ j =>
      have h0 : σ k = none := hfirst 0 (Nat.succ_pos j)
      rw [h0]
      have := ih (k + 1) j (Nat.lt_of_succ_lt_succ hi)
        (fun l hl => by rw [shift]; exact hfirst (l + 1) (Nat.succ_lt_succ hl))
        (by rw [shift]; exact hfail)
      simp [this.1, this.2, List.flatten_cons, List.append_assoc]

/-- with no failing call every chunk is accepted whole, one call each, and no failure is reported -/
theorem c15_no_fault (σ : Script) (k : Nat) (cs : List Bytes)
    (h : ∀ i, i < cs.length → σ (k + i) = none) :
    (runChunks σ k cs).failed = false ∧ (runChunks σ k cs).accepted = cs.flatten ∧
    (runChunks σ k cs).calls = cs.length := by
  induction cs generalizing k with
  | nil => simp [runChunks]
  | cons c cs ih =>
    unfold runChunks
    have h0 : σ k = none := h 0 (Nat.succ_pos _)
    rw [h0]
    have := ih (k + 1) (fun i hi => by rw [shift]; exact h (i + 1) (Nat.succ_lt_succ hi))
    simp [this.1, this.2.1, this.2.2, List.flatten_cons]

theorem runEmit_fst (σ : Script) (m : Emit Unit) : (runEmit σ m).1 = runChunks σ 0 m.chunks := by
  unfold runEmit; simp only []; split <;> rfl

theorem runEmit_failed {σ : Script} {m : Emit Unit} (h : (runChunks σ 0 m.chunks).failed = true) :
    (runEmit σ m).2 = some (.err .writer) := by
  unfold runEmit; rw [if_pos h]

/-- C15 for every renderer, table, wrapper and fault script: if any write call of the fault-free
    run is hit by a fault, `RenderTo` returns a non-nil error (never a panic introduced by the
    fault), and the bytes accepted are a prefix of the fault-free output. -/
theorem c15_render (x : Ext) (w : World) (wr : Wrapper) (σ : Script) :
    let m := (w.renderTo x wr).2
    let r := runEmit σ m
    (∃ rest, m.output = r.1.accepted ++ rest) ∧
    ((∃ i, i < m.chunks.length ∧ (σ i).isSome = true) → r.2 = some (.err .writer)) := by
  intro m r
  refine ⟨?_, fun ⟨i, hi, hs⟩ => runEmit_failed ((c15_failed_iff σ 0 m.chunks).2 ⟨i, hi, by rw [Nat.zero_add]; exact hs⟩)⟩
  show ∃ rest, m.chunks.flatten = (runEmit σ m).1.accepted ++ rest
  rw [runEmit_fst]
  exact c15_prefix σ 0 m.chunks

/-- the error is returned even when the fault hits only one call and later calls would succeed
    (the "fails only at k" script): a corollary worth stating on its own because it is the
    shape of the repaired Markdown defect -/
theorem c15_fail_only (m : Emit Unit) (k : Nat) (hk : k < m.chunks.length) :
    (runEmit (fun i => if i = k then some 0 else none) m).2 = some (.err .writer) :=
  runEmit_failed ((c15_failed_iff _ 0 m.chunks).2 ⟨k, hk, by simp⟩)

/-- every write site of the five renderers' source checks its result (regenerated from /repo) -/
theorem c15_sites : ∀ s ∈ Generated.writeSites, s.checked = true := by decide +kernel

/-- the renderers' source has write sites at all (the obligation above is not vacuous) -/
theorem c15_sites_nonempty : Generated.writeSites.length ≥ 5 := by decide +kernel

/- non-vacuity: a two-chunk program, the fail-only-at-0 script -/
example : (runEmit (fun i => if i = 0 then some 0 else none) ⟨[[1], [2]], .ok ()⟩).2 = some (.err .writer) := by decide +kernel
example : (runEmit (fun i => if i = 1 then some 1 else none) ⟨[[1, 2], [3, 4]], .ok ()⟩).1.accepted = [1, 2, 3] := by decide +kernel
/- the negative: a program that DROPS the result of its first write (what the pinned tree's Markdown
   row opener did) is not expressible with `write`; modelled directly, it returns ok and its
   accepted bytes are not a prefix -/
example : ¬ ([2] : Bytes) <+: ([[1], [2]] : List Bytes).flatten := by decide +kernel

end Tab
