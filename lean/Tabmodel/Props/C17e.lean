/-
  C17e — C17 clause 4/5 end to end: "A text table set to an unknown decoration name REPORTS THE ERROR
  and then REFUSES TO RENDER rather than falling back to a default."

  About `Wrapper.setDecorationNamed` (Model/Render.lean; mirror of `(*TextTable).SetDecorationNamed`,
  texttable/style.go): the wrapper's decoration becomes whatever `decoration.Named(n)` returns and the
  call returns an error exactly when that is `EmptyDecoration`; composed with `c17_fail_closed`
  (`RenderTo` of a text wrapper carrying the empty decoration) and with the history theorems
  `c17_named` / `c17_last_writer` (`regRun`, Props/C17.lean).

  Same atomicity assumption as Props/C17.lean: a registry history is a list of atomic operations.

  Remark (not a discrepancy; the Go code behaves the same): "unknown" means "resolves to the empty
  decoration".  A name that WAS registered, but with the zero `Decoration{}` as its value, is listed by
  `RegisteredDecorationNames` and is still reported as unknown by `SetDecorationNamed`, and the table
  still refuses to render (`c17e_registered_empty`).  So the exact characterisation of "an error is
  reported" is `reg.named n = emptyDecoration` (`c17e_set_named`), of which `n ∉ reg.names` is the
  sufficient condition of the clause (`c17e_unknown_reports_then_refuses`).
-/
import Tabmodel.Props.C17
namespace Tab
open Registry World
attribute [local instance] lawfulBEq_uint8

/-- `SetDecorationNamed(n)`: an error is returned iff the registry resolves `n` to the empty decoration
    (and then it is the `noDecoration` class, otherwise there is none); either way the wrapper's
    decoration is now what the registry returned, and nothing else of the wrapper changes. -/
theorem c17e_set_named (wr : Wrapper) (reg : Registry) (n : Bytes) :
    ((wr.setDecorationNamed reg n).2.isSome ↔ reg.named n = emptyDecoration) ∧
    (reg.named n = emptyDecoration → (wr.setDecorationNamed reg n).2 = some .noDecoration) ∧
    (reg.named n ≠ emptyDecoration → (wr.setDecorationNamed reg n).2 = none) ∧
    (wr.setDecorationNamed reg n).1.decor = reg.named n ∧
    (wr.setDecorationNamed reg n).1.kind = wr.kind ∧
    (wr.setDecorationNamed reg n).1.core = wr.core ∧
    (wr.setDecorationNamed reg n).1.html = wr.html := by
  unfold Wrapper.setDecorationNamed
  by_cases h : reg.named n = emptyDecoration
  · simp [h]
  · simp [h]

/-- The exact condition `reg.named n = emptyDecoration` (which also covers a name registered with
    the zero decoration as its value): the call reports the error and every later `RenderTo` refuses. -/
theorem c17e_empty_reports_then_refuses (reg : Registry) (n : Bytes) (he : reg.named n = emptyDecoration)
    (wr : Wrapper) (hk : wr.kind = .text) (x : Ext) (w : World) :
    (wr.setDecorationNamed reg n).2 = some .noDecoration ∧
    (w.renderTo x (wr.setDecorationNamed reg n).1).2.res = .error (.err .noDecoration) ∧
    (w.renderTo x (wr.setDecorationNamed reg n).1).2.chunks = [] ∧
    (w.renderTo x (wr.setDecorationNamed reg n).1).1 = w ∧
    World.renderString (w.renderTo x (wr.setDecorationNamed reg n).1).2 = ([], some (.err .noDecoration)) := by
  obtain ⟨_, hrefuse, _⟩ := c17_fail_closed reg n x w
  obtain ⟨_, herr, _, hdec, hkind, _, _⟩ := c17e_set_named wr reg n
  obtain ⟨h1, h2, h3, h4⟩ := hrefuse (wr.setDecorationNamed reg n).1 (by rw [hkind, hk]) (by rw [hdec, he])
  exact ⟨herr he, h1, h2, h3, h4⟩

/-- The clause.  For a name that is not listed (`n ∉ reg.names`, i.e. never registered and not a
    built-in): the call reports an error, and every later `RenderTo` of that text table, on ANY world,
    returns the `noDecoration` error, writes no chunk, runs no callback (world unchanged), and
    `Render` returns the empty string with that error.  No default decoration is substituted:
    the wrapper carries `emptyDecoration`. -/
theorem c17e_unknown_reports_then_refuses (reg : Registry) (n : Bytes) (hn : n ∉ reg.names)
    (wr : Wrapper) (hk : wr.kind = .text) (x : Ext) (w : World) :
    (wr.setDecorationNamed reg n).2 = some .noDecoration ∧
    (wr.setDecorationNamed reg n).1.decor = emptyDecoration ∧
    (w.renderTo x (wr.setDecorationNamed reg n).1).2.res = .error (.err .noDecoration) ∧
    (w.renderTo x (wr.setDecorationNamed reg n).1).2.chunks = [] ∧
    (w.renderTo x (wr.setDecorationNamed reg n).1).1 = w ∧
    World.renderString (w.renderTo x (wr.setDecorationNamed reg n).1).2 = ([], some (.err .noDecoration)) := by
  have he : reg.named n = emptyDecoration := (c17_fail_closed reg n x w).1 hn
  obtain ⟨h0, h1, h2, h3, h4⟩ := c17e_empty_reports_then_refuses reg n he wr hk x w
  exact ⟨h0, (c17e_set_named wr reg n).2.2.2.1.trans he, h1, h2, h3, h4⟩

/-- A name that resolves to a non-empty decoration: it is listed, no error is reported, and the text
    table then renders with EXACTLY that decoration (the callbacks pass runs, and what is emitted is
    `renderTextBody (reg.named n)` of the view after the pass): the refusal above is the only effect
    the name lookup has on rendering. -/
theorem c17e_known_ok (reg : Registry) (n : Bytes) (hne : reg.named n ≠ emptyDecoration)
    (wr : Wrapper) (hk : wr.kind = .text) (x : Ext) (w : World) :
    n ∈ reg.names ∧
    (wr.setDecorationNamed reg n).2 = none ∧
    (wr.setDecorationNamed reg n).1.decor = reg.named n ∧
    w.renderTo x (wr.setDecorationNamed reg n).1 =
      (invokeRenderCallbacks x.dw w wr.core,
       renderTextBody (reg.named n) ((invokeRenderCallbacks x.dw w wr.core).view wr.core)) := by
  obtain ⟨_, _, hok, hdec, hkind, hcore, _⟩ := c17e_set_named wr reg n
  refine ⟨?_, hok hne, hdec, ?_⟩
  · rw [mem_names]
    exact List.mem_map_of_mem (f := Prod.fst) (mem_of_named_ne_empty hne)
  · unfold World.renderTo
    rw [hkind, hk]
    simp only [hdec, if_neg hne, hcore]

/-- After ANY history of registry operations (any interleaving so far) whose LAST registration of `n`
    stored `d`: `SetDecorationNamed(n)` installs `d`; it reports an error iff `d` is the empty
    decoration; when `d` is not empty the table renders with `d`, when it is, the table refuses. -/
theorem c17e_history_last (r₀ : Registry) (pre post : List RegOp) (n : Bytes) (d : Decoration)
    (hpost : ∀ d', RegOp.register n d' ∉ post) (wr : Wrapper) (hk : wr.kind = .text) (x : Ext) (w : World) :
    let reg := regRun r₀ (pre ++ RegOp.register n d :: post)
    (wr.setDecorationNamed reg n).1.decor = d ∧
    ((wr.setDecorationNamed reg n).2.isSome ↔ d = emptyDecoration) ∧
    (d ≠ emptyDecoration →
      (wr.setDecorationNamed reg n).2 = none ∧
      w.renderTo x (wr.setDecorationNamed reg n).1 =
        (invokeRenderCallbacks x.dw w wr.core,
         renderTextBody d ((invokeRenderCallbacks x.dw w wr.core).view wr.core))) ∧
    (d = emptyDecoration →
      (wr.setDecorationNamed reg n).2 = some .noDecoration ∧
      World.renderString (w.renderTo x (wr.setDecorationNamed reg n).1).2 = ([], some (.err .noDecoration))) := by
  intro reg
  have hnamed : reg.named n = d := (c17_named r₀ _ n).2.2.2.1 pre d post rfl hpost
  obtain ⟨hiff, _, _, hdec, _⟩ := c17e_set_named wr reg n
  refine ⟨by rw [hdec, hnamed], by rw [hiff, hnamed], fun hne => ?_, fun he => ?_⟩
  · obtain ⟨_, h1, _, h2⟩ := c17e_known_ok reg n (by rw [hnamed]; exact hne) wr hk x w
    rw [hnamed] at h2
    exact ⟨h1, h2⟩
  · obtain ⟨h1, _, _, _, h2⟩ := c17e_empty_reports_then_refuses reg n (by rw [hnamed, he]) wr hk x w
    exact ⟨h1, h2⟩

/-- `c17_last_writer` composed: two registrations of the same name in a row, in either order — the
    later value is what `SetDecorationNamed` installs, without error when it is not the empty
    decoration, whatever the earlier value was (in particular an earlier EMPTY registration does not
    poison the name, and a later empty one does un-register it as far as rendering goes). -/
theorem c17e_last_writer (r₀ : Registry) (pre : List RegOp) (n : Bytes) (d₁ d₂ : Decoration)
    (wr : Wrapper) :
    (wr.setDecorationNamed (regRun r₀ (pre ++ [.register n d₁, .register n d₂])) n).1.decor = d₂ ∧
    (wr.setDecorationNamed (regRun r₀ (pre ++ [.register n d₂, .register n d₁])) n).1.decor = d₁ ∧
    (d₂ ≠ emptyDecoration →
      (wr.setDecorationNamed (regRun r₀ (pre ++ [.register n d₁, .register n d₂])) n).2 = none) ∧
    (d₂ = emptyDecoration →
      (wr.setDecorationNamed (regRun r₀ (pre ++ [.register n d₁, .register n d₂])) n).2 = some .noDecoration) ∧
    wr.setDecorationNamed (regRun r₀ (pre ++ [.register n d₁, .register n d₂])) n =
      wr.setDecorationNamed (regRun r₀ (pre ++ [.register n d₂])) n := by
  obtain ⟨hreg, _, h12, h21⟩ := c17_last_writer r₀ pre n d₁ d₂
  obtain ⟨_, he, hne, hdec, _⟩ := c17e_set_named wr (regRun r₀ (pre ++ [.register n d₁, .register n d₂])) n
  obtain ⟨_, _, _, hdec', _⟩ := c17e_set_named wr (regRun r₀ (pre ++ [.register n d₂, .register n d₁])) n
  refine ⟨by rw [hdec, h12], by rw [hdec', h21], fun h => hne (by rw [h12]; exact h),
    fun h => he (by rw [h12, h]), by rw [hreg]⟩

/-- A name never registered in the history and not among the initial (built-in) names: after any
    history the call reports the error and the table refuses to render. -/
theorem c17e_history_unknown (r₀ : Registry) (hist : List RegOp) (n : Bytes)
    (hnever : ∀ d, RegOp.register n d ∉ hist) (h₀ : n ∉ r₀.map Prod.fst)
    (wr : Wrapper) (hk : wr.kind = .text) (x : Ext) (w : World) :
    let reg := regRun r₀ hist
    (wr.setDecorationNamed reg n).2 = some .noDecoration ∧
    (w.renderTo x (wr.setDecorationNamed reg n).1).2.res = .error (.err .noDecoration) ∧
    (w.renderTo x (wr.setDecorationNamed reg n).1).2.chunks = [] ∧
    (w.renderTo x (wr.setDecorationNamed reg n).1).1 = w ∧
    World.renderString (w.renderTo x (wr.setDecorationNamed reg n).1).2 = ([], some (.err .noDecoration)) := by
  intro reg
  exact c17e_empty_reports_then_refuses reg n ((c17_named r₀ hist n).2.2.2.2.2.2 hnever h₀) wr hk x w

/-- The quirk behind the exact condition: registering the zero decoration under a name makes the name
    LISTED, yet `SetDecorationNamed` still says "unknown" and the table still refuses to render. -/
theorem c17e_registered_empty (r : Registry) (n : Bytes) (wr : Wrapper) (hk : wr.kind = .text)
    (x : Ext) (w : World) :
    n ∈ (r.register n emptyDecoration).names ∧
    (wr.setDecorationNamed (r.register n emptyDecoration) n).2 = some .noDecoration ∧
    World.renderString (w.renderTo x (wr.setDecorationNamed (r.register n emptyDecoration) n).1).2 =
      ([], some (.err .noDecoration)) := by
  obtain ⟨h1, _, _, _, h2⟩ := c17e_empty_reports_then_refuses (r.register n emptyDecoration) n
    (named_register_self r n emptyDecoration) wr hk x w
  refine ⟨?_, h1, h2⟩
  rw [mem_names, mem_keys_register]; exact Or.inl rfl

/-! ### non-vacuity (the small registry `c17Ex0` of Props/C17.lean: `b ↦ c17ExD 1`, `a ↦ c17ExD 2`) -/

def c17eWr : Wrapper := { kind := .text, core := 0 }

-- `c17e_set_named`, both sides of the iff, evaluated
example : (c17eWr.setDecorationNamed c17Ex0 [122]).2 = some .noDecoration := by decide +kernel
example : (c17eWr.setDecorationNamed c17Ex0 [97]).2 = none ∧
    (c17eWr.setDecorationNamed c17Ex0 [97]).1.decor = c17ExD 2 := by decide +kernel
-- `c17e_unknown_reports_then_refuses`: an unlisted name, a text wrapper
example : ([122] : Bytes) ∉ c17Ex0.names ∧ c17eWr.kind = .text := by decide +kernel
example (x : Ext) (w : World) := c17e_unknown_reports_then_refuses c17Ex0 [122] (by decide +kernel) c17eWr rfl x w
-- `c17e_known_ok`: a name resolving to a non-empty decoration
example : c17Ex0.named [97] ≠ emptyDecoration := by decide +kernel
example (x : Ext) (w : World) := c17e_known_ok c17Ex0 [97] (by decide +kernel) c17eWr rfl x w
-- `c17e_history_last`: a history whose last registration of `c` is `c17ExD 4` (non-empty), then a lookup
example : (∀ d', RegOp.register [99] d' ∉ [RegOp.named [99]]) ∧ c17ExD 4 ≠ emptyDecoration :=
  ⟨by intro d' h; simp at h, by decide +kernel⟩
example (x : Ext) (w : World) :=
  (c17e_history_last c17Ex0 [.register [99] (c17ExD 3), .names] [.named [99]] [99] (c17ExD 4)
    (by intro d' h; simp at h) c17eWr rfl x w).2.2.1 (by decide +kernel)
example : (c17eWr.setDecorationNamed
    (regRun c17Ex0 [.register [99] (c17ExD 3), .names, .register [99] (c17ExD 4), .named [99]]) [99]).2 = none ∧
    (c17eWr.setDecorationNamed
    (regRun c17Ex0 [.register [99] (c17ExD 3), .names, .register [99] (c17ExD 4), .named [99]]) [99]).1.decor =
      c17ExD 4 := by decide +kernel
-- … and one whose last registration of `c` is the empty decoration
example : (c17eWr.setDecorationNamed
    (regRun c17Ex0 [.register [99] (c17ExD 3), .register [99] emptyDecoration]) [99]).2 = some .noDecoration := by
  decide +kernel
-- `c17e_history_unknown`: `z` is neither a built-in nor registered
example : (∀ d, RegOp.register [122] d ∉ [RegOp.register [99] (c17ExD 3)]) ∧ [122] ∉ c17Ex0.map Prod.fst :=
  ⟨by intro d h; simp at h, by decide +kernel⟩

end Tab
