/-
  C19 — Every advertised style works and style strings resolve as documented (logic part).

  Model: `Model/Registry.lean` (`resolveStyle` = `auto.Wrap`'s dispatch, with
  `goLower` = `strings.ToLower` as far as comparison with the ASCII sub-package names goes: ASCII
  letters fold, U+212A KELVIN SIGN folds to `k`, U+0130 to `i`, nothing else does; `listStyles` =
  `auto.ListStyles`, `auto/auto.go`; `texttable/style.go` `SetDecorationNamed`).

  All theorems hold for EVERY registry `reg` (every state reachable by registering further
  decoration names, and more), every default decoration `heavy`, and every byte string.
  "Renders a well-formed table without error" for the csv/html/markdown/json/text renderers is the
  business of C05/C06/C07/C08/C03; here: the style resolves to a renderer that does not refuse.

  Three classes of listed names fall outside `Plain` and are RECORDED FINDINGS (D21), kept below as
  `example`s with concrete witnesses: a dotted registered name, a name registered with the empty
  decoration, a registered name that case-folds to a sub-package name.
-/
import Tabmodel.Props.C17
import Tabmodel.Proofs.RegStyle
namespace Tab
open Registry
attribute [local instance] lawfulBEq_uint8

/-- `sections[0]` of `strings.Split(style, ".")` -/
def firstSection (style : Bytes) : Bytes := (splitDot style).headD []

/-- no `.` in the name -/
abbrev NoDot (n : Bytes) : Prop := (46 : UInt8) ∉ n

/-- the names `auto.Wrap` matches (after lower-casing) before it tries a decoration name -/
def reservedNames : List Bytes :=
  [bytesOfString "csv", bytesOfString "html", bytesOfString "markdown", bytesOfString "json",
    bytesOfString "texttable"]

/-- the four non-text renderers -/
def formatNames : List Bytes :=
  [bytesOfString "csv", bytesOfString "html", bytesOfString "markdown", bytesOfString "json"]

/-- a decoration name that `auto` can reach by that name: no dot, does not case-fold to a
sub-package name, and is bound to a non-empty decoration -/
def Plain (reg : Registry) (n : Bytes) : Prop :=
  NoDot n ∧ goLower n ∉ reservedNames ∧ reg.named n ≠ emptyDecoration

theorem reservedNames_lit : reservedNames = [bCsv, bHtml, bMarkdown, bJson, bTexttable] := by
  rw [reservedNames, bytes_csv, bytes_html, bytes_markdown, bytes_json, bytes_texttable]

theorem formatNames_lit : formatNames = [bCsv, bHtml, bMarkdown, bJson] := by
  rw [formatNames, bytes_csv, bytes_html, bytes_markdown, bytes_json]

/-- `ListStyles` is sorted (`bytesLt`-nondecreasing), contains the four non-text renderers and every
registered decoration name, and nothing else; it is strictly increasing (duplicate-free) unless a
decoration is registered under one of the four renderer names. -/
theorem c19_listing (reg : Registry) :
    (listStyles reg).Pairwise (fun a b => bytesLt b a = false) ∧
    bytesOfString "csv" ∈ listStyles reg ∧ bytesOfString "html" ∈ listStyles reg ∧
    bytesOfString "json" ∈ listStyles reg ∧ bytesOfString "markdown" ∈ listStyles reg ∧
    (∀ n ∈ reg.names, n ∈ listStyles reg) ∧
    (∀ p ∈ reg, p.1 ∈ listStyles reg) ∧
    (∀ s, s ∈ listStyles reg ↔ (s ∈ reg.names ∨ s ∈ formatNames)) ∧
    ((reg.map Prod.fst).Nodup → (∀ s ∈ formatNames, s ∉ reg.map Prod.fst) →
      (listStyles reg).Pairwise (fun a b => bytesLt a b = true)) := by
  -- `ListStyles` appends the four names in the order csv, html, json, markdown
  have perm : [bytesOfString "csv", bytesOfString "html", bytesOfString "json",
      bytesOfString "markdown"].Perm formatNames :=
    ((List.Perm.swap _ _ []).cons _).cons _
  have mem : ∀ s, s ∈ listStyles reg ↔ (s ∈ reg.names ∨ s ∈ formatNames) := by
    intro s
    rw [listStyles, mem_sortBytes, List.mem_append, perm.mem_iff]
  have fmt : ∀ {s}, s ∈ formatNames → s ∈ listStyles reg := fun h => (mem _).mpr (.inr h)
  refine ⟨sortBytes_sorted _, fmt (.head _), fmt (.tail _ (.head _)),
    fmt (.tail _ (.tail _ (.tail _ (.head _)))), fmt (.tail _ (.tail _ (.head _))),
    fun n hn => (mem n).mpr (.inl hn),
    fun p hp => (mem p.1).mpr (.inl (mem_names.mpr (List.mem_map_of_mem (f := Prod.fst) hp))),
    mem, fun hnd hdisj => sortBytes_strict (List.nodup_append.mpr ⟨names_nodup hnd, ?_, ?_⟩)⟩
  · rw [perm.nodup_iff, formatNames_lit]; decide +kernel
  · rintro a ha _ hb rfl
    exact hdisj a (perm.mem_iff.mp hb) (mem_names.mp ha)

/-- A sub-package name selects that renderer: the decision is made on the lower-cased (`goLower`,
i.e. Go's `strings.ToLower`) first dot-separated section alone, so any casing of the name works
(including `marKdown` spelt with U+212A KELVIN SIGN) and any trailing sections are ignored.  On pure
ASCII input `goLower` is the plain ASCII fold. -/
theorem c19_subpackage (reg : Registry) (heavy : Decoration) :
    resolveStyle reg heavy (bytesOfString "csv") = .csv ∧
    resolveStyle reg heavy (bytesOfString "html") = .html ∧
    resolveStyle reg heavy (bytesOfString "markdown") = .markdown ∧
    resolveStyle reg heavy (bytesOfString "json") = .json ∧
    (∀ style s, s ∈ formatNames → goLower (firstSection style) = s →
      resolveStyle reg heavy style = resolveStyle reg heavy s) ∧
    (∀ s variant rest, s ∈ formatNames → goLower variant = s →
      firstSection variant = variant ∧ firstSection (variant ++ [46] ++ rest) = variant ∧
      resolveStyle reg heavy variant = resolveStyle reg heavy s ∧
      resolveStyle reg heavy (variant ++ [46] ++ rest) = resolveStyle reg heavy s) ∧
    (∀ v : Bytes, (∀ b ∈ v, b < 128) → goLower v = asciiLower v) := by
  have c1 : resolveStyle reg heavy (bytesOfString "csv") = .csv := by
    rw [bytes_csv, resolveStyle_lit]; rfl
  have c2 : resolveStyle reg heavy (bytesOfString "html") = .html := by
    rw [bytes_html, resolveStyle_lit]; rfl
  have c3 : resolveStyle reg heavy (bytesOfString "markdown") = .markdown := by
    rw [bytes_markdown, resolveStyle_lit]; rfl
  have c4 : resolveStyle reg heavy (bytesOfString "json") = .json := by
    rw [bytes_json, resolveStyle_lit]; rfl
  have name : ∀ s ∈ formatNames, (46 : UInt8) ∉ s ∧ splitDot s = [s] ∧ goLower s = s := by
    rw [formatNames_lit]
    exact fun s hs => subpackage_names s (List.mem_append_left [bTexttable] hs)
  have gen : ∀ style s, s ∈ formatNames → goLower (firstSection style) = s →
      resolveStyle reg heavy style = resolveStyle reg heavy s := by
    intro style s hs hl
    obtain ⟨first, tl, h⟩ := splitDot_cons_exists style
    have hl' : goLower first = s := by rw [firstSection, h] at hl; exact hl
    refine resolveStyle_congr reg heavy h (name s hs).2.1 (hl'.trans (name s hs).2.2.symm) ?_
    rw [hl', ← formatNames_lit]; exact hs
  refine ⟨c1, c2, c3, c4, gen, ?_, goLower_ascii⟩
  intro s variant rest hs hl
  have hv : (46 : UInt8) ∉ variant := nodot_of_goLower hl (name s hs).1
  have f1 : firstSection variant = variant := by rw [firstSection, splitDot_nodot hv]; rfl
  have f2 : firstSection (variant ++ [46] ++ rest) = variant := by
    rw [firstSection, splitDot_append_dot hv]; rfl
  exact ⟨f1, f2, gen variant s hs (by rw [f1]; exact hl), gen _ s hs (by rw [f2]; exact hl)⟩

/-- `texttable.NAME` and bare `NAME` select the same decoration, `reg.named NAME`.
For a dot-free `n`: the `texttable.`-prefixed form (any casing of `texttable`, any trailing
sections) always gives `.text (reg.named n)`; the bare form (any trailing sections) does so when `n`
does not case-fold to a sub-package name. -/
theorem c19_alias (reg : Registry) (heavy : Decoration) (n : Bytes) (hdot : NoDot n) :
    (∀ tt rest, goLower tt = bytesOfString "texttable" →
      resolveStyle reg heavy (tt ++ [46] ++ n) = .text (reg.named n) ∧
      resolveStyle reg heavy (tt ++ [46] ++ n ++ [46] ++ rest) = .text (reg.named n)) ∧
    (goLower n ∉ reservedNames →
      resolveStyle reg heavy n = .text (reg.named n) ∧
      (∀ rest, resolveStyle reg heavy (n ++ [46] ++ rest) = .text (reg.named n)) ∧
      resolveStyle reg heavy (bytesOfString "texttable" ++ [46] ++ n) = resolveStyle reg heavy n) := by
  -- `tt.R…` where `tt` is a casing of `texttable` and `n` is the first section of `R`
  have pre : ∀ tt R tl, goLower tt = bytesOfString "texttable" → splitDot R = n :: tl →
      resolveStyle reg heavy (tt ++ [46] ++ R) = .text (reg.named n) := by
    intro tt R tl htt hR
    have htt' := htt.trans bytes_texttable
    refine resolveStyle_tt_cons reg heavy (tl := tl) ?_ htt'
    rw [splitDot_append_dot (nodot_of_goLower_texttable htt'), hR]
  refine ⟨fun tt rest htt => ⟨pre tt n [] htt (splitDot_nodot hdot), ?_⟩, fun hres => ?_⟩
  · rw [show tt ++ [46] ++ n ++ [46] ++ rest = tt ++ [46] ++ (n ++ [46] ++ rest) by
      simp only [List.append_assoc]]
    exact pre tt _ _ htt (splitDot_append_dot hdot rest)
  · rw [reservedNames_lit] at hres
    have bare : resolveStyle reg heavy n = .text (reg.named n) :=
      resolveStyle_other reg heavy (splitDot_nodot hdot) hres
    refine ⟨bare, fun rest => resolveStyle_other reg heavy (splitDot_append_dot hdot rest) hres, ?_⟩
    rw [bare]
    refine pre _ n [] ?_ (splitDot_nodot hdot)
    rw [bytes_texttable]; exact (subpackage_names bTexttable (by simp)).2.2

/-- Plain `texttable` (any casing) selects the default decoration. -/
theorem c19_default (reg : Registry) (heavy : Decoration) (tt : Bytes)
    (htt : goLower tt = bytesOfString "texttable") :
    resolveStyle reg heavy tt = .text heavy := by
  have htt' := htt.trans bytes_texttable
  exact resolveStyle_tt_nil reg heavy (splitDot_nodot (nodot_of_goLower_texttable htt')) htt'

/-- An unknown name (not registered, dot-free, not a sub-package name) resolves to a text table
carrying the EMPTY decoration, bare or `texttable.`-prefixed, and that table refuses to render
(`c17_fail_closed`): `noDecoration` error, nothing written, no callback run, `Render` = "". -/
theorem c19_unknown (reg : Registry) (heavy : Decoration) (n : Bytes)
    (hn : n ∉ reg.names) (hdot : NoDot n) :
    (∀ tt, goLower tt = bytesOfString "texttable" →
      resolveStyle reg heavy (tt ++ [46] ++ n) = .text emptyDecoration) ∧
    (goLower n ∉ reservedNames →
      resolveStyle reg heavy n = .text emptyDecoration ∧
      ∀ (x : Ext) (w : World) (core : Nat),
        (World.renderTo x w ((resolveStyle reg heavy n).wrapper core)).2.res
          = .error (.err .noDecoration) ∧
        (World.renderTo x w ((resolveStyle reg heavy n).wrapper core)).2.chunks = [] ∧
        (World.renderTo x w ((resolveStyle reg heavy n).wrapper core)).1 = w ∧
        World.renderString (World.renderTo x w ((resolveStyle reg heavy n).wrapper core)).2
          = ([], some (.err .noDecoration))) := by
  have he : reg.named n = emptyDecoration :=
    named_of_not_mem (fun hm => hn (mem_names.mpr hm))
  refine ⟨?_, ?_⟩
  · intro tt htt
    rw [((c19_alias reg heavy n hdot).1 tt [] htt).1, he]
  · intro hres
    have h1 : resolveStyle reg heavy n = .text emptyDecoration := by
      rw [((c19_alias reg heavy n hdot).2 hres).1, he]
    refine ⟨h1, ?_⟩
    intro x w core
    rw [h1]
    exact (c17_fail_closed reg n x w).2.1 _ rfl rfl

/-- Every listed style that is one of the four renderer names or `Plain` resolves to a format that
does not refuse to render: the renderer of that name, resp. a text table with the non-empty
decoration registered under that name.  (That those renderers then produce a well-formed table is
C05/C06/C07/C08/C03.) -/
theorem c19_listed_ok (reg : Registry) (heavy : Decoration) (s : Bytes)
    (_hs : s ∈ listStyles reg) (hok : Plain reg s ∨ s ∈ formatNames) :
    resolveStyle reg heavy s ≠ .text emptyDecoration ∧
    (Plain reg s → resolveStyle reg heavy s = .text (reg.named s) ∧ (s, reg.named s) ∈ reg) ∧
    (s = bytesOfString "csv" → resolveStyle reg heavy s = .csv) ∧
    (s = bytesOfString "html" → resolveStyle reg heavy s = .html) ∧
    (s = bytesOfString "markdown" → resolveStyle reg heavy s = .markdown) ∧
    (s = bytesOfString "json" → resolveStyle reg heavy s = .json) := by
  have sp := c19_subpackage reg heavy
  have hp : Plain reg s → resolveStyle reg heavy s = .text (reg.named s) ∧ (s, reg.named s) ∈ reg :=
    fun h => ⟨((c19_alias reg heavy s h.1).2 h.2.1).1, mem_of_named_ne_empty h.2.2⟩
  refine ⟨?_, hp, fun e => e ▸ sp.1, fun e => e ▸ sp.2.1, fun e => e ▸ sp.2.2.1, fun e => e ▸ sp.2.2.2.1⟩
  rcases hok with h | h
  · rw [(hp h).1]
    intro e; exact h.2.2 (Format.text.inj e)
  · simp only [formatNames, List.mem_cons, List.not_mem_nil, or_false] at h
    rcases h with rfl | rfl | rfl | rfl
    · rw [sp.1]; exact Format.noConfusion
    · rw [sp.2.1]; exact Format.noConfusion
    · rw [sp.2.2.1]; exact Format.noConfusion
    · rw [sp.2.2.2.1]; exact Format.noConfusion

/-- If every registered entry is plain (dot-free name that does not case-fold to a sub-package
name, non-empty decoration), then EVERY listed style resolves to a format that does not refuse. -/
theorem c19_listed_ok_all (reg : Registry) (heavy : Decoration)
    (hreg : ∀ p ∈ reg, NoDot p.1 ∧ goLower p.1 ∉ reservedNames ∧ p.2 ≠ emptyDecoration)
    (s : Bytes) (hs : s ∈ listStyles reg) :
    (Plain reg s ∨ s ∈ formatNames) ∧ resolveStyle reg heavy s ≠ .text emptyDecoration := by
  have hok : Plain reg s ∨ s ∈ formatNames := by
    rcases ((c19_listing reg).2.2.2.2.2.2.2.1 s).mp hs with h | h
    · have hm := mem_of_mem_keys (mem_names.mp h)
      have := hreg _ hm
      exact .inl ⟨this.1, this.2.1, this.2.2⟩
    · exact .inr h
  exact ⟨hok, (c19_listed_ok reg heavy s hs hok).1⟩

/-! ### non-vacuity, and the recorded findings, on small concrete registries -/

def c19D : Decoration := { horizontal := [45], vertical := [124] }
def c19Heavy : Decoration := { horizontal := [61] }
/-- `[("light", c19D)]` -/
def c19Reg : Registry := [([108, 105, 103, 104, 116], c19D)]

-- `Plain` is satisfiable, and such a name is listed
example : Plain c19Reg [108, 105, 103, 104, 116] :=
  ⟨by decide +kernel, by rw [reservedNames_lit]; decide +kernel, by decide +kernel⟩
example : ([108, 105, 103, 104, 116] : Bytes) ∈ listStyles c19Reg := by rw [listStyles_lit]; decide +kernel
example : ∀ p ∈ c19Reg, NoDot p.1 ∧ goLower p.1 ∉ reservedNames ∧ p.2 ≠ emptyDecoration := by
  rw [reservedNames_lit]; decide +kernel
example : listStyles c19Reg = [bCsv, bHtml, bJson, [108, 105, 103, 104, 116], bMarkdown] := by
  rw [listStyles_lit]; decide +kernel
example : (c19Reg.map Prod.fst).Nodup ∧ ∀ s ∈ formatNames, s ∉ c19Reg.map Prod.fst := by
  rw [formatNames, bytes_csv, bytes_html, bytes_markdown, bytes_json]; decide +kernel
-- `c19_subpackage`: "CsV.x.y" has first section "CsV", which lower-cases to "csv"
example : goLower (firstSection [67, 115, 86, 46, 120, 46, 121]) = bytesOfString "csv" := by
  rw [bytes_csv]; decide +kernel
example : resolveStyle c19Reg c19D [67, 115, 86, 46, 120, 46, 121] = .csv := by
  rw [resolveStyle_lit]; decide +kernel
-- ... and the ASCII variant is pure ASCII, where `goLower` is the ASCII fold
example : (∀ b ∈ ([67, 115, 86] : Bytes), b < 128) ∧ asciiLower [67, 115, 86] = bCsv := by decide +kernel
-- "mar\u212Adown" (KELVIN SIGN, E2 84 AA) folds to "markdown" and selects the markdown renderer, as in Go
example : goLower [109, 97, 114, 0xE2, 0x84, 0xAA, 100, 111, 119, 110] = bytesOfString "markdown" := by
  rw [bytes_markdown]; decide +kernel
example : resolveStyle c19Reg c19D [109, 97, 114, 0xE2, 0x84, 0xAA, 100, 111, 119, 110] = .markdown := by
  rw [resolveStyle_lit]; decide +kernel
-- LONG S (U+017F, C5 BF) does NOT fold to `s`: "c\u017Fv" is an ordinary decoration name
example : goLower [99, 0xC5, 0xBF, 118] = [99, 0xC5, 0xBF, 118] ∧
    resolveStyle c19Reg c19D [99, 0xC5, 0xBF, 118] = .text (c19Reg.named [99, 0xC5, 0xBF, 118]) ∧
    resolveStyle [([99, 0xC5, 0xBF, 118], c19D)] c19Heavy [99, 0xC5, 0xBF, 118] = .text c19D := by
  rw [resolveStyle_lit, resolveStyle_lit]; decide +kernel
-- `c19_alias` / `c19_default`: "TextTable" lower-cases to "texttable"
example : goLower [84, 101, 120, 116, 84, 97, 98, 108, 101] = bytesOfString "texttable" := by
  rw [bytes_texttable]; decide +kernel
example : NoDot [108, 105, 103, 104, 116] ∧ goLower [108, 105, 103, 104, 116] ∉ reservedNames :=
  ⟨by decide +kernel, by rw [reservedNames_lit]; decide +kernel⟩
-- `c19_unknown`: "nope" is not registered, has no dot, is not reserved
example : ([110, 111, 112, 101] : Bytes) ∉ c19Reg.names ∧ NoDot [110, 111, 112, 101] ∧
    goLower [110, 111, 112, 101] ∉ reservedNames :=
  ⟨by decide +kernel, by decide +kernel, by rw [reservedNames_lit]; decide +kernel⟩

/-! #### Recorded findings (D21): listed names outside `Plain` that `auto` cannot reach -/

/-- `[("my.style", c19D)]` -/
def c19KfDotted : Registry := [([109, 121, 46, 115, 116, 121, 108, 101], c19D)]
/-- `[("empty", Decoration{})]` -/
def c19KfEmpty : Registry := [([101, 109, 112, 116, 121], emptyDecoration)]
/-- `[("CSV", c19D)]` -/
def c19KfFold : Registry := [([67, 83, 86], c19D)]
/-- `[("texttable", c19D)]` -/
def c19KfTT : Registry := [([116, 101, 120, 116, 116, 97, 98, 108, 101], c19D)]

/-- KF 1, a dotted registered name: `"my.style"` is listed and bound to a non-empty decoration, but
`auto.New("my.style")` looks up `"my"` and yields a table that refuses to render. -/
example :
    ([109, 121, 46, 115, 116, 121, 108, 101] : Bytes) ∈ listStyles c19KfDotted ∧
    c19KfDotted.named [109, 121, 46, 115, 116, 121, 108, 101] = c19D ∧
    ¬ NoDot [109, 121, 46, 115, 116, 121, 108, 101] ∧
    resolveStyle c19KfDotted c19D [109, 121, 46, 115, 116, 121, 108, 101] = .text emptyDecoration := by
  rw [listStyles_lit, resolveStyle_lit]; decide +kernel

/-- KF 2, a name registered with the empty decoration: `"empty"` is listed, resolves to the empty
decoration and refuses to render. -/
example :
    ([101, 109, 112, 116, 121] : Bytes) ∈ listStyles c19KfEmpty ∧
    NoDot [101, 109, 112, 116, 121] ∧
    resolveStyle c19KfEmpty c19D [101, 109, 112, 116, 121] = .text emptyDecoration := by
  rw [listStyles_lit, resolveStyle_lit]; decide +kernel

/-- KF 3, a registered name that case-folds to a sub-package name: `"CSV"` is listed as a decoration,
but bare `"CSV"` selects the csv renderer while `"texttable.CSV"` selects the decoration: the
documented alias does not hold for it. -/
example :
    ([67, 83, 86] : Bytes) ∈ listStyles c19KfFold ∧
    resolveStyle c19KfFold c19D [67, 83, 86] = .csv ∧
    resolveStyle c19KfFold c19D ([116, 101, 120, 116, 116, 97, 98, 108, 101] ++ [46] ++ [67, 83, 86]) = .text c19D := by
  rw [listStyles_lit, resolveStyle_lit, resolveStyle_lit]; decide +kernel

/-- the same class through the non-ASCII fold: a decoration registered as `"mar\u212Adown"` (KELVIN
SIGN) is listed, but that style string selects the markdown renderer -/
example :
    ([109, 97, 114, 0xE2, 0x84, 0xAA, 100, 111, 119, 110] : Bytes) ∈
      listStyles [([109, 97, 114, 0xE2, 0x84, 0xAA, 100, 111, 119, 110], c19D)] ∧
    resolveStyle [([109, 97, 114, 0xE2, 0x84, 0xAA, 100, 111, 119, 110], c19D)] c19Heavy
      [109, 97, 114, 0xE2, 0x84, 0xAA, 100, 111, 119, 110] = .markdown := by
  rw [listStyles_lit, resolveStyle_lit]; decide +kernel

/-- the same class, with `texttable` itself as the registered name: bare `"texttable"` selects the
default decoration, not the registered one -/
example :
    ([116, 101, 120, 116, 116, 97, 98, 108, 101] : Bytes) ∈ listStyles c19KfTT ∧
    resolveStyle c19KfTT c19Heavy [116, 101, 120, 116, 116, 97, 98, 108, 101] = .text c19Heavy ∧
    c19Heavy ≠ c19D ∧
    c19KfTT.named [116, 101, 120, 116, 116, 97, 98, 108, 101] = c19D := by
  rw [listStyles_lit, resolveStyle_lit]; decide +kernel

/-- and a decoration registered as `"csv"` makes the listing contain `"csv"` twice -/
example : listStyles [(bCsv, c19D)] = [bCsv, bCsv, bHtml, bJson, bMarkdown] := by
  rw [listStyles_lit]; decide +kernel

end Tab
