/-
  E2EcbH — the two history-level corollaries of `Props/E2Ecb.lean`: the pass theorems of
  `Proofs/E2EcbPass.lean` composed with the invariants of histories (`c11h_invariant`, `c12h_nodup`).
  Kept apart from `Props/E2Ecb.lean` because `Props/C11h.lean` (via `Proofs/C11.lean`, `World.Stable`)
  and `Props/C12h.lean` (via `Proofs/C12hDefs.lean`, `PState`) declare names that clash with
  declarations `Props/E2Ecb.lean` imports (`World.Stable` of `Proofs/StableWrap.lean`, `PState` of `Spec/Json.lean`),
  so they cannot be imported into one file with it.
-/
import Tabmodel.Props.C11h
import Tabmodel.Props.C12h
import Tabmodel.Proofs.E2EcbPass
namespace Tab
open World

/-- For the table a `Valid`, `HdrSafe` history built: a render pass with ANY callbacks appends to the
    table's error list exactly the errors its callbacks returned, in firing order. -/
theorem e2ecb_errors_history (dw : Measure) (ops : List BuildOp) (hv : Valid ops = true)
    (hs : HdrSafe ops = true) (t : Nat) (ht : t < (run dw ops).tables.length) :
    ((invokeRenderCallbacks dw (run dw ops) t).table t).errs =
      ((run dw ops).table t).errs ++
        (passSteps (run dw ops) t).filterMap (fun s => raises s.tgt s.cb) := by
  obtain ⟨_, h1, h2⟩ := (c11h_invariant dw ops hv hs).2.1 t ht
  rw [E2Ecb.irc_errs dw _ t t ht, E2Ecb.errTo_attached]
  intro r hr
  unfold passRows at hr
  rcases List.mem_append.mp hr with h | h
  · exact h2 r (by simpa using h)
  · exact h1 r h

/-- The column chains of a table built by any history of well-formed cell values hold one link per
    key: the hypothesis of `e2ecb_props_last_writer` is met by every table the API builds. -/
theorem e2ecb_columns_nodup_history (dw : Measure) (ops : List BuildOp) (hc : CellsOk ops) (t : Nat) :
    ∀ c ∈ ((run dw ops).table t).columns, c.props.keys.Nodup :=
  E2Ecb.columns_nodup fun n => c12h_nodup dw ops hc (.column t n)

end Tab
