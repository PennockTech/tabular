/-
  C03 / C17 / C19 (regenerated fact) — the decorations registered at init, dumped by RUNNING the
  real code on every check (`harness -mode decorations`), with each glyph's width as measured by
  the library's own `length.StringCells`.
-/
import Tabmodel.Generated.Decorations
namespace Tab
open Generated

/-- the glyph fields the text renderer reads -/
def renderGlyphs (d : Decoration) : List Bytes :=
  [d.crossPiece, d.hOuter, d.hRule, d.vHeader, d.vBodyBorder, d.vBodyInner, d.topLeft, d.topRight,
   d.bottomLeft, d.bottomRight, d.leftBodyRule, d.rightBodyRule, d.hTopDown, d.bTopDown, d.bBottomUp,
   d.hBCross, d.hBLeft, d.hBRight]

def measured (g : Bytes) : Option Nat := (glyphWidths.find? (fun p => p.1 == g)).map (·.2)

/-- a complete single-width decoration, by the library's own measure -/
def glyphOKBy (d : Decoration) : Bool := (renderGlyphs d).all (fun g => g != [] && measured g == some 1)

/-- every built-in decoration is either boxless with no glyphs at all, or complete with every
    render glyph non-empty and exactly one display cell wide -/
theorem c03_builtins_complete :
    ∀ p ∈ builtins, (p.2.isBoxless = true ∧ (renderGlyphs p.2).all (· == []) = true) ∨
                    (p.2.isBoxless = false ∧ glyphOKBy p.2 = true) := by decide +kernel

/-- the six documented names are registered (and nothing else is at init) -/
theorem c17_builtin_names :
    builtins.map (·.1) = [[97, 115, 99, 105, 105, 45, 115, 105, 109, 112, 108, 101], [110, 111, 110, 101], [117, 116, 102, 56, 45, 100, 111, 117, 98, 108, 101],
      [117, 116, 102, 56, 45, 104, 101, 97, 118, 121], [117, 116, 102, 56, 45, 108, 105, 103, 104, 116], [117, 116, 102, 56, 45, 108, 105, 103, 104, 116, 45, 99, 117, 114, 118, 101, 100]] := by decide

/-- none of the built-ins is the empty decoration, so every listed built-in style renders -/
theorem c19_builtins_nonempty : ∀ p ∈ builtins, p.2 ≠ emptyDecoration := by decide

/-- texttable's default decoration is the one registered as utf8-heavy -/
theorem c19_default_is_heavy : (builtins.find? (fun p => p.1 == [117, 116, 102, 56, 45, 104, 101, 97, 118, 121])).map (·.2) = some heavy := by decide

/-- built-in names contain no dot (`resolveStyle` splits the style string at dots) -/
theorem c19_builtin_names_plain : ∀ p ∈ builtins, (46 : UInt8) ∉ p.1 := by decide

end Tab
