/-
  C18 — Line and width metrics are mutually consistent.
  `dw` (display cells, go-runewidth) is an arbitrary function: every statement holds for all `dw`.
-/
import Tabmodel.Model.World
import Tabmodel.Proofs.Length
import Tabmodel.Proofs.Clusters
namespace Tab

/-- splitting into lines loses nothing but the line breaks and at most one trailing newline -/
theorem c18_lines_join (s : Bytes) : joinLF (lines s) = s ∨ joinLF (lines s) ++ [LF] = s := by
  rcases lines_cases s with ⟨h, _⟩ | h
  · left; rw [h]; exact joinLF_splitLF s
  · have hj := joinLF_splitLF s
    rw [h] at hj
    by_cases hn : lines s = []
    · left
      rw [hn] at hj ⊢
      simpa [joinLF] using hj
    · right
      rw [joinLF_append_nil_seg hn] at hj
      exact hj

/-- no line contains a line feed -/
theorem c18_lines_noLF (s : Bytes) : ∀ l ∈ lines s, LF ∉ l := by
  intro l hl
  rcases lines_cases s with ⟨h, _⟩ | h
  · exact splitLF_noLF s l (h ▸ hl)
  · exact splitLF_noLF s l (by rw [h]; simp [hl])

/-- the three-way switch of `LongestLineX` (no line / one line / loop) is just the maximum -/
theorem c18_longest_is_max (f : Bytes → Nat) (s : Bytes) : longestLine f s = maxOf f (lines s) := by
  unfold longestLine
  split
  · next h => simp [h, maxOf]
  · next l h => simp [h, maxOf]
  · rfl

/-- ... and the maximum is an upper bound attained by some line (or 0 when there is none) -/
theorem c18_longest_bound (f : Bytes → Nat) (s : Bytes) :
    (∀ l ∈ lines s, f l ≤ longestLine f s) ∧
    (longestLine f s = 0 ∨ ∃ l ∈ lines s, longestLine f s = f l) := by
  rw [c18_longest_is_max]
  exact (foldl_ite_max_spec f (lines s) 0).2

/-- per line (indeed per string) runes never exceed bytes: each decoding step consumes at least a byte -/
theorem c18_runes_le_bytes (s : Bytes) : runeCount s ≤ s.length := runeCountFuel_le _ s

/-- hence the same for the longest-line measures -/
theorem c18_longest_runes_le_bytes (s : Bytes) : longestLine runeCount s ≤ longestLine List.length s := by
  rcases (c18_longest_bound runeCount s).2 with h | ⟨l, hl, h⟩
  · omega
  · rw [h]
    exact Nat.le_trans (c18_runes_le_bytes l) ((c18_longest_bound List.length s).1 l hl)

/-- display cells never exceed twice the runes, for EVERY width measure of go-runewidth's shape:
    the line is cut into clusters of one or more whole runes (`cr s ≥ 1` runes in the first cluster
    of `s`) and each cluster contributes at most 2 cells (`cw s ≤ 2`: the width of one of its runes).
    That go-runewidth has this shape (RuneWidth ≤ 2, one width per grapheme cluster) is the assumption;
    the oracle checks `cells ≤ 2·runes` on every generated line. -/
theorem c18_cells_le_2runes (cr cw : Bytes → Nat) (hcr : ∀ s, 1 ≤ cr s) (hcw : ∀ s, cw s ≤ 2)
    (fuel : Nat) (l : Bytes) : clusterWidth cr cw fuel l ≤ 2 * runeCount l :=
  clusterWidth_le cr cw hcr hcw fuel l

/- non-vacuity: one rune per cluster, CJK lead bytes (E3..E9) are wide -/
example : clusterWidth (fun _ => 1) (fun s => match s with | b :: _ => if 0xE3 ≤ b && b ≤ 0xE9 then 2 else 1 | [] => 0)
    10 [0xe4, 0xb8, 0x96, 0x41] = 3 := by decide

/-- an item that overrides neither size and is not a nested cell -/
def PlainItem (it : Item) : Prop :=
  it.mHeight = none ∧ it.mWidth = none ∧ (∀ s w h e, it.kind ≠ .cell s w h e) ∧ it.kind ≠ .nil

/-- the height `Update` computes for an item that declares none is the number of lines of its text -/
theorem sizeHeight_eq_lines (it : Item) (hH : it.mHeight = none) (str : Bytes) :
    sizeHeight it str = ((lines str).length : Int) := by
  unfold sizeHeight
  rw [hH]
  by_cases hs : str = []
  · subst hs; rfl
  · have hpos := lines_pos str
    have hb : (str == []) = false := by simpa using hs
    simp only [lines_length str hs, hb, Bool.false_eq_true, if_false]
    cases hasSuffixLF str
    · rfl
    · simp only [if_true] at hpos ⊢; omega

/-- … and the width is that of its longest line -/
theorem sizeWidth_eq_longest (dw : Measure) (it : Item) (hW : it.mWidth = none) (str : Bytes) :
    sizeWidth dw it str = (longestLine dw str : Int) := by
  unfold sizeWidth
  rw [hW]
  by_cases hs : str = []
  · subst hs; rfl
  · rw [if_neg (by simpa using hs)]

theorem newCell_plain (dw : Measure) (i : Nat) (it : Item) (hp : PlainItem it) :
    newCell dw i it = { item := i, str := it.switchText, empty := it.switchText == [],
                        width := sizeWidth dw it it.switchText, height := sizeHeight it it.switchText } := by
  obtain ⟨_, _, hcell, hnil⟩ := hp
  unfold newCell Cell.update
  split
  · next h => exact absurd h hnil
  · next s w h e hk => exact absurd hk (hcell s w h e)
  · rfl

/-- for a cell whose item does not override its size: the height is its number of lines … -/
theorem c18_height (dw : Measure) (i : Nat) (it : Item) (hp : PlainItem it) :
    (newCell dw i it).hgt = ((newCell dw i it).lines.length : Int) := by
  rw [newCell_plain dw i it hp]
  simp only [Cell.hgt, Cell.termWidth, Cell.lines, sizeHeight_eq_lines it hp.1,
    sizeWidth_eq_longest dw it hp.2.1]
  generalize it.switchText = str
  cases hl : lines str with
  | nil => simp [longestLine, hl]  -- no line: the longest line measures 0, and `Height` answers 0
  | cons l ls =>
    have : ¬ (((l :: ls).length : Nat) : Int) < 1 := by rw [List.length_cons]; omega
    rw [if_neg this]

/-- … and the width is the longest line's display width -/
theorem c18_width (dw : Measure) (i : Nat) (it : Item) (hp : PlainItem it) :
    (newCell dw i it).termWidth = (longestLine dw (newCell dw i it).str : Int) := by
  rw [newCell_plain dw i it hp]
  simp only [Cell.termWidth, sizeWidth_eq_longest dw it hp.2.1]
  exact if_neg (by omega)

/-- so the layout pass and the emit pass of the text renderer agree: the line array the measuring
    callback allocates has exactly one entry per text line (no override) -/
theorem c18_agree (dw : Measure) (i : Nat) (it : Item) (hp : PlainItem it) :
    match (World.dimProps dw it (newCell dw i it)).2 with
    | .lws l => l.length = (newCell dw i it).lines.length
    | _ => False := by
  have hh := c18_height dw i it hp
  simp only [World.dimProps]
  simp only [List.length_append, List.length_map, List.length_replicate]
  have : ((newCell dw i it).hgt).toNat = (newCell dw i it).lines.length := by rw [hh]; simp
  rw [this]; simp

/- non-vacuity -/
example : PlainItem { kind := .str [97, 10, 98], mString := none, mGoString := none, mError := none,
                      fmtV := [], mHeight := none, mWidth := none, json := none } := by
  refine ⟨rfl, rfl, ?_, ?_⟩ <;> intros <;> simp
example : lines [97, 10, 10] = [[97], []] := by decide
example : joinLF (lines [97, 10, 10]) ++ [LF] = [97, 10, 10] := by decide
example : lines [10] = [[]] := by decide
example : runeCount [0xe4, 0xb8, 0x96, 0xff, 0x41] = 3 := by decide

end Tab
