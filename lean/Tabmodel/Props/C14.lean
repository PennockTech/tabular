/-
  C14 — rendering is repeatable and leaves the table unchanged.

  Hypothesis `LogOnly w t` (Proofs/StableDefs.lean, decidable) is the property's "absent user
  callbacks that themselves fail or mutate": every render-time callback of the table, its
  columns, its header and rows and their cells only logs; the measuring callbacks of texttable
  and markdown may sit (any number of times) in any cell-callback set.
  `Needs w wr`: the measuring callback the renderer of `wr.kind` relies on is registered on the
  core table, which is what `X.Wrap` / `X.New` / `X.Render` do (`wrapEffect`).
  `obs w t` (Proofs/StableDefs.lean): row / column counts, per row the separator flag, cell texts,
  cell locations, every owner's user properties, the table's and the rows' error lists.
-/
import Tabmodel.Proofs.StableWrap
namespace Tab
open World

/-- A render leaves every table of the world as the user sees it: counts, texts, locations,
    user properties, error lists. -/
theorem c14_obs (x : Ext) (w : World) (wr : Wrapper) (hL : LogOnly w wr.core) (t' : Nat) :
    (renderTo x w wr).1.obs t' = w.obs t' :=
  (Stable.render x w wr hL).obs t'

/-- … and the hypotheses themselves survive a render (so the theorems below iterate). -/
theorem c14_hyps_kept (x : Ext) (w : World) (wr : Wrapper) (hL : LogOnly w wr.core) :
    (∀ t, LogOnly w t → LogOnly (renderTo x w wr).1 t) ∧
    (∀ wr', Needs w wr' → Needs (renderTo x w wr).1 wr') :=
  ⟨(Stable.render x w wr hL).logOnly, (Stable.render x w wr hL).needs⟩

/-- Rendering `wr` after any other render `wr'` (any format, any decoration, the same table or
    another one of the same world) emits exactly what rendering `wr` first would have:
    same chunks, same result. -/
theorem c14_repeat (x : Ext) (w : World) (wr wr' : Wrapper) (hL : LogOnly w wr.core)
    (hL' : LogOnly w wr'.core) (hN : Needs w wr) :
    (renderTo x (renderTo x w wr').1 wr).2 = (renderTo x w wr).2 :=
  (Stable.render x w wr' hL').render_eq x wr hL hN

/-- Any finite history of wraps and renders, in any order of formats, decorations and tables,
    leaves every later output equal to what the same render gives on the initial world, and the
    observable table unchanged. -/
theorem c14_sequence (x : Ext) (w : World) (ops : List RenderOp) (hops : ∀ op ∈ ops, op.ok w)
    (wr : Wrapper) (hL : LogOnly w wr.core) (hN : Needs w wr) :
    (renderTo x (ops.foldl (RenderOp.run x) w) wr).2 = (renderTo x w wr).2 ∧
    ∀ t', (ops.foldl (RenderOp.run x) w).obs t' = w.obs t' :=
  ⟨(stable_ops x w ops hops).render_eq x wr hL hN, (stable_ops x w ops hops).obs⟩

/-- The same for the package-level `X.RenderTo(t, …)`, which wraps afresh each time (so measuring
    callbacks accumulate): no `Needs` hypothesis, the table only has to exist. -/
theorem c14_sequence_pkg (x : Ext) (w : World) (ops : List RenderOp) (hops : ∀ op ∈ ops, op.ok w)
    (wr : Wrapper) (hL : LogOnly w wr.core) (ht : wr.core < w.tables.length) :
    (renderTo x ((ops.foldl (RenderOp.run x) w).wrapEffect wr.kind wr.core) wr).2 =
      (renderTo x (w.wrapEffect wr.kind wr.core) wr).2 :=
  (stable_ops x w ops hops).render_pkg_eq x wr hL ht

/-! ### non-vacuity: one table, a header, two rows, a separator, wrapped as text twice and as
    markdown once -/

def exItem (b : UInt8) : Item :=
  { kind := .str [b], mString := none, mGoString := none, mError := none, fmtV := [b],
    mHeight := none, mWidth := none, json := some [34, b, 34] }

def exDw : Measure := List.length

def exWorld : World :=
  let w : World := { items := [exItem 97, exItem 98, exItem 99, exItem 100, exItem 101, exItem 102] }
  let (w, t) := w.newTable
  let w := w.addHeaders exDw t [0, 1]
  let (w, _) := w.addRowItems exDw t [2, 3]
  let w := w.addSeparator t
  let (w, _) := w.addRowItems exDw t [4, 5]
  let w := w.wrapEffect .text t
  let w := w.wrapEffect .text t
  w.wrapEffect .markdown t

def exText : Wrapper := { kind := .text, core := 0, decor := { vHeader := [124] } }
def exMd : Wrapper := { kind := .markdown, core := 0 }
def exCsv : Wrapper := { kind := .csv, core := 0 }

theorem exWorld_logOnly : LogOnly exWorld 0 := by decide

example : LogOnly exWorld 0 := exWorld_logOnly
example : Needs exWorld exText ∧ Needs exWorld exMd ∧ Needs exWorld exCsv := by decide
example : (exWorld.table 0).rows.length = 3 ∧ (exWorld.table 0).header.isSome = true ∧
    (exWorld.table 0).nColumns = 2 ∧ (exWorld.table 0).cellCbs.render = [.dimSetter, .dimSetter, .widthSetter] := by
  decide
/-- the hypotheses of `c14_sequence` hold for a history on the example world -/
example : ∀ op ∈ [RenderOp.render exText, .wrap .markdown 0, .render exCsv, .render exMd, .render exText],
    op.ok exWorld := by
  intro op hop
  simp only [List.mem_cons, List.mem_nil_iff, or_false] at hop
  rcases hop with rfl | rfl | rfl | rfl | rfl
  · exact exWorld_logOnly
  · trivial
  · exact exWorld_logOnly
  · exact exWorld_logOnly
  · exact exWorld_logOnly

end Tab
