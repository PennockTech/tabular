/-
  C16 / C17 (regenerated fact) — shared mutable state.  `Generated.globals` lists every
  package-level variable of every non-test file of /repo with whether any statement outside
  `init` writes it (assigns, takes its address, increments) and, for struct globals, how many of
  its field accesses are lexically outside a Lock/Unlock pair.
-/
import Tabmodel.Generated.Globals
namespace Tab
open Generated

/-- the only package-level variables written after init live in the decoration registry's package:
    building and rendering distinct tables shares no other mutable state -/
theorem c16_globals : ∀ g ∈ globals, g.mutatedOutsideInit = true → g.pkg = "texttable/decoration" := by decide +kernel

/-- such state exists and is the thing the lock discipline below is about (non-vacuity) -/
theorem c16_registry_listed : ∃ g ∈ globals, g.pkg = "texttable/decoration" ∧ g.mutatedOutsideInit = true := by decide +kernel

/-- every use of a package-level variable that is written after init — in `RegisterDecorationName`,
    `Named`, `RegisteredDecorationNames` — is lexically between `Lock()`/`RLock()` and the matching
    `Unlock()` (or a deferred one): a lookup or listing outside the lock shows up as an unguarded use.
    (`fieldAccesses ≥ 1`: there is at least one use to speak of; not `≥ 3`, one per function, since a
    harmless rewrite may route all three through one locked accessor.) -/
theorem c17_lock_discipline :
    ∀ g ∈ globals, g.mutatedOutsideInit = true → g.unguardedAccesses = 0 ∧ g.fieldAccesses ≥ 1 := by decide +kernel

end Tab
