/-
  C06e — C06 clause 3 stated directly: "the text in `th`/`td`, the caption and the attribute values
  entity-decode to exactly the supplied strings" — for the output of `RenderTo` of an HTML wrapper on
  ANY world with ANY callbacks (`e2ecb_html`).

  `c06_skeleton` says the output tokenizes to the literal list `skeleton cfg v` and
  `c06_decode_escape(_nul)` says what decoding an escaped string gives; neither says "the text at the
  position of cell (i, j) decodes to that cell's text".  Here the positions are found by independent
  READERS of the token list (Proofs/C06eSpec.lean; none of them mentions the renderer or `skeleton`).

  `c06e_cell_decodes` (ALL strings): everything read, entity-decoded with `htmlDecode`, is `nulToFFFD` of
  the supplied string — the cell's text, the caption, `Class`, `Id`, the row-class generator's value for
  that row.  `c06e_cell_decodes_exact`: when the supplied strings hold no NUL byte it is exactly the
  supplied string.  `c06e_nul_gap`: the two differ precisely for strings containing NUL (finding D23:
  html/template writes U+FFFD for NUL), so D23 is the whole gap between the clause as worded and what
  holds.  The view `v` is that of the world BEFORE the render's callbacks pass (the texts the history put
  into the table; the pass cannot change them), and `c06e_cell_built` reads them from the row store.

  Optional part (C06 clause 4, "the generator is called once per emitted row"): `htmlBytesSt`, the
  template with a STATEFUL row-class generator `σ → Nat → Bytes × σ` threaded through it, and
  `c06e_rowclass_once`.
-/
import Tabmodel.Props.E2Ecb
import Tabmodel.Proofs.C06eRead
import Tabmodel.Proofs.C06eGen
import Tabmodel.Proofs.C08eCore
namespace Tab
open World hiding CellOK
open C06e

/-- Everything the readers find in the rendered HTML, entity-decoded, is `nulToFFFD` of the string
    that was supplied for that position:
    rows — entry 0 the header cells (none without a header), then one entry per non-separator row of
    the table, each the list of its cells' texts; the caption (absent iff the caption is empty);
    the `<table>` tag's attributes — `class` iff `Class` is non-empty, then `id` iff `Id` is non-empty;
    and the `<tr>` tags' attributes — none without a generator, else exactly one `class` per row whose
    value is the generator's at that row's number (`rowClassArgs v`: 0 for the header, 1-based position
    among ALL rows for body rows). -/
theorem c06e_cell_decodes (x : Ext) (w : World) (wr : Wrapper) (hk : wr.kind = .html) :
    let v := w.view wr.core
    let m := (w.renderTo x wr).2
    let toks := tokenize m.output
    m.res = .ok () ∧
    (htmlReadRows toks).map (·.map htmlDecode) =
      ((v.header.getD []) :: bodyRows v).map (·.map (fun c => nulToFFFD c.text)) ∧
    (htmlReadCaption toks).map htmlDecode =
      (if wr.html.caption != [] then some (nulToFFFD wr.html.caption) else none) ∧
    decodeAttrs (htmlReadTableAttrs toks) =
      (if wr.html.cls != [] then [(attrClass, nulToFFFD wr.html.cls)] else []) ++
      (if wr.html.id != [] then [(attrId, nulToFFFD wr.html.id)] else []) ∧
    (htmlReadRowAttrs toks).map decodeAttrs =
      (rowClassArgs v).map (fun n => match wr.html.rowClass with
        | some f => [(attrClass, nulToFFFD (f n))]
        | none => []) := by
  intro v m toks
  obtain ⟨_, hok, hout, hskel, _⟩ := e2ecb_html x w wr hk
  have htoks : toks = skeleton wr.html v := hskel
  refine ⟨hok, ?_, ?_, ?_, ?_⟩
  · rw [htoks, readRows_skeleton]
    simp only [bodyRows, List.map_map]
    apply List.map_congr_left
    intro cells _
    simp only [Function.comp, List.map_map]
    apply List.map_congr_left
    intro c _
    exact c06_decode_escape_nul c.text
  · rw [htoks, readCaption_skeleton]
    split
    · simp only [Option.map_some, c06_decode_escape_nul]
    · rfl
  · rw [htoks, readTableAttrs_skeleton]
    unfold decodeAttrs
    by_cases hc : wr.html.cls = [] <;> by_cases hi : wr.html.id = [] <;>
      simp [hc, hi, c06_decode_escape_nul]
  · have htr : toks.filter isTrOpen = (rowClassArgs v).map (fun n => .tag (trOpenTag wr.html n)) := by
      show (tokenize m.output).filter isTrOpen = _
      rw [hout]; exact c06_tr_tags wr.html v
    unfold htmlReadRowAttrs
    rw [htr, List.map_map, List.map_map]
    apply List.map_congr_left
    intro n _
    simp only [Function.comp, HTok.body, tagAttrs_trOpen]
    unfold decodeAttrs
    cases wr.html.rowClass with
    | none => rfl
    | some f => simp [c06_decode_escape_nul]

/-- Cell by cell.  Header cell `j` is element `j` of entry 0; cell `j` of the `k`-th non-separator row
    is element `j` of entry `k + 1`; decoded, each is `nulToFFFD` of that cell's text; and there is
    nothing else in those entries (same lengths). -/
theorem c06e_cell_at (x : Ext) (w : World) (wr : Wrapper) (hk : wr.kind = .html) :
    let v := w.view wr.core
    let toks := tokenize (w.renderTo x wr).2.output
    (htmlReadRows toks).length = 1 + (bodyRows v).length ∧
    (∀ (hs : List RCell) (j : Nat) (c : RCell), v.header = some hs → hs[j]? = some c →
      ((htmlReadRows toks)[0]?.bind (·[j]?)).map htmlDecode = some (nulToFFFD c.text)) ∧
    (∀ (k : Nat) (cells : List RCell) (j : Nat) (c : RCell), (bodyRows v)[k]? = some cells → cells[j]? = some c →
      ((htmlReadRows toks)[k + 1]?.bind (·[j]?)).map htmlDecode = some (nulToFFFD c.text)) ∧
    (∀ (k : Nat) (cells : List RCell), ((v.header.getD []) :: bodyRows v)[k]? = some cells →
      ((htmlReadRows toks)[k]?.map List.length) = some cells.length) := by
  intro v toks
  obtain ⟨_, hrows, _⟩ := c06e_cell_decodes x w wr hk
  have key : ∀ (k : Nat) (cells : List RCell) (j : Nat) (c : RCell), ((v.header.getD []) :: bodyRows v)[k]? = some cells →
      cells[j]? = some c →
      ((htmlReadRows toks)[k]?.bind (·[j]?)).map htmlDecode = some (nulToFFFD c.text) :=
    fun k cells j c hkc hjc => elem_of_map_map_eq htmlDecode (fun c => nulToFFFD c.text) _ _ hrows k cells hkc j c hjc
  refine ⟨?_, ?_, ?_, ?_⟩
  · have := congrArg List.length hrows
    simpa [Nat.add_comm] using this
  · intro hs j c hh hj
    exact key 0 hs j c (by simp [hh]) hj
  · intro k cells j c hkc hj
    exact key (k + 1) cells j c (by simpa using hkc) hj
  · intro k cells hkc
    exact length_of_map_map_eq htmlDecode (fun c => nulToFFFD c.text) _ _ hrows k cells hkc

/-- The same against the world's row store: `hr` the header row of the table, source row `k` of
    `hr :: (its non-separator rows, in order)` is row id `r`, whose cell `j` is `ce`: element `j` of
    entry `k` read from the output decodes to `nulToFFFD ce.str`, `ce.str` being the text the build
    history put into that cell. -/
theorem c06e_cell_built (x : Ext) (w : World) (wr : Wrapper) (hk : wr.kind = .html)
    (hr : Nat) (hh : (w.table wr.core).header = some hr) (k r : Nat)
    (hkr : (hr :: (w.table wr.core).rows.filter (fun r => !(w.row r).isSep))[k]? = some r)
    (j : Nat) (ce : Cell) (hce : (w.rowCells r)[j]? = some ce) :
    ((htmlReadRows (tokenize (w.renderTo x wr).2.output))[k]?.bind (·[j]?)).map htmlDecode =
      some (nulToFFFD ce.str) := by
  obtain ⟨hhv, hsrc⟩ := C08e.srcRows_view w wr.core hr hh
  obtain ⟨_, hhead, hbody, _⟩ := c06e_cell_at x w wr hk
  have hkk : (((w.rowCells hr).map w.rcell) :: bodyRows (w.view wr.core))[k]? =
      some ((w.rowCells r).map w.rcell) := by
    rw [hsrc, List.getElem?_map, hkr]; rfl
  have hc : ((w.rowCells r).map w.rcell)[j]? = some (w.rcell ce) := by
    rw [List.getElem?_map, hce]; rfl
  cases k with
  | zero =>
    simp only [List.getElem?_cons_zero, Option.some.injEq] at hkk
    exact hhead _ j _ hhv (by rw [hkk]; exact hc)
  | succ k =>
    exact hbody k _ j _ (by simpa using hkk) hc

/-- The clause as worded, under the hypothesis that makes it true: when no supplied string (cell
    texts, caption, class, id, the generator's values at the rows it is asked for) holds a NUL byte,
    everything read from the output entity-decodes to EXACTLY the supplied string. -/
theorem c06e_cell_decodes_exact (x : Ext) (w : World) (wr : Wrapper) (hk : wr.kind = .html)
    (hcells : ∀ cells ∈ ((w.view wr.core).header.getD []) :: bodyRows (w.view wr.core),
      ∀ c ∈ cells, NulFree c.text)
    (hcap : NulFree wr.html.caption) (hcls : NulFree wr.html.cls) (hid : NulFree wr.html.id)
    (hgen : ∀ f, wr.html.rowClass = some f → ∀ n ∈ rowClassArgs (w.view wr.core), NulFree (f n)) :
    let v := w.view wr.core
    let toks := tokenize (w.renderTo x wr).2.output
    (htmlReadRows toks).map (·.map htmlDecode) = ((v.header.getD []) :: bodyRows v).map (·.map (·.text)) ∧
    (htmlReadCaption toks).map htmlDecode = (if wr.html.caption != [] then some wr.html.caption else none) ∧
    decodeAttrs (htmlReadTableAttrs toks) =
      (if wr.html.cls != [] then [(attrClass, wr.html.cls)] else []) ++
      (if wr.html.id != [] then [(attrId, wr.html.id)] else []) ∧
    (htmlReadRowAttrs toks).map decodeAttrs =
      (rowClassArgs v).map (fun n => match wr.html.rowClass with
        | some f => [(attrClass, f n)]
        | none => []) := by
  intro v toks
  obtain ⟨_, h1, h2, h3, h4⟩ := c06e_cell_decodes x w wr hk
  refine ⟨?_, ?_, ?_, ?_⟩
  · rw [h1]
    apply List.map_congr_left
    intro cells hm
    apply List.map_congr_left
    intro c hc
    exact nulToFFFD_eq_self (hcells cells hm c hc)
  · rw [h2, nulToFFFD_eq_self hcap]
  · rw [h3, nulToFFFD_eq_self hcls, nulToFFFD_eq_self hid]
  · rw [h4]
    apply List.map_congr_left
    intro n hn
    cases hf : wr.html.rowClass with
    | none => rfl
    | some f => simp only; rw [nulToFFFD_eq_self (hgen f hf n hn)]

/-- D23 is exactly the gap: decoding the escaped form of `s` gives back `s` iff `s` holds no NUL byte
    (each NUL comes back as the three bytes of U+FFFD, two bytes longer). -/
theorem c06e_nul_gap (s : Bytes) :
    (htmlDecode (htmlEscape s) = s ↔ NulFree s) ∧
    (nulToFFFD s = s ↔ NulFree s) ∧
    (htmlDecode (htmlEscape s)).length = s.length + 2 * s.count 0 := by
  have h : nulToFFFD s = s ↔ NulFree s := ⟨nulFree_of_nulToFFFD, nulToFFFD_eq_self⟩
  refine ⟨by rw [c06_decode_escape_nul]; exact h, h, by rw [c06_decode_escape_nul]; exact nulToFFFD_length s⟩

/-! ### C06 clause 4 with a STATEFUL generator: called once per emitted row, in order

  `htmlBytesSt cfg gen s₀ v` (Proofs/C06eSpec.lean) is the template with a generator
  `gen : σ → Nat → Bytes × σ` whose state is threaded through in document order; `stepGen gen s₀ args`
  is the specification "step the generator once per element of `args`, in order" (returned values,
  final state). -/

/-- The generator is stepped exactly along `rowClassArgs v` — 0 for the header row, then `i + 1` for
    every non-separator row `rows[i]`, in order, once each, and never for a separator:
    (1) the final state is the state after stepping along `rowClassArgs v`;
    (2) the document is the PURE model's document (`htmlBytes`, about which all of C06 is proved) for
        the function sending each row number to the value returned at that step, so that
    (3) the `<tr…>` tags of the output, in order, carry exactly the returned values, one each;
    (4) instrumenting the generator with a call log changes nothing of the output or of its own
        state, and the log afterwards is literally `rowClassArgs v`. -/
theorem c06e_rowclass_once {σ : Type} (cfg : HtmlCfg) (gen : RowGen σ) (s₀ : σ) (v : RTable) :
    let args := rowClassArgs v
    let run := stepGen gen s₀ args
    (htmlBytesSt cfg gen s₀ v).2 = run.2 ∧
    (htmlBytesSt cfg gen s₀ v).1 = htmlBytes { cfg with rowClass := some (genFun args run.1) } v ∧
    args.map (genFun args run.1) = run.1 ∧
    (tokenize (htmlBytesSt cfg gen s₀ v).1).filter isTrOpen =
      run.1.map (fun c => .tag (bytesOfString "<tr class=\"" ++ htmlEscape c ++ bytesOfString "\">")) ∧
    (htmlBytesSt cfg (logGen gen) (s₀, []) v).1 = (htmlBytesSt cfg gen s₀ v).1 ∧
    (htmlBytesSt cfg (logGen gen) (s₀, []) v).2 = (run.2, args) := by
  intro args run
  have hmap : args.map (genFun args run.1) = run.1 :=
    map_genFun args run.1 (rowClassArgs_nodup v) (stepGen_length gen s₀ args)
  refine ⟨bytesSt_state cfg gen s₀ v, bytesSt_eq cfg gen s₀ v, hmap, ?_, ?_, ?_⟩
  · rw [bytesSt_eq, c06_rowclass_tr_tags]
    conv => rhs; rw [← hmap]
    rw [List.map_map]
    rfl
  · rw [bytesSt_eq, bytesSt_eq, stepGen_log]
  · rw [bytesSt_state, stepGen_log]
    rfl

/-- Agreement with the model: a generator that ignores (and keeps) its state `gen s n = (f n, s)`
    gives exactly the pure model's document for `f`, and the state is untouched. -/
theorem c06e_rowclass_pure {σ : Type} (cfg : HtmlCfg) (f : Nat → Bytes) (gen : RowGen σ)
    (hgen : ∀ s n, gen s n = (f n, s)) (s₀ : σ) (v : RTable) :
    htmlBytesSt cfg gen s₀ v = (htmlBytes { cfg with rowClass := some f } v, s₀) := by
  have hstep : ∀ (ns : List Nat) (s : σ), stepGen gen s ns = (ns.map f, s) := by
    intro ns
    induction ns with
    | nil => intro s; rfl
    | cons n ns ih => intro s; rw [stepGen_cons, hgen]; simp [ih]
  apply Prod.ext
  · rw [bytesSt_eq, hstep]
    exact c06_rowclass_calls _ _ _ _
      (List.map_inj_left.mp (map_genFun _ _ (rowClassArgs_nodup v) (by simp)))
  · rw [bytesSt_state, hstep]

/-- Through `RenderTo`: on any world, the HTML wrapper whose (pure) row-class function is the one the
    stateful generator induces writes exactly the stateful template's document for the view of the
    world before the pass. -/
theorem c06e_rowclass_render {σ : Type} (x : Ext) (w : World) (wr : Wrapper) (hk : wr.kind = .html)
    (gen : RowGen σ) (s₀ : σ) :
    let v := w.view wr.core
    let F := genFun (rowClassArgs v) (stepGen gen s₀ (rowClassArgs v)).1
    (w.renderTo x { wr with html := { wr.html with rowClass := some F } }).2.output =
      (htmlBytesSt wr.html gen s₀ v).1 := by
  intro v F
  obtain ⟨_, _, hout, _⟩ := e2ecb_html x w { wr with html := { wr.html with rowClass := some F } } hk
  rw [hout, bytesSt_eq]

/-! ### non-vacuity -/

namespace C06eExample
open E2EcbExample

/-- the hostile configuration of Props/C06.lean on the table built by `cbOps` (callbacks that set
    properties and fail; headers `a b`, rows `c d`, separator, `e`) -/
def wrH : Wrapper := { kind := .html, core := 0, html := c06ExCfg }

example := c06e_cell_decodes e2eX cbW wrH rfl
example := c06e_cell_at e2eX cbW wrH rfl
-- the texts of the built table, read back from the rendered bytes
example : (htmlReadRows (tokenize (cbW.renderTo e2eX wrH).2.output)).map (·.map htmlDecode) =
    [[[97], [98]], [[99], [100]], [[101]]] := by
  rw [(c06e_cell_decodes e2eX cbW wrH rfl).2.1]; decide +kernel
-- `c06e_cell_built`: source row 2 is row id 3, whose cell 0 holds `e`
example : ∃ ce, (cbW.rowCells 3)[0]? = some ce ∧ ce.str = [101] ∧
    ((htmlReadRows (tokenize (cbW.renderTo e2eX wrH).2.output))[2]?.bind (·[0]?)).map htmlDecode =
      some (nulToFFFD ce.str) := by
  obtain ⟨ce, hce, hs⟩ : ∃ ce, (cbW.rowCells 3)[0]? = some ce ∧ ce.str = [101] := by decide +kernel
  exact ⟨ce, hce, hs, c06e_cell_built e2eX cbW wrH rfl 0 (by decide +kernel) 2 3 (by decide +kernel) 0 ce hce⟩

-- the readers evaluated on the hostile view of Props/C06.lean, a NUL added to one header cell:
-- the NUL cell decodes to U+FFFD, every other cell to its text
def nulView : RTable :=
  { c06ExView with header := some [{ text := [97, 0, 60] }, { text := bytesOfString "&lt;" }] }

example : (htmlReadRows (skeleton c06ExCfg nulView)).map (·.map htmlDecode) =
    [[[97, 0xEF, 0xBF, 0xBD, 60], [38, 108, 116, 59]],
     [[60, 115, 99, 114, 105, 112, 116, 62], [], [97, 38, 97, 109, 112, 59, 43]], [], [[39, 113, 34]]] := by
  unfold skeleton rowToks cellToks textTok tableOpenTag trOpenTag attrBytes htmlEscape htmlEscByte
    nulView c06ExCfg c06ExView htmlReadRows
  simp only [bytesOfString, ByteArray_toList]
  decide +kernel
example : htmlReadCaption (skeleton c06ExCfg nulView) =
    some (bytesOfString "&lt;script&gt;x&lt;/script&gt;&amp;lt;") := by
  rw [readCaption_skeleton]
  unfold htmlEscape htmlEscByte c06ExCfg
  simp only [bytesOfString, ByteArray_toList]
  decide +kernel
example : tagAttrs (bytesOfString "<table class=\"a&lt;b id=\" id=\"t&#34;1\">") =
    [(attrClass, bytesOfString "a&lt;b id="), (attrId, bytesOfString "t&#34;1")] := by
  simp only [bytesOfString, ByteArray_toList]; decide +kernel
example : attrClass = bytesOfString "class" ∧ attrId = bytesOfString "id" := by
  simp only [bytesOfString, ByteArray_toList]; decide +kernel

-- `c06e_cell_decodes_exact`: every string supplied here is NUL-free
example := c06e_cell_decodes_exact e2eX cbW wrH rfl (by decide +kernel)
  (by unfold wrH c06ExCfg; simp only [bytesOfString, ByteArray_toList]; decide +kernel)
  (by unfold wrH c06ExCfg; simp only [bytesOfString, ByteArray_toList]; decide +kernel)
  (by unfold wrH c06ExCfg; simp only [bytesOfString, ByteArray_toList]; decide +kernel)
  (by
    intro f hf n hn
    have hargs : rowClassArgs (cbW.view wrH.core) = [0, 1, 3] := by decide +kernel
    rw [hargs] at hn
    have hf' : f = fun n => if n = 0 then bytesOfString "h\"><i>" else [114, 48 + n.toUInt8] :=
      (Option.some.inj hf).symm
    subst hf'
    simp only [List.mem_cons, List.not_mem_nil, or_false] at hn
    rcases hn with rfl | rfl | rfl <;> simp only [bytesOfString, ByteArray_toList] <;> decide +kernel)
-- … and `c06e_nul_gap` on a string that is not
example : ¬ NulFree [97, 0, 60] ∧ htmlDecode (htmlEscape [97, 0, 60]) ≠ [97, 0, 60] :=
  ⟨by decide, fun h => absurd ((c06e_nul_gap [97, 0, 60]).1.mp h) (by decide)⟩

-- a stateful generator: a flip-flop (the use case named in html.go's doc comment): the state is a
-- Bool, the argument is ignored; rows get `o`, `e`, `o` although their numbers are 0, 1, 3, 4
def flip : RowGen Bool := fun s _ => (if s then [101] else [111], !s)
example : stepGen flip false (rowClassArgs c06ExView) = ([[111], [101], [111], [101]], false) := by decide
example := c06e_rowclass_once c06ExCfg flip false c06ExView
example : (htmlBytesSt c06ExCfg (logGen flip) (false, []) c06ExView).2 = (false, [0, 1, 3, 4]) := by
  rw [(c06e_rowclass_once c06ExCfg flip false c06ExView).2.2.2.2.2]; decide
-- `c06e_rowclass_pure`: a generator that keeps its state
example : ∀ (s : Nat) (n : Nat), (fun s n => (([114, 48 + n.toUInt8] : Bytes), s)) s n =
    ((fun n => [114, 48 + n.toUInt8]) n, s) := fun _ _ => rfl

end C06eExample

end Tab
