/-
  C09t — C09 ("every renderer is total"), text renderer: total for EVERY decoration value.

  `commonRenderedLine` (texttable/decoration/emit.go) touches the last field only when there is one (the
  repair of finding D28; model: `fields.dropLast` in `renderedLine`), so a table with no columns and a
  decoration with an inner body divider but no body border — a value only a hand-assembled,
  never-`Populate`d decoration can have — is rendered like any other.  The theorems
  `renderTextBody_no_panic`, `c09_total*`, `c09h_no_panic*` carry a hypothesis on the decoration (`DivsOK`,
  `DecorTotal`, `DecorTotalH`: body dividers all present or all absent) that their proofs do not use; here
  are the same statements without it.

  What remains necessary, and is kept: `Valid` (shape of the view, C02), `CellsOk` and `AlignValuesOK`
  (alignment values within {unset, left, right, centre}: an unhandled alignment value still makes
  `WithinWidthAligned` panic — `C09hExample.bad3`, and the last example below for one line).

  Import note: on the `Props/C12h.lean` side of the `PState` clash (see Props/C09h.lean); `Props/C10.lean`
  (`autoRender`, `pkgRender`) is importable from this side, so no second module is needed.
-/
import Tabmodel.Props.C09h
import Tabmodel.Props.C10
import Tabmodel.Proofs.RegStyle
namespace Tab
open World C09h

/-- One content line (`commonRenderedLine`) is produced — no error, no panic — for ALL left / inner /
    right dividers (any of them empty or not, in any combination, with or without columns), as soon as
    the two per-column indexings are in range and every alignment value is a handled one
    (0 = nil, 1 = left, 2 = right, 3 = centre). -/
theorem c09t_rendered_line_total (L I R : Bytes) (cw : List Nat) (parts : List WidthString) (aligns : List Nat)
    (hparts : cw.length ≤ parts.length) (hal : cw.length ≤ aligns.length) (hal3 : ∀ a ∈ aligns, a ≤ 3) :
    ∃ b, renderedLine L I R cw parts aligns = .ok b :=
  renderedLine_total L I R cw parts aligns hparts hal hal3

/-- The text renderer proper (`TextTable.RenderTo` after the empty-decoration check and the callbacks
    pass) returns `.ok ()` for EVERY decoration `d` on every well-shaped view whose alignment values
    are unset / left / right / centre: zero-column views, header-less views, negative laid-out widths
    and never-measured cells included.  No `DivsOK` / `DecorTotal` hypothesis. -/
theorem c09t_text_body_total (d : Decoration) (v : RTable) (hs : WFShape v) (ha : AlignOK v) :
    (renderTextBody d v).res = .ok () :=
  renderTextBody_total d v hs ha

/-- … in particular it never panics (and never returns an error either). -/
theorem c09t_text_body_no_panic (d : Decoration) (v : RTable) (hs : WFShape v) (ha : AlignOK v) :
    (∀ site, (renderTextBody d v).res ≠ .error (.panic site)) ∧
    (∀ e, (renderTextBody d v).res ≠ .error (.err e)) := by
  rw [c09t_text_body_total d v hs ha]
  exact ⟨fun _ h => (nomatch h), fun _ h => (nomatch h)⟩

/-- From any world satisfying the structural invariant (every valid history, and everything reachable
    from one by further renders and wraps), given `AlignOK` of the view after the pass: no panic, for
    every wrapper kind, every table id and EVERY decoration. -/
theorem c09t_no_panic_inv (x : Ext) (w : World) (hinv : Inv w) (wr : Wrapper)
    (ha : AlignOK ((invokeRenderCallbacks x.dw w wr.core).view wr.core)) :
    ∀ site, (w.renderTo x wr).2.res ≠ .error (.panic site) :=
  total_inv_any x w hinv wr ha

/-- C09, history level, every decoration: for every valid build history of well-formed cell values
    whose alignment values are within the domain, every wrapper kind, every table id and EVERY value of
    `wr.decor`, the outcome of `RenderTo` is never a panic, whatever callbacks are registered.
    (`c09h_no_panic` without its hypothesis `hd`.) -/
theorem c09t_no_panic (x : Ext) (ops : List BuildOp) (hv : Valid ops = true) (hc : CellsOk ops)
    (ha : AlignValuesOK ops) (wr : Wrapper) :
    ∀ site, ((run x.dw ops).renderTo x wr).2.res ≠ .error (.panic site) :=
  total_inv_any x (run x.dw ops) (c02_inv_run x.dw ops hv) wr (c09h_alignok x.dw ops hc ha wr.core)

/-- What a text wrapper does instead, exactly: with the all-empty decoration value (an unknown style
    name resolves to it) `RenderTo` is refused with the `noDecoration` ERROR, nothing is written and no
    callback runs; with ANY other decoration value it returns `.ok ()`. -/
theorem c09t_text_outcome (x : Ext) (ops : List BuildOp) (hv : Valid ops = true) (hc : CellsOk ops)
    (ha : AlignValuesOK ops) (wr : Wrapper) (hk : wr.kind = .text) :
    (wr.decor = emptyDecoration →
      ((run x.dw ops).renderTo x wr).2.res = .error (.err .noDecoration) ∧
      ((run x.dw ops).renderTo x wr).2.chunks = [] ∧ ((run x.dw ops).renderTo x wr).1 = run x.dw ops) ∧
    (wr.decor ≠ emptyDecoration → ((run x.dw ops).renderTo x wr).2.res = .ok ()) :=
  text_outcome x (run x.dw ops) (c02_inv_run x.dw ops hv) wr hk (c09h_alignok x.dw ops hc ha wr.core)

/-- `Render()` on such a table, any wrapper, any decoration: either the complete text and no error, or
    the empty string and an error that is not a panic. -/
theorem c09t_render_empty_on_error (x : Ext) (ops : List BuildOp) (hv : Valid ops = true) (hc : CellsOk ops)
    (ha : AlignValuesOK ops) (wr : Wrapper) :
    let m := ((run x.dw ops).renderTo x wr).2
    (m.res = .ok () ∧ renderString m = (m.output, none)) ∨
    (∃ e, m.res = .error (.err e) ∧ renderString m = ([], some (.err e))) :=
  C09h.render_empty_on_error _ (c09t_no_panic x ops hv hc ha wr)

/-- "`X.Wrap(t)`, then `RenderTo`": one more wrapper of any kind `k` around any table `t` of the built
    world (the measuring callback it registers is a history step: `wrapOps`), then rendering through
    ANY wrapper value — any kind, any core table, any decoration — never panics. -/
theorem c09t_wrapped_any (x : Ext) (ops : List BuildOp) (hv : Valid ops = true) (hc : CellsOk ops)
    (ha : AlignValuesOK ops) (k : WKind) (t : Nat) (wr : Wrapper) :
    ∀ site, (((run x.dw ops).wrapEffect k t).renderTo x wr).2.res ≠ .error (.panic site) := by
  rw [← run_wrapOps]
  exact c09t_no_panic x (ops ++ wrapOps k t) (by rw [valid_wrapOps]; exact hv)
    (cellsOk_wrapOps ops hc k t) (alignValuesOK_wrapOps ops ha k t) wr

/-- `auto` and the package-level functions.  For EVERY registry `reg` — any names bound to any
    decoration values, e.g. hand-assembled, never-populated ones registered by the application —, every
    default decoration `heavy`, every style string (listed or not, dotted or not, resolving to whatever
    it resolves to) and every table id: `auto.RenderTo(t, style)` on the world of such a history never
    panics; nor does the package-level `X.RenderTo(t)` of any sub-package `k`. -/
theorem c09t_registered_any (x : Ext) (reg : Registry) (heavy : Decoration) (ops : List BuildOp)
    (hv : Valid ops = true) (hc : CellsOk ops) (ha : AlignValuesOK ops) (t : Nat) :
    (∀ (style : Bytes) site,
      (World.autoRender x reg heavy (run x.dw ops) t style).2.res ≠ .error (.panic site)) ∧
    (∀ (k : WKind) site,
      (World.pkgRender x heavy (run x.dw ops) k t).2.res ≠ .error (.panic site)) :=
  ⟨fun style site => c09t_wrapped_any x ops hv hc ha _ t (autoWrapper reg heavy style t) site,
   fun k site => c09t_wrapped_any x ops hv hc ha k t (defaultWrapper heavy k t) site⟩

/-- … and when the style resolves to the text renderer with a decoration `d`, the outcome is: the
    `noDecoration` error (nothing written) iff `d` is the all-empty value, `.ok ()` for any other `d`. -/
theorem c09t_registered_text_ok (x : Ext) (reg : Registry) (heavy : Decoration) (ops : List BuildOp)
    (hv : Valid ops = true) (hc : CellsOk ops) (ha : AlignValuesOK ops) (t : Nat) (style : Bytes)
    (d : Decoration) (hr : resolveStyle reg heavy style = .text d) :
    (d = emptyDecoration →
      (World.autoRender x reg heavy (run x.dw ops) t style).2.res = .error (.err .noDecoration) ∧
      (World.autoRender x reg heavy (run x.dw ops) t style).2.chunks = []) ∧
    (d ≠ emptyDecoration → (World.autoRender x reg heavy (run x.dw ops) t style).2.res = .ok ()) := by
  rw [c10_paths_auto, hr]
  simp only []
  rw [← run_wrapOps]
  have h := c09t_text_outcome x (ops ++ wrapOps .text t) (by rw [valid_wrapOps]; exact hv)
    (cellsOk_wrapOps ops hc .text t) (alignValuesOK_wrapOps ops ha .text t)
    { kind := .text, core := t, decor := d } rfl
  exact ⟨fun he => ⟨(h.1 he).1, (h.1 he).2.1⟩, h.2⟩

/-! ### non-vacuity -/

namespace C09tExample
open TextTotalExample

/-- a width string -/
def ws (b : UInt8) : WidthString := { s := [b], w := 1 }

-- `c09t_rendered_line_total`: inner divider only, NO column (the repaired case: the line is empty) …
example := c09t_rendered_line_total [] [124] [] [] [] [] (Nat.le_refl _) (Nat.le_refl _) (by simp)
example : renderedLine [] [124] [] [] [] [] = .ok [10] := by rfl
-- … inner and right divider only, no column: the right border alone
example : renderedLine [] [124] [35] [] [] [] = .ok [35, 10] := by rfl
-- … and with two columns, left-less: `a | b` (the trailing inner divider is dropped)
example := c09t_rendered_line_total [] [124] [] [1, 1] [ws 97, ws 98] [0, 2] (by simp) (by simp) (by simp)
example : renderedLine [] [124] [] [1, 1] [ws 97, ws 98] [0, 2] = .ok [97, 32, 124, 32, 98, 10] := by rfl
/-- the alignment hypothesis is a real one: an unhandled alignment value panics -/
example : renderedLine [] [124] [] [1] [ws 97] [4] = .error (.panic "unhandled alignment") := by rfl

-- `c09t_text_body_total`, the zero-column view explicitly: the hand-assembled decoration with an inner
-- body divider and no body border (not `DivsOK`: Proofs/TextTotal.lean), the all-empty value, the
-- boxless one, a populated one
example : (renderTextBody partialDeco zeroView).res = .ok () := c09t_text_body_total _ _ zero_wf zero_al
example : (renderTextBody emptyDecoration zeroView).res = .ok () := c09t_text_body_total _ _ zero_wf zero_al
example : (renderTextBody boxless zeroView).res = .ok () := c09t_text_body_total _ _ zero_wf zero_al
example : (renderTextBody ascii zeroView).res = .ok () := c09t_text_body_total _ _ zero_wf zero_al
example := c09t_text_body_no_panic partialDeco zeroView zero_wf zero_al
/-- what it writes: rule lines of the two (empty) corner glyphs, i.e. bare newlines, and empty content
    lines for the header, the two rows (the separator is a rule) -/
example : (renderTextBody partialDeco zeroView).output = [10, 10, 10, 10, 10, 10, 10] := by decide
/-- the other lopsided combination (a body border, no inner divider) on zero columns -/
example : (renderTextBody { vBodyBorder := [124] } zeroView).res = .ok () :=
  c09t_text_body_total _ _ zero_wf zero_al

/-- a ZERO-COLUMN table built through the API: a header with zero cells, a row with zero cells, a
    separator, another empty row; wrapped as text -/
def zops : List BuildOp :=
  [ .newTable, .addHeaders 0 [], .addRowItems 0 [], .addSeparator 0, .addRowItems 0 [] ] ++ wrapOps .text 0

def x : Ext := C09hExample.x

theorem c09t_ex_valid : Valid zops = true := by decide +kernel
theorem c09t_ex_cells : CellsOk zops := by decide +kernel
theorem c09t_ex_align : AlignValuesOK zops := by decide +kernel

example : ((run x.dw zops).view 0).ncols = 0 := by decide +kernel

-- `c09t_no_panic` on it with the hand-assembled decoration — which `c09h_no_panic` does not cover
example := c09t_no_panic x zops c09t_ex_valid c09t_ex_cells c09t_ex_align { kind := .text, core := 0, decor := partialDeco }
example : ¬ DecorTotalH partialDeco := by
  rintro (⟨h, _, _⟩ | ⟨_, h, _⟩)
  · exact h rfl
  · cases h
example : ((run x.dw zops).renderTo x { kind := .text, core := 0, decor := partialDeco }).2.res = .ok () :=
  (c09t_text_outcome x zops c09t_ex_valid c09t_ex_cells c09t_ex_align { kind := .text, core := 0, decor := partialDeco } rfl).2
    (by decide)
example : ((run x.dw zops).renderTo x { kind := .text, core := 0, decor := partialDeco }).2.output =
    [10, 10, 10, 10, 10, 10, 10] := by decide +kernel
-- … the empty decoration is refused with an error
example : ((run x.dw zops).renderTo x { kind := .text, core := 0 }).2.res = .error (.err .noDecoration) :=
  ((c09t_text_outcome x zops c09t_ex_valid c09t_ex_cells c09t_ex_align { kind := .text, core := 0 } rfl).1 rfl).1
-- … every other kind, and a table id that does not exist
example := c09t_no_panic x zops c09t_ex_valid c09t_ex_cells c09t_ex_align { kind := .csv, core := 0 }
example := c09t_no_panic x zops c09t_ex_valid c09t_ex_cells c09t_ex_align { kind := .text, core := 5, decor := partialDeco }
example := c09t_render_empty_on_error x zops c09t_ex_valid c09t_ex_cells c09t_ex_align
  { kind := .text, core := 0, decor := partialDeco }
example := c09t_no_panic_inv x (run x.dw zops) (c02_inv_run x.dw zops c09t_ex_valid)
  { kind := .text, core := 0, decor := partialDeco } (c09h_alignok x.dw zops c09t_ex_cells c09t_ex_align 0)
-- … and on the example history of Props/C09h.lean (callbacks of every sort, a ragged row)
example := c09t_no_panic C09hExample.x C09hExample.ops C09hExample.c09h_ex_valid C09hExample.c09h_ex_cells
  C09hExample.c09h_ex_align { kind := .text, core := 0, decor := partialDeco }

/-- a registry holding hand-assembled, never-populated decorations under application-chosen names:
    `"p"` ↦ inner body divider only, `"e"` ↦ the all-empty value, `"b"` ↦ boxless -/
def reg : Registry :=
  Registry.register (Registry.register (Registry.register [] [112] partialDeco) [101] emptyDecoration) [98] boxless

-- `c09t_wrapped_any`, `c09t_registered_any`
example := c09t_wrapped_any x zops c09t_ex_valid c09t_ex_cells c09t_ex_align .markdown 0
  { kind := .text, core := 0, decor := partialDeco }
example := c09t_registered_any x reg Generated.heavy zops c09t_ex_valid c09t_ex_cells c09t_ex_align 0
theorem c09t_ex_reg_p : resolveStyle reg Generated.heavy [112] = .text partialDeco := by rw [resolveStyle_lit]; decide
theorem c09t_ex_reg_e : resolveStyle reg Generated.heavy [101] = .text emptyDecoration := by rw [resolveStyle_lit]; decide
example : (World.autoRender x reg Generated.heavy (run x.dw zops) 0 [112]).2.res = .ok () :=
  (c09t_registered_text_ok x reg Generated.heavy zops c09t_ex_valid c09t_ex_cells c09t_ex_align 0 [112] partialDeco c09t_ex_reg_p).2 (by decide)
example : (World.autoRender x reg Generated.heavy (run x.dw zops) 0 [101]).2.res = .error (.err .noDecoration) :=
  ((c09t_registered_text_ok x reg Generated.heavy zops c09t_ex_valid c09t_ex_cells c09t_ex_align 0 [101] emptyDecoration c09t_ex_reg_e).1 rfl).1
-- the default decoration itself may be a hand-assembled one (`texttable`, no style name)
example : (match (World.pkgRender x partialDeco (run x.dw zops) .text 0).2.res with
    | .ok _ => true | .error _ => false) = true := by decide +kernel

end C09tExample

end Tab
