/-
  C09 — Every renderer is total: it never panics, and failure is an error with no text.

  Assembly of the per-renderer totality theorems with the structural invariant of C02: for EVERY
  valid build history (tables with no rows, no header, an empty header, zero-cell rows, ragged rows,
  rows extended after attach, separators anywhere, items whose declared sizes disagree with their
  text) and every renderer, the outcome is never a panic.
-/
import Tabmodel.Props.C07
import Tabmodel.Proofs.C09hTotal
import Tabmodel.Proofs.TextTotal
namespace Tab

/-- what a decoration must satisfy for the text renderer to be total on every shape, including
    zero columns: its body dividers are all present or all absent (true of every built-in and of
    every Populate-completed decoration: `builtins_divsOK`, `divsOK_populate`) -/
def DecorTotal (d : Decoration) : Prop := DivsOK d.vBodyBorder d.vBodyInner d.vBodyBorder

/-- per renderer, on any view the invariant can produce -/
theorem c09_view_total (x : Ext) (wr : Wrapper) (v : RTable)
    (hs : WFShape v) (hlen : v.colAlign.length = v.ncols + 1) (ha : AlignOK v) (hd : DecorTotal wr.decor) :
    ∀ site,
      (match wr.kind with
       | .csv => (renderCsv v).res
       | .json => (renderJson x.js v).res
       | .markdown => (renderMarkdown x.dw v).res
       | .html => (renderHtml wr.html v).res
       | .text => (renderTextBody wr.decor v).res) ≠ .error (.panic site) := by
  intro site
  cases wr.kind with
  | csv => exact c05_no_panic v site
  | json => exact c07_no_panic x.js v site
  | markdown => exact c08_no_panic x.dw v (alignsOK_of_alignOK v hlen ha) site
  | html => exact nofun
  | text =>
    show (renderTextBody wr.decor v).res ≠ _
    rw [renderTextBody_no_panic wr.decor v hs ha (divsOK_same _) hd]
    exact nofun

/-- the same from any world satisfying the invariant (e.g. after further renders); `ht` is not needed, and
    `hd` is the hypothesis of `renderTextBody_no_panic`, which `renderTextBody_total` (hence
    `C09h.total_inv_any`) does without -/
theorem c09_total_inv (x : Ext) (w : World) (hinv : Inv w) (wr : Wrapper) (ht : wr.core < w.tables.length)
    (ha : AlignOK ((World.invokeRenderCallbacks x.dw w wr.core).view wr.core)) (hd : DecorTotal wr.decor) :
    ∀ site, (w.renderTo x wr).2.res ≠ .error (.panic site) :=
  have _ := ht; have _ := hd
  C09h.total_inv_any x w hinv wr ha

/-- C09: every world reachable by a valid build history renders without panic through every
    wrapper kind and any total decoration, provided alignment settings are within their domain -/
theorem c09_total (x : Ext) (ops : List BuildOp) (hv : Valid ops = true) (wr : Wrapper)
    (ht : wr.core < (run x.dw ops).tables.length)
    (ha : AlignOK ((World.invokeRenderCallbacks x.dw (run x.dw ops) wr.core).view wr.core))
    (hd : DecorTotal wr.decor) :
    ∀ site, ((run x.dw ops).renderTo x wr).2.res ≠ .error (.panic site) :=
  c09_total_inv x (run x.dw ops) (c02_inv_run x.dw ops hv) wr ht ha hd

/-- when Render returns an error the returned string is empty — for every renderer and world -/
theorem c09_render_empty (m : Emit Unit) (s : Stop) (h : m.res = .error s) :
    (World.renderString m).1 = [] ∧ (World.renderString m).2 = some s := by
  unfold World.renderString; rw [h]; exact ⟨rfl, rfl⟩

/-- … and complete output otherwise -/
theorem c09_render_complete (m : Emit Unit) (h : m.res = .ok ()) :
    World.renderString m = (m.output, none) := by
  unfold World.renderString; rw [h]

/-- every built-in decoration and every Populate-completed custom decoration is total -/
theorem c09_builtins_total : ∀ p ∈ Generated.builtins, DecorTotal p.2 :=
  fun p hp => (divsOKb_sound p.2 (builtins_divsOK p hp)).2

theorem c09_populated_total (d : Decoration) : DecorTotal d.populate := (divsOK_populate d).2

/-- the empty decoration (unknown style) is refused before anything else, also without panic -/
theorem c09_no_decoration (x : Ext) (w : World) (wr : Wrapper) (hk : wr.kind = .text)
    (he : wr.decor = emptyDecoration) : (w.renderTo x wr).2.res = .error (.err .noDecoration) := by
  rw [World.renderTo_noDecoration x w wr hk he]; rfl

/- non-vacuity: the example history of C02 is valid, and the hypotheses hold on it -/
example : DecorTotal ({} : Decoration).populate := c09_populated_total _
example : DecorTotal emptyDecoration := Or.inr ⟨rfl, rfl, rfl⟩

end Tab
